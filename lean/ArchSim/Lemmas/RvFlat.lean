/-
The flat data memory system `MemSys.flat m`, with no hypothesis on the configuration or the contents of `m`: a read
hands the memory back as it was and costs nothing; a write costs nothing and leaves `.flat (applyOp m …)` whatever its
outcome, so what C18 says of `applyOp` (configuration, `WF`) holds of the memory after a store.
-/
import ArchSim.Model.Rv
import ArchSim.Spec.ByteStore

namespace ArchSim.Rv
open ArchSim.Spec.ByteStore (applyOp)

def flatRead (m : Mem.Mem) (bits : Nat) (a : Int) : Except Cache.Err Nat :=
  match Mem.read m bits a with
  | none => .error .unsupported
  | some r => Cache.liftMem r

theorem read_flat_eq_flatRead (m : Mem.Mem) (bits : Nat) (a : Int) (c : Bool) :
    (MemSys.flat m).read bits a c = { mem := .flat m, res := flatRead m bits a, extra := 0 } := by
  simp only [MemSys.read, flatRead]
  split <;> simp_all

theorem read_flat_mem (m : Mem.Mem) (bits : Nat) (a : Int) (c : Bool) :
    ((MemSys.flat m).read bits a c).mem = .flat m := by
  rw [read_flat_eq_flatRead]

theorem read_flat_extra (m : Mem.Mem) (bits : Nat) (a : Int) (c : Bool) :
    ((MemSys.flat m).read bits a c).extra = 0 := by
  rw [read_flat_eq_flatRead]

/-- `Mem.read` cuts what it returns to `bits` bits. -/
theorem flatRead_lt (m : Mem.Mem) (bits : Nat) (a : Int) (v : Nat) (h : flatRead m bits a = .ok v) :
    v < 2 ^ bits := by
  unfold flatRead Mem.read at h
  split at h
  · cases h
  · rename_i r hr
    split at hr
    · cases hr
    · simp only [Option.some.injEq] at hr
      subst hr
      cases hrn : Mem.readN m a (Mem.cellsOf m.cfg bits) with
      | error e => simp [hrn, Except.map, Cache.liftMem] at h
      | ok w =>
        simp only [hrn, Except.map, Cache.liftMem, Except.ok.injEq] at h
        subst h
        exact Nat.mod_lt _ (Nat.pos_of_ne_zero (by simp))

theorem write_flat_mem (m : Mem.Mem) (bits : Nat) (a : Int) (v : Nat) (d : Bool) :
    ((MemSys.flat m).write bits a v d).mem = .flat (applyOp m (.write bits a v)) := by
  simp only [MemSys.write, applyOp]
  rcases Mem.write m bits a v with _ | ⟨m', _ | e⟩ <;> rfl

end ArchSim.Rv
