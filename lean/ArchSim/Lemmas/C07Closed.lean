/-
Closed forms for single cycles in explicit configurations — the detection cycle and a bubble cycle of a decode interlock,
the detection cycle and a stalled cycle of the ecall drain — each an instance of `step_quiet` with the stall pick-up
computed.
-/
import ArchSim.Lemmas.C07Finish

namespace ArchSim.Lemmas.C07
open ArchSim ArchSim.Rv ArchSim.Pipe ArchSim.Lemmas.C02Split

theorem step_quiet_stalls (p : PSt) (hf : NoFault p) :
    (step p).p.st.stalls =
      p.st.stalls + (if (pickStall p.stalled (nID p) (exO p).latch).isSome then 1 else 0) := by
  rw [step_stalls]; simp only [(step_fault_none_iff p).2 hf, true_and]

theorem interlock_start (p : PSt) (hf : NoFault p) (hfl : NoFlush p) (hs : p.stalled = none)
    (hid : latchStall (nID p) = true) (hex : latchStall (exO p).latch = false) :
    (step p).p.stalled = some { k := 1, rem := 2, p0 := setFlag p.l0, p1 := none } ∧
    (step p).p.l0 = nIF p ∧ (step p).p.l1 = nID p ∧ (step p).p.l2 = (exO p).latch ∧
    (step p).p.st.stalls = p.st.stalls + 1 := by
  have hpick : pickStall p.stalled (nID p) (exO p).latch = some 1 := by
    unfold pickStall; simp [hs, hid, hex]
  have hst := step_quiet_stalls p hf
  rw [hpick] at hst
  rw [step_quiet p hf hfl] at hst ⊢
  refine ⟨?_, rfl, rfl, rfl, hst⟩
  rw [hpick, hs]; rfl

theorem interlock_bubble (p : PSt) (st : Stall) (hs : p.stalled = some st) (hk : st.k = 1)
    (hf : NoFault p) (hfl : NoFlush p) :
    exInput p = none ∧ idInput p = st.p0 ∧
    (step p).p.l0 = p.l0 ∧ (step p).p.l1 = nID p ∧ (step p).p.l2 = none ∧
    (step p).p.stalled = (if st.rem - 1 = 0 then none else some { st with rem := st.rem - 1 }) ∧
    (step p).p.st.stalls = p.st.stalls := by
  have hin : exInput p = none ∧ idInput p = st.p0 ∧ nIF p = p.l0 := by
    unfold exInput idInput nIF; rw [hs]; simp [hk]
  obtain ⟨hex, hid, hif⟩ := hin
  have hl : (exO p).latch = none := by unfold exO; rw [hex]; rfl
  have hpick : pickStall p.stalled (nID p) (exO p).latch = none := by
    unfold pickStall; rw [hl, hs]; simp [latchStall, hk]
  have hst := step_quiet_stalls p hf
  rw [hpick] at hst
  rw [step_quiet p hf hfl] at hst ⊢
  refine ⟨hex, hid, hif, rfl, hl, ?_, hst⟩
  rw [hpick, hs]; rfl

theorem ifStage_addr (s : St) (x : Latch) (h : (ifStage s).2 = some x) : x.addr = s.pc := by
  unfold ifStage at h
  split at h
  · simp at h
  · simp only at h
    split at h
    · simp at h; rw [← h]
    · simp at h

theorem ecall_drain_start (p : PSt) (d : Latch) (hs : p.stalled = none) (hl1 : p.l1 = some d)
    (hop : d.instr.op = .ecall) (hw : ecallMustWait d p.l2 p.l3 = true)
    (hf : NoFault p) (hfl : NoFlush p) :
    (exO p).st = sWB p ∧
    (step p).p.stalled = some { k := 2, rem := 2, p0 := setFlag p.l0, p1 := setFlag p.l1 } ∧
    (step p).p.l0 = nIF p ∧ (step p).p.l3 = (meO p).latch ∧
    (step p).p.st.stalls = p.st.stalls + 1 := by
  have hin : exInput p = some d := by unfold exInput; rw [hs]; exact hl1
  have hex : exO p = { st := sWB p, latch := some { exBase d none (some 0) with stall := true },
                       fault := none } := by
    unfold exO; rw [hin]; exact exStage_ecall_wait _ d _ _ hop hw
  have hst : latchStall (exO p).latch = true := by rw [hex]; rfl
  have hpick : pickStall p.stalled (nID p) (exO p).latch = some 2 := by
    unfold pickStall; simp [hs, hst]
  have hst := step_quiet_stalls p hf
  rw [hpick] at hst
  rw [step_quiet p hf hfl] at hst ⊢
  refine ⟨by rw [hex], ?_, rfl, rfl, hst⟩
  rw [hpick, hs]; rfl

theorem inputs_exStall (p : PSt) (st : Stall) (hs : p.stalled = some st) (hk : st.k = 2) :
    exInput p = st.p1 ∧ idInput p = st.p0 ∧ nIF p = p.l0 ∧ memInput p = none := by
  unfold exInput idInput nIF memInput
  rw [hs]; simp [hk]

theorem meO_bubble (p : PSt) (h : memInput p = none) :
    (meO p).latch = none ∧ (meO p).fault = none ∧ (meO p).st = (exO p).st := by
  unfold meO; rw [h]; exact ⟨rfl, rfl, rfl⟩

theorem ecall_drain_cycle (p : PSt) (st : Stall) (hs : p.stalled = some st) (hk : st.k = 2)
    (hf : (exO p).fault = none) (hfl : NoFlush p) :
    memInput p = none ∧ exInput p = st.p1 ∧ idInput p = st.p0 ∧
    (step p).p.l0 = p.l0 ∧ (step p).p.l1 = nID p ∧ (step p).p.l2 = (exO p).latch ∧
    (step p).p.l3 = none ∧
    (step p).p.stalled = (if st.rem - 1 = 0 then none else some { st with rem := st.rem - 1 }) ∧
    (step p).p.st.stalls = p.st.stalls := by
  obtain ⟨hex, hid, hif, hme⟩ := inputs_exStall p st hs hk
  obtain ⟨hl, hmf, _⟩ := meO_bubble p hme
  have hpick : pickStall p.stalled (nID p) (exO p).latch = none := by
    unfold pickStall; rw [hs]; simp [hk]
  have hst := step_quiet_stalls p ⟨hf, hmf⟩
  rw [hpick] at hst
  rw [step_quiet p ⟨hf, hmf⟩ hfl] at hst ⊢
  refine ⟨hme, hex, hid, hif, rfl, rfl, hl, ?_, hst⟩
  rw [hpick, hs]; rfl

/-- EX inside an EX stall re-evaluates the preserved (flagged) ecall: it waits for MEM/WB only. -/
theorem exO_exStall (p : PSt) (st : Stall) (hs : p.stalled = some st) (hk : st.k = 2) (d : Latch)
    (hp1 : st.p1 = some d) (hop : d.instr.op = .ecall) (hfg : d.flagged = true) :
    (p.l3.isSome = true → (exO p).st = sWB p) ∧ (p.l3 = none → exO p = ecallRun (sWB p) d) := by
  have hin : exInput p = some d := by rw [(inputs_exStall p st hs hk).1, hp1]
  unfold exO
  rw [hin]
  constructor <;> intro h3
  · rw [exStage_ecall_wait _ d _ _ hop (by unfold ecallMustWait; simp [hfg, h3])]
  · exact exStage_ecall_run _ d _ _ hop (by unfold ecallMustWait; simp [hfg, h3])

end ArchSim.Lemmas.C07
