/-
What the control half needs of the individual stage functions beyond `C02SplitStages`: the latch
predicates of `PInv` through each stage, that the stages respect observational equality, and which
register a write-back can change.
-/
import ArchSim.Lemmas.C02Abs
import ArchSim.Lemmas.C02SplitStages

namespace ArchSim.Pipe
open ArchSim ArchSim.Rv ArchSim.Lemmas.C02Split

/-! ### Latch predicates -/

@[simp] theorem latchStall_none : latchStall none = false := rfl
@[simp] theorem latchFlush_none : latchFlush none = none := rfl
@[simp] theorem latchExit_none : latchExit none = false := rfl
@[simp] theorem latchStall_some (x : Latch) : latchStall (some x) = x.stall := rfl
@[simp] theorem latchFlush_some (x : Latch) : latchFlush (some x) = x.flush := rfl
@[simp] theorem latchExit_some (x : Latch) : latchExit (some x) = x.exitCode.isSome := rfl
@[simp] theorem LatchOK_none : LatchOK none := by intro x h; cases h
@[simp] theorem WregOK_none : WregOK none := by intro x h; cases h
@[simp] theorem Unflagged_none : Unflagged none := by intro x h; cases h
@[simp] theorem RrOK_none : RrOK none := by intro x h; cases h
@[simp] theorem ExitIsEcall_none : ExitIsEcall none := by intro x h; cases h
@[simp] theorem setFlag_none : setFlag none = none := rfl
@[simp] theorem setFlag_some (x : Latch) : setFlag (some x) = some { x with flagged := true } := rfl
@[simp] theorem setFlag_eq_none (l : Option Latch) : setFlag l = none ↔ l = none := by
  cases l <;> simp
@[simp] theorem setFlag_isSome (l : Option Latch) : (setFlag l).isSome = l.isSome := by
  cases l <;> simp

theorem setFlag_forall {P : Latch → Prop} {l : Option Latch} (hP : ∀ x, P x → P { x with flagged := true })
    (h : ∀ x, l = some x → P x) : ∀ y, setFlag l = some y → P y := by
  intro y hy
  cases l with
  | none => cases hy
  | some x => cases hy; exact hP x (h x rfl)

/-! ### ID, EX, MEM, WB: the output latch -/

@[simp] theorem idStage_none (h : Bool) (r : Nat → Nat) (a b : Option Latch) : idStage h r none a b = none := rfl

@[simp] theorem idStage_eq_none (h : Bool) (r : Nat → Nat) (inp a b : Option Latch) :
    idStage h r inp a b = none ↔ inp = none := by
  cases inp <;> simp [idStage_some]

@[simp] theorem idStage_isSome (h : Bool) (r : Nat → Nat) (inp a b : Option Latch) :
    (idStage h r inp a b).isSome = inp.isSome := by
  cases inp <;> simp [idStage_some]

@[simp] theorem idStage_flush (h : Bool) (r : Nat → Nat) (inp a b : Option Latch) :
    latchFlush (idStage h r inp a b) = none := by
  cases inp <;> rfl

theorem idStage_forall {P : Latch → Prop} (h : Bool) (r : Nat → Nat) (inp a b : Option Latch)
    (hP : ∀ f, inp = some f →
      P { instr := f.instr, addr := f.addr, pc4 := f.pc4, rr := accessRegs f.instr r, wreg := writeReg f.instr,
          stall := idStall h (accessRegs f.instr r) a b }) :
    ∀ x, idStage h r inp a b = some x → P x := by
  intro x hx
  cases inp with
  | none => cases hx
  | some f => rw [idStage_some] at hx; cases hx; exact hP f rfl

attribute [simp] exStage_none ecallMustWait_none

theorem exStage_latch_ok (s : St) {inp : Option Latch} (l2 l3 : Option Latch) (hw : WregOK inp)
    (hf : (exStage s inp l2 l3).fault = none) :
    WregOK (exStage s inp l2 l3).latch ∧ ExitIsEcall (exStage s inp l2 l3).latch := by
  cases inp with
  | none => simp
  | some d =>
    obtain ⟨e, he, hi, hwr, _, _, _, hx, _⟩ := exStage_ok_latch s d l2 l3 hf
    rw [he]
    exact ⟨fun x hx' => by cases hx'; rw [hwr, hi]; exact hw d rfl,
      fun x hx' hxe => by cases hx'; rw [hi]; exact (hx hxe).1⟩

theorem exStage_ignores_marks (s : St) (d : Latch) (b c : Bool) :
    exStage s (some { d with flagged := b, stall := c }) none none = exStage s (some d) none none := by
  simp [exStage, aluIn1, aluIn2, ecallMustWait]

@[simp] theorem memStage_none (s : St) : memStage s none = { st := s, latch := none, fault := none } := rfl

theorem memFlush_exit (e : Latch) (h : e.instr.op = .ecall) (hx : e.exitCode.isSome = true) :
    memFlush e = some e.pc4 := by
  simp [memFlush, ctlOf, h, Op.ty, hx]

theorem memStage_ecall_nofault (s : St) (e : Latch) (hop : e.instr.op = .ecall) :
    (memStage s (some e)).fault = none := by
  have hty : e.instr.op.ty = .i := by rw [hop]; rfl
  rw [memStage_some s e _ none
    (memoryAccess_other e.instr (by rw [hty]; decide) (by rw [hty]; decide) _ _ _ _) rfl]

@[simp] theorem wbStage_none (s : St) : wbStage s none = (s, none) := rfl

theorem wbStage_flush (s : St) (m : Latch) :
    latchFlush (wbStage s (some m)).2 = if m.exitCode.isSome then some m.pc4 else none := rfl

theorem wbStage_flush_isSome (s : St) (l : Option Latch) :
    (latchFlush (wbStage s l).2).isSome = latchExit l := by
  cases l with
  | none => simp
  | some m => rw [wbStage_flush]; cases h : m.exitCode <;> simp [h]

theorem wbStage_exitCode_noexit (s : St) (l : Option Latch) (h : latchExit l = false) :
    (wbStage s l).1.exitCode = s.exitCode := by
  cases l with
  | none => rfl
  | some m =>
    simp only [latchExit_some] at h
    rw [wbStage_some]
    cases hx : m.exitCode with
    | none => simp only [wbSt, hx]
    | some c => rw [hx] at h; cases h

/-! ### IF and the instruction memory -/

theorem ifStage_noinstr (s : St) (h : s.imem.instrAt s.pc = none) : ifStage s = (s, none) := by
  simp [ifStage, h]

theorem ifStage_instr (s : St) (i : Instr) (h : s.imem.instrAt s.pc = some i) (hs : FetchSound s.imem) :
    ifStage s =
      ({ s with imem := (s.imem.fetch s.pc).imem, cycles := s.cycles + (s.imem.fetch s.pc).extra, pc := s.pc + 4 },
       some { instr := i, addr := s.pc, pc4 := s.pc + 4 }) := by
  have := (hs s.pc i h).1
  simp [ifStage, h, this]

theorem ifStage_sim (s : St) : Sim s (ifStage s).1 := by
  unfold ifStage
  cases s.imem.instrAt s.pc with
  | none => exact Sim.rfl' s
  | some i => dsimp only; split <;> exact ⟨rfl, rfl, rfl, rfl, rfl, rfl, rfl, (IMem.fetch_prog ..).symm⟩

theorem ICoh.fetchSound {im : IMem} (h : ICoh im) : FetchSound im := h []

theorem ICoh.fetch {im : IMem} (h : ICoh im) (pc : Int) : ICoh (im.fetch pc).imem :=
  fun pcs => h (pc :: pcs)

theorem ProgOK_congr {im im' : IMem} (h : im.prog = im'.prog) (hp : ProgOK im) : ProgOK im' := by
  intro pc i hi; rw [← instrAt_congr h] at hi; exact hp pc i hi

/-! ### What the stages leave alone -/

@[simp] theorem wbStage_imem (s : St) (l : Option Latch) : (wbStage s l).1.imem = s.imem :=
  (congrArg St.imem (wbStage_st s l) :)
@[simp] theorem wbStage_pc (s : St) (l : Option Latch) : (wbStage s l).1.pc = s.pc :=
  (congrArg St.pc (wbStage_st s l) :)

@[simp] theorem memStage_imem (s : St) (l : Option Latch) : (memStage s l).st.imem = s.imem :=
  (congrArg St.imem (memStage_st s l) :)
@[simp] theorem memStage_pc (s : St) (l : Option Latch) : (memStage s l).st.pc = s.pc :=
  (congrArg St.pc (memStage_st s l) :)
@[simp] theorem memStage_regs (s : St) (l : Option Latch) : (memStage s l).st.regs = s.regs :=
  (congrArg St.regs (memStage_st s l) :)
@[simp] theorem memStage_output (s : St) (l : Option Latch) : (memStage s l).st.output = s.output :=
  (congrArg St.output (memStage_st s l) :)
@[simp] theorem memStage_exitCode (s : St) (l : Option Latch) : (memStage s l).st.exitCode = s.exitCode :=
  (congrArg St.exitCode (memStage_st s l) :)
@[simp] theorem memStage_instrs (s : St) (l : Option Latch) : (memStage s l).st.instrs = s.instrs :=
  (congrArg St.instrs (memStage_st s l) :)

@[simp] theorem exStage_imem (s : St) (inp l2 l3 : Option Latch) : (exStage s inp l2 l3).st.imem = s.imem :=
  (congrArg St.imem (exStage_st s inp l2 l3) :)
@[simp] theorem exStage_pc (s : St) (inp l2 l3 : Option Latch) : (exStage s inp l2 l3).st.pc = s.pc :=
  (congrArg St.pc (exStage_st s inp l2 l3) :)
@[simp] theorem exStage_regs (s : St) (inp l2 l3 : Option Latch) : (exStage s inp l2 l3).st.regs = s.regs :=
  (congrArg St.regs (exStage_st s inp l2 l3) :)
@[simp] theorem exStage_exitCode (s : St) (inp l2 l3 : Option Latch) :
    (exStage s inp l2 l3).st.exitCode = s.exitCode :=
  (congrArg St.exitCode (exStage_st s inp l2 l3) :)
@[simp] theorem exStage_instrs (s : St) (inp l2 l3 : Option Latch) :
    (exStage s inp l2 l3).st.instrs = s.instrs :=
  (congrArg St.instrs (exStage_st s inp l2 l3) :)

theorem ecallRun_fault_output (s : St) (d : Latch) (ft : PFault) (h : (ecallRun s d).fault = some ft) :
    (ecallRun s d).st.output = s.output := by
  unfold ecallRun at h ⊢
  split <;> simp_all

/-! ### The stages respect observational equality
(they neither read nor write the cycle / stall / flush counters, the icache or the pc) -/

theorem wbStage_sim {s t : St} (h : Sim s t) (l : Option Latch) :
    Sim (wbStage s l).1 (wbStage t l).1 ∧ (wbStage s l).2 = (wbStage t l).2 := by
  obtain ⟨h1, h2, h3, h4, h5, h6, h7, h8⟩ := h
  cases l with
  | none => exact ⟨⟨h1, h2, h3, h4, h5, h6, h7, h8⟩, rfl⟩
  | some m =>
    unfold wbStage; dsimp only
    refine ⟨?_, rfl⟩
    cases m.exitCode <;> constructor <;> simp [*]

theorem memStage_sim {s t : St} (h : Sim s t) (l : Option Latch) :
    Sim (memStage s l).st (memStage t l).st ∧ (memStage s l).latch = (memStage t l).latch ∧
      (memStage s l).fault = (memStage t l).fault := by
  obtain ⟨h1, h2, h3, h4, h5, h6, h7, h8⟩ := h
  cases l with
  | none => exact ⟨⟨h1, h2, h3, h4, h5, h6, h7, h8⟩, rfl, rfl⟩
  | some e =>
    unfold memStage; dsimp only
    rw [h2]
    cases memoryAccess e.instr e.result e.rr.d2 t.mem true with
    | none => exact ⟨⟨h1, h2, h3, h4, h5, h6, h7, h8⟩, rfl, rfl⟩
    | some o =>
      dsimp only
      cases o.res with
      | error err => exact ⟨⟨h1, rfl, h3, h4, h5, h6, h7, h8⟩, rfl, rfl⟩
      | ok rd =>
        dsimp only
        refine ⟨?_, rfl, rfl⟩
        split
        · split
          · exact ⟨h1, rfl, h3, h4, h5, by simp [h6], h7, h8⟩
          · split
            · exact ⟨h1, rfl, h3, h4, h5, h6, by simp [h7], h8⟩
            · exact ⟨h1, rfl, h3, h4, h5, h6, h7, h8⟩
        · exact ⟨h1, rfl, h3, h4, h5, h6, h7, h8⟩

theorem ecallRun_sim {s t : St} (h : Sim s t) (d : Latch) :
    Sim (ecallRun s d).st (ecallRun t d).st ∧ (ecallRun s d).latch = (ecallRun t d).latch ∧
      (ecallRun s d).fault = (ecallRun t d).fault := by
  unfold ecallRun
  rw [processEcall_congr s t h.regs h.mem]
  obtain ⟨h1, h2, h3, h4, h5, h6, h7, h8⟩ := h
  split
  · exact ⟨⟨h1, rfl, by simp [h3], h4, h5, h6, h7, h8⟩, rfl, rfl⟩
  · exact ⟨⟨h1, rfl, h3, h4, h5, h6, h7, h8⟩, rfl, rfl⟩
  · exact ⟨⟨h1, rfl, h3, h4, h5, h6, h7, h8⟩, rfl, rfl⟩
  · exact ⟨⟨h1, rfl, h3, h4, h5, h6, h7, h8⟩, rfl, rfl⟩

theorem exStage_sim {s t : St} (h : Sim s t) (inp l2 l3 : Option Latch) :
    Sim (exStage s inp l2 l3).st (exStage t inp l2 l3).st ∧
      (exStage s inp l2 l3).latch = (exStage t inp l2 l3).latch ∧
      (exStage s inp l2 l3).fault = (exStage t inp l2 l3).fault := by
  cases inp with
  | none => exact ⟨h, rfl, rfl⟩
  | some d =>
    by_cases hop : d.instr.op = .ecall
    · cases hw : ecallMustWait d l2 l3
      · rw [exStage_ecall_run s d l2 l3 hop hw, exStage_ecall_run t d l2 l3 hop hw]; exact ecallRun_sim h d
      · rw [exStage_ecall_wait s d l2 l3 hop hw, exStage_ecall_wait t d l2 l3 hop hw]; exact ⟨h, rfl, rfl⟩
    · rw [exStage_nonEcall_alu s d l2 l3 hop, exStage_nonEcall_alu t d l2 l3 hop]
      split
      · exact ⟨h, rfl, rfl⟩
      · exact ⟨h, rfl, rfl⟩

/-! ### Register frame: a write-back changes at most the write register of its latch -/

/-- The latch may write register `r`. -/
def writes (l : Option Latch) (r : Nat) : Prop := ∃ x, l = some x ∧ x.wreg = some r ∧ r ≠ 0

@[simp] theorem writes_none (r : Nat) : ¬ writes none r := by rintro ⟨x, h, _⟩; cases h

theorem wbStage_regs_frame (s : St) (l : Option Latch) (r : Nat) (h : ¬ writes l r) :
    (wbStage s l).1.regs r = s.regs r := by
  cases l with
  | none => rfl
  | some m =>
    rw [wbStage_some]
    exact wbRegs_frame m s.regs r fun hw => Decidable.by_contra fun h0 => h ⟨m, rfl, hw, h0⟩

theorem writes_memStage (s : St) (e : Option Latch) (r : Nat) (hf : (memStage s e).fault = none)
    (h : ¬ writes e r) : ¬ writes (memStage s e).latch r := by
  cases e with
  | none => simp
  | some x =>
    obtain ⟨rd, hm⟩ := memStage_ok_latch s x hf
    rintro ⟨y, hy, hyw, hr⟩
    rw [hm] at hy; cases hy
    exact h ⟨x, rfl, hyw, hr⟩

theorem writes_exStage (s : St) (d l2 l3 : Option Latch) (r : Nat) (hf : (exStage s d l2 l3).fault = none)
    (h : ¬ writes d r) : ¬ writes (exStage s d l2 l3).latch r := by
  cases d with
  | none => simp
  | some x =>
    obtain ⟨e, he, _, hw, _⟩ := exStage_ok_latch s x l2 l3 hf
    rintro ⟨y, hy, hyw, hr⟩
    rw [he] at hy; cases hy
    exact h ⟨x, rfl, by rw [← hw, hyw], hr⟩

theorem not_writes_of_no_hazard (rr : RegRead) (l : Option Latch) (hw : WregOK l)
    (h : hazardWith rr l = false) (r : Nat) (hr : rr.a1 = some r ∨ rr.a2 = some r) : ¬ writes l r := by
  rintro ⟨x, hx, hxw, hr0⟩
  subst hx
  have hwr := hw x rfl
  rw [hxw] at hwr
  unfold hazardWith at h
  simp only [← hwr] at h
  rcases hr with hr | hr <;> simp [hr, hr0] at h

theorem ecall_not_writes (l : Option Latch) (hok : LatchOK l) (hw : WregOK l)
    (he : ∀ x, l = some x → x.instr.op = .ecall) (r : Nat) : ¬ writes l r := by
  rintro ⟨x, hx, hxw, hr⟩
  have h1 := hw x hx
  have h2 := (hok x hx).1 (he x hx)
  rw [hxw] at h1
  simp [writeReg, he x hx, Op.ty, h2] at h1
  exact hr h1

end ArchSim.Pipe
