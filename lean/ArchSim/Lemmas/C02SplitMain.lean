/-
C02 (data path): the dispatch over the instruction families (`agree_all_at`, general position) and its use on one step
over an uncached instruction memory (`agree_step`); `MemOK` is what that needs from the data memory. `Obs` and
`FaultObs` are the records with which `ArchSim/Props/C02Split.lean` states what is compared.
-/
import ArchSim.Lemmas.C02SplitMem

namespace ArchSim.Lemmas.C02Split
open ArchSim ArchSim.Rv ArchSim.Pipe

/-- What the theorem needs from the data memory system, for instruction `i` in state `s`: stores are
    taken modulo 2^32, and a load's uncounted re-read is neutral (`LoadOK`). -/
def MemOK (i : Instr) (s : St) : Prop :=
  WriteAlias s.mem ∧
  (i.op.ty = .memI → LoadOK s.mem (accessBits i.op) ((s.regs i.rs1 : Int) + i.imm))

theorem memOK_flat (i : Instr) (s : St) (m : Mem.Mem) (hmem : s.mem = .flat m)
    (hov : m.cfg.overflow = true) (hab : m.cfg.addrBits = 32) : MemOK i s := by
  rw [MemOK, hmem]
  exact ⟨writeAlias_flat m hov hab, fun hty => loadOK_flat m _ (accessBits_le i.op) _⟩

theorem agree_all_at (i : Instr) (t : St) (a : Int) (hwf : i.WF)
    (hregs : ∀ r, t.regs r < 4294967296) (hm : MemOK i t) (h0 : 0 ≤ a) (h1 : a + 4 < 4294967296) :
    AgreesAt i t a := by
  obtain ⟨hsup, _, _, _, himm, hec⟩ := hwf
  unfold immRange at himm
  unfold Op.supported at hsup
  cases hty : i.op.ty <;> simp only [hty] at himm hsup
  case r => exact agree_r i t a hty hregs h0 h1
  case i =>
    by_cases hj : i.op = .jalr
    · exact agree_jalr i t a hj himm.1 himm.2
    · by_cases he : i.op = .ecall
      · exact agree_ecall i t a he (hec he).1 h0 h1
      · have hb : i.op ≠ .ebreak := by simpa using hsup
        exact agree_i i t a hty hj he hb hregs h0 h1
  case memI => exact agree_load i t a hty hregs (hm.2 hty) h0 h1
  case shiftI => exact agree_shift i t a hty hregs himm.1 himm.2 h0 h1
  case s => exact agree_store i t a hty hm.1 h0 h1
  case b => exact agree_b i t a hty hregs h0 h1
  case u =>
    by_cases hl : i.op = .lui
    · exact agree_lui i t a hl h0 h1
    · exact agree_auipc i t a hty hl h0 h1
  case j => exact agree_jal i t a hty
  all_goals simp at hsup

theorem completeIDEX_core (d : Latch) (s : St) :
    completeIDEX (some d) s =
      completeIDEX (some { instr := d.instr, addr := d.addr, pc4 := d.pc4, rr := d.rr, wreg := d.wreg }) s := by
  have h : exStage s (some d) none none =
      exStage s (some { instr := d.instr, addr := d.addr, pc4 := d.pc4, rr := d.rr, wreg := d.wreg }) none none := by
    simp only [exStage, aluIn1, aluIn2, ecallMustWait_none]
  simp only [completeIDEX, h]

theorem agree_step (s : St) (i : Instr) (hwf : i.WF)
    (hic : s.imem.cache = none) (hi : s.imem.instrAt s.pc = some i) (h1 : s.pc < 16384)
    (hregs : ∀ r, s.regs r < 4294967296) (hm : MemOK i s) :
    Agree s.instrs (splitStep s) (singleStep s) := by
  rw [splitStep_eq s i hic hi h1, singleStep_eq s i hic hi h1]
  exact (agree_all_at i (sIF s) s.pc hwf hregs hm (IMem.instrAt_some hi).1 (by omega)).toAgree

theorem ite_lt {c : Prop} [Decidable c] {a b n : Nat} (ha : a < n) (hb : b < n) : (if c then a else b) < n := by
  split <;> assumption

/-- Everything the property compares after a step that did not fault. -/
structure Obs where
  regs     : Nat → Nat
  mem      : MemSys
  output   : String
  exitCode : Option Int
  pc       : Int
  branches : Nat
  procs    : Nat
  instrs   : Nat
  cycles   : Nat

def obs (s : St) : Obs :=
  { regs := s.regs, mem := s.mem, output := s.output, exitCode := s.exitCode, pc := s.pc,
    branches := s.branches, procs := s.procs, instrs := s.instrs, cycles := s.cycles }

/-- What is compared after a fault: registers, memory, output, exit code, pc, counters other than
    the instruction count. -/
structure FaultObs where
  regs     : Nat → Nat
  mem      : MemSys
  output   : String
  exitCode : Option Int
  pc       : Int
  branches : Nat
  procs    : Nat
  cycles   : Nat

def faultObs (s : St) : FaultObs :=
  { regs := s.regs, mem := s.mem, output := s.output, exitCode := s.exitCode, pc := s.pc,
    branches := s.branches, procs := s.procs, cycles := s.cycles }

theorem Agree.obs {n : Nat} {A B : Rv.StepOut} (h : Agree n A B) (hf : B.fault = none) :
    obs A.st = obs B.st := by rw [h.2.1 hf]

theorem Agree.faultObs {n : Nat} {A B : Rv.StepOut} (h : Agree n A B) : faultObs A.st = faultObs B.st := by
  cases hf : B.fault with
  | none => rw [h.2.1 hf]
  | some ft => rw [h.2.2 (by simp [hf])]; rfl

end ArchSim.Lemmas.C02Split
