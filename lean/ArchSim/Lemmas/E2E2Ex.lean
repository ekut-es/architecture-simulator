/-
Concrete source texts for the non-vacuity examples of `Props/C07Asm.lean`, `Props/C08Asm.lean`, `Props/C15Asm.lean`. Each
text is the listing of a small canonical program, so that it loads, and what it stores, follow from the listing fixpoint
of C14.
-/
import ArchSim.Lemmas.E2E2Load
import ArchSim.Lemmas.C14Listing
import ArchSim.Lemmas.C05Load
import ArchSim.Lemmas.C08Pad

namespace ArchSim.Lemmas.E2E2.Ex
open ArchSim ArchSim.Rv ArchSim.Asm ArchSim.Lemmas.C14

/-- the listing text of a program: its printed instructions joined by newlines -/
def listingText (prog : List Instr) : String := String.intercalate "\n" (prog.map Instr.repr)

/-- `addi x1,x0,5 ; slli x2,x0,3 ; lui x3,1` -/
def lineProg : List Instr :=
  [{ op := .addi, rd := 1, rs1 := 0, imm := 5 }, { op := .slli, rd := 2, rs1 := 0, imm := 3 },
   { op := .lui, rd := 3, imm := 1 }]

def lineText : String := listingText lineProg

theorem lineText_eq : lineText = "addi x1, x0, 5\nslli x2, x0, 3\nlui x3, 1" := by decide +kernel

theorem load_lineText (s : St) : (load s lineText).err = none ∧ (load s lineText).st.imem.prog = lineProg :=
  listing_loads s lineProg (by decide) (by decide)

/-- the power-on state with the program `prog` stored -/
def progSt (prog : List Instr) : St := { freshSt with imem := { prog := prog, cache := none } }

theorem load_listing_fresh (prog : List Instr) (hlen : prog.length ≤ 4096) (hc : CanonFrom 0 prog) :
    (load freshSt (listingText prog)).st = progSt prog := by
  rw [listingText, load_listing freshSt prog hlen hc]; rfl

theorem load_lineText_st : (load freshSt lineText).st = progSt lineProg :=
  load_listing_fresh lineProg (by decide) (by decide)

/-- `lui x5, 4 ; lw x1, 0(x5) ; addi x2, x0, 1` (the load reads address 0x4000) -/
def memProg : List Instr :=
  [{ op := .lui, rd := 5, imm := 4 }, { op := .lw, rd := 1, rs1 := 5, imm := 0 },
   { op := .addi, rd := 2, rs1 := 0, imm := 1 }]

def memText : String := listingText memProg

theorem memText_eq : memText = "lui x5, 4\nlw x1, 0(x5)\naddi x2, x0, 1" := by decide +kernel

theorem load_memText (s : St) : (load s memText).err = none ∧ (load s memText).st.imem.prog = memProg :=
  listing_loads s memProg (by decide) (by decide)

def exGeo : Cache.Geo := { idxBits := 1, blkBits := 1, assoc := 1 }

/-- the power-on state with an instruction cache (LRU, 2 sets × 2 words, 1 way, penalty 10) and a write-back data
    cache (LRU, same geometry, penalty 7) -/
def cacheSt : St :=
  { freshSt with
    imem := { prog := [], cache := some (ICache.init true exGeo 10) }
    mem := .cached true (Cache.DSys.init (Cache.polOps true) false exGeo 7 (Mem.Mem.empty Mem.riscvCfg)) }

/-- `cacheSt` after loading `memText` -/
def cacheMemSt : St := { cacheSt with imem := { prog := memProg, cache := some (ICache.init true exGeo 10) } }

theorem load_memText_cache : (load cacheSt memText).st = cacheMemSt := by
  rw [memText, listingText, load_listing cacheSt memProg (by decide) (by decide)]; rfl

theorem cacheSt_icacheOK : ICacheOK cacheSt := by
  intro c hc
  cases hc
  exact ⟨by decide, fun h => by cases h⟩

/-- `addi x2, x0, 1 ; lw x1, 0(x0)`: the load reads address 0, below the data range -/
def faultProg : List Instr :=
  [{ op := .addi, rd := 2, rs1 := 0, imm := 1 }, { op := .lw, rd := 1, rs1 := 0, imm := 0 }]

def faultText : String := listingText faultProg

theorem faultText_eq : faultText = "addi x2, x0, 1\nlw x1, 0(x0)" := by decide +kernel

theorem load_faultText_st : (load freshSt faultText).st = progSt faultProg :=
  load_listing_fresh faultProg (by decide) (by decide)

end ArchSim.Lemmas.E2E2.Ex
