/-
The physical side of one cycle under `PInv`: what the stages leave in the registers, that an ecall in EX runs
its service exactly when nothing older is in flight, and that a non-faulting cycle preserves `PInv`
(`PInv_step`): the per-register clauses hold of any state whose registers are each empty or the output of
their stage (`PInv_of_parts`), `Shape` is by stall mode (`Shape_noflush`).
-/
import ArchSim.Lemmas.C02Comp

namespace ArchSim.Pipe
open ArchSim ArchSim.Rv ArchSim.Lemmas.C02Split

@[simp] theorem tick_imem (p : PSt) : (tick p).imem = p.st.imem := rfl
@[simp] theorem tick_pc (p : PSt) : (tick p).pc = p.st.pc := rfl

theorem ifOut_stalled (p : PSt) (st : Stall) (h : p.stalled = some st) : ifOut p = (tick p, p.l0) := by
  simp [ifOut, h]

theorem ifOut_noinstr (p : PSt) (h : p.stalled = none) (hn : noInstr p.st) : ifOut p = (tick p, none) := by
  simp only [ifOut, h]; exact ifStage_noinstr _ hn

theorem ifOut_instr (p : PSt) (h : p.stalled = none) (i : Instr) (hi : p.st.imem.instrAt p.st.pc = some i)
    (hs : FetchSound p.st.imem) :
    ifOut p =
      ({ tick p with imem := (p.st.imem.fetch p.st.pc).imem,
                     cycles := (tick p).cycles + (p.st.imem.fetch p.st.pc).extra, pc := p.st.pc + 4 },
       some { instr := i, addr := p.st.pc, pc4 := p.st.pc + 4 }) := by
  simp only [ifOut, h]; exact ifStage_instr (tick p) i hi hs

theorem ifOut_inv (p : PSt) (hc : ICoh p.st.imem) (hp : ProgOK p.st.imem) (h0 : LatchOK p.l0) :
    ICoh (ifOut p).1.imem ∧ LatchOK (ifOut p).2 := by
  cases hst : p.stalled with
  | some st => rw [ifOut_stalled p st hst]; exact ⟨hc, h0⟩
  | none =>
    cases hi : p.st.imem.instrAt p.st.pc with
    | none => rw [ifOut_noinstr p hst hi]; exact ⟨hc, by simp⟩
    | some i =>
      rw [ifOut_instr p hst i hi hc.fetchSound]
      refine ⟨hc.fetch _, ?_⟩
      intro x hx; cases hx; exact hp _ _ hi

theorem memOut_imem (p : PSt) : (memOut p).st.imem = (ifOut p).1.imem := by
  simp [memOut, exOut, wbOut]
theorem memOut_pc (p : PSt) : (memOut p).st.pc = (ifOut p).1.pc := by
  simp [memOut, exOut, wbOut]

theorem stallBump_imem (k : Option Nat) (s : St) : (stallBump k s).imem = s.imem :=
  (congrArg St.imem (stallBump_st k s) :)
theorem stallBump_pc (k : Option Nat) (s : St) : (stallBump k s).pc = s.pc :=
  (congrArg St.pc (stallBump_st k s) :)
@[simp] theorem flushSt_imem (s : St) (a : Int) : (flushSt s a).imem = s.imem := rfl

theorem tick_sim (p : PSt) : Sim p.st (tick p) := ⟨rfl, rfl, rfl, rfl, rfl, rfl, rfl, rfl⟩

theorem ifOut_sim (p : PSt) : Sim p.st (ifOut p).1 := by
  unfold ifOut
  split
  · exact (tick_sim p).trans (ifStage_sim _)
  · exact tick_sim p

theorem wbOut_sim (p : PSt) : Sim (wbStage p.st p.l3).1 (wbOut p).1 :=
  (wbStage_sim (ifOut_sim p) p.l3).1

theorem flushSt_sim (s : St) (a : Int) : Sim (flushSt s a) s := ⟨rfl, rfl, rfl, rfl, rfl, rfl, rfl, rfl⟩
theorem stallBump_sim (k : Option Nat) (s : St) : Sim (stallBump k s) s := by
  rw [stallBump_st]; exact ⟨rfl, rfl, rfl, rfl, rfl, rfl, rfl, rfl⟩

theorem finishStep_sim (p : PSt) (s : St) (n0 n1 n2 n3 n4 : Option Latch) :
    Sim (finishStep p s n0 n1 n2 n3 n4).st s := by
  rw [finishStep_st]; exact ⟨rfl, rfl, rfl, rfl, rfl, rfl, rfl, rfl⟩

theorem nextStall_ok (p : PSt) (hI : PInv p) (picked : Option Nat) (st' : Stall)
    (h : nextStall p.stalled picked p.l0 p.l1 = some st') :
    LatchOK st'.p0 ∧ LatchOK st'.p1 ∧ WregOK st'.p1 ∧ RrOK st'.p1 := by
  rcases nextStall_parts _ _ _ _ _ h with ⟨_, e0, e1 | e1, _⟩ | ⟨st, hs, e0, e1, _⟩ <;> rw [e0, e1]
  · exact ⟨setFlag_forall (fun _ h => h) hI.ok0, setFlag_forall (fun _ h => h) hI.ok1,
      setFlag_forall (fun _ h => h) hI.w1, setFlag_forall (fun _ h => h) hI.r1⟩
  · exact ⟨setFlag_forall (fun _ h => h) hI.ok0, by simp⟩
  · exact hI.okS st hs

theorem idInput_ok (p : PSt) (hI : PInv p) : LatchOK (idInput p) := by
  unfold idInput; split
  · exact hI.ok0
  · rename_i st hs; exact (hI.okS st hs).1

theorem exInput_ok (p : PSt) (hI : PInv p) : LatchOK (exInput p) ∧ WregOK (exInput p) ∧ RrOK (exInput p) := by
  unfold exInput; split
  · exact ⟨hI.ok1, hI.w1, hI.r1⟩
  · rename_i st hs
    split
    · simp
    · exact (hI.okS st hs).2

theorem memInput_exit_wreg (p : PSt) (hI : PInv p) : ExitIsEcall (memInput p) ∧ WregOK (memInput p) := by
  unfold memInput; split
  · exact ⟨hI.x2, hI.w2⟩
  · split
    · simp
    · exact ⟨hI.x2, hI.w2⟩

theorem PInv_of_parts (p o : PSt) (hI : PInv p) (hex : (exOut p).fault = none)
    (himem : o.st.imem = (ifOut p).1.imem)
    (h0 : o.l0 = none ∨ o.l0 = (ifOut p).2) (h1 : o.l1 = none ∨ o.l1 = idOut p)
    (h2 : o.l2 = none ∨ o.l2 = (exOut p).latch)
    (hst : o.stalled = none ∨ ∃ k, o.stalled = nextStall p.stalled k p.l0 p.l1)
    (he3 : latchExit o.l3 = true → o.l2 = none) (hshape : Shape o) : PInv o := by
  obtain ⟨hc, hn0⟩ := ifOut_inv p hI.icoh hI.progOK hI.ok0
  have k1 : LatchOK o.l1 ∧ WregOK o.l1 ∧ Unflagged o.l1 ∧ RrOK o.l1 := by
    rcases h1 with h | h <;> rw [h]
    · simp
    · exact ⟨idStage_forall _ _ _ _ _ (idInput_ok p hI), idStage_forall _ _ _ _ _ (fun _ _ => rfl),
        idStage_forall _ _ _ _ _ (fun _ _ => rfl), idStage_forall _ _ _ _ _ (fun _ _ => ⟨_, rfl⟩)⟩
  have k2 : WregOK o.l2 ∧ ExitIsEcall o.l2 := by
    rcases h2 with h | h <;> rw [h]
    · simp
    · exact exStage_latch_ok _ _ _ (exInput_ok p hI).2.1 hex
  refine ⟨by rw [himem]; exact ProgOK_congr (ifOut_sim p).prog hI.progOK, by rw [himem]; exact hc, ?_, k1.1, ?_,
    k1.2.1, k1.2.2.1, k1.2.2.2, k2.1, k2.2, he3, hshape⟩
  · rcases h0 with h | h <;> rw [h]
    · simp
    · exact hn0
  · intro st' hs'
    rcases hst with h | ⟨k, h⟩
    · rw [h] at hs'; cases hs'
    · rw [h] at hs'; exact nextStall_ok p hI k st' hs'

theorem memOut_exit_flush (p : PSt) (hI : PInv p) (hme : (memOut p).fault = none)
    (hx : latchExit (memOut p).latch = true) : (latchFlush (memOut p).latch).isSome = true := by
  unfold memOut at hx hme ⊢
  cases hm : memInput p with
  | none => rw [hm] at hx; simp at hx
  | some e =>
    rw [hm] at hx hme
    obtain ⟨rd, hml⟩ := memStage_ok_latch _ e hme
    rw [hml] at hx ⊢
    have hx : e.exitCode.isSome = true := hx
    show (memFlush e).isSome = true
    rw [memFlush_exit e ((memInput_exit_wreg p hI).1 e hm hx) hx]; rfl

theorem PInv_flushed (p o : PSt) (hI : PInv p) (hex : (exOut p).fault = none)
    (himem : o.st.imem = (ifOut p).1.imem) (h0 : o.l0 = none) (h1 : o.l1 = none)
    (h2 : o.l2 = none ∨ o.l2 = (exOut p).latch) (hs : o.stalled = none)
    (he3 : latchExit o.l3 = true → o.l2 = none) : PInv o :=
  PInv_of_parts p o hI hex himem (Or.inl h0) (Or.inl h1) h2 (Or.inl hs) he3 (by simp [Shape, hs, h0, h1])

theorem exOut_flush (p : PSt) (hex : (exOut p).fault = none) (a : Int)
    (h2 : latchFlush (exOut p).latch = some a) :
    ∃ d e, exInput p = some d ∧ d.instr.op = .ecall ∧ ecallMustWait d p.l2 p.l3 = false ∧
      latchStall (exOut p).latch = false ∧ (exOut p).latch = some e ∧ e.instr.op = .ecall ∧
      e.exitCode.isSome = true := by
  unfold exOut at hex h2 ⊢
  cases hd : exInput p with
  | none => rw [hd] at h2; simp at h2
  | some d =>
    rw [hd] at hex h2
    obtain ⟨e, he, hei, _, _, _, hfl, hxe, hst⟩ := exStage_ok_latch _ d p.l2 p.l3 hex
    rw [he] at h2 ⊢
    simp only [latchFlush_some, latchStall_some] at h2 ⊢
    have hx : e.exitCode.isSome = true := by rw [← hfl, h2]; rfl
    obtain ⟨hop, hw⟩ := hxe hx
    refine ⟨d, e, rfl, hop, hw, ?_, rfl, by rw [hei]; exact hop, hx⟩
    cases hs : e.stall with
    | false => rfl
    | true => have := (hst.1 hs).2; rw [hw] at this; cases this

theorem exOut_stall (p : PSt) (hex : (exOut p).fault = none)
    (h2 : latchStall (exOut p).latch = true) :
    ∃ d, exInput p = some d ∧ d.instr.op = .ecall ∧ ecallMustWait d p.l2 p.l3 = true := by
  unfold exOut at hex h2
  cases hd : exInput p with
  | none => rw [hd] at h2; simp at h2
  | some d =>
    rw [hd] at hex h2
    obtain ⟨e, he, _, _, _, _, _, _, hst⟩ := exStage_ok_latch _ d p.l2 p.l3 hex
    rw [he] at h2
    exact ⟨d, rfl, hst.1 h2⟩

theorem exOut_latch_eq_none (p : PSt) (hex : (exOut p).fault = none) :
    (exOut p).latch = none ↔ exInput p = none :=
  Option.isSome_eq_isSome.mp (exStage_latch_isSome _ _ _ _ hex)

theorem memOut_latch_eq_none (p : PSt) (hme : (memOut p).fault = none) :
    (memOut p).latch = none ↔ memInput p = none :=
  Option.isSome_eq_isSome.mp (memStage_latch_isSome _ _ hme)

theorem idOut_eq_none (p : PSt) : idOut p = none ↔ idInput p = none := idStage_eq_none _ _ _ _ _

theorem exOut_latch_of_none (p : PSt) (h : exInput p = none) : (exOut p).latch = none := by
  unfold exOut; rw [h]; rfl

theorem ecall_runs_iff (p : PSt) (hI : PInv p) (d : Latch) (hd : exInput p = some d) :
    ecallMustWait d p.l2 p.l3 = false ↔ memInput p = none ∧ p.l3 = none := by
  have hsh := hI.shape
  unfold Shape at hsh
  rcases Option.eq_none_or_eq_some p.stalled with hs | ⟨st, hs⟩
  · have hd1 : p.l1 = some d := by simpa [exInput, hs] using hd
    simp [ecallMustWait, hI.f1 d hd1, memInput, hs]
  · rw [hs] at hsh
    rcases hsh with ⟨hk, _, _⟩ | ⟨hk, _, ⟨e, hp1, hfl, _⟩, _, _⟩
    · simp [exInput, hs, hk] at hd
    · have hde : d = e := by simpa [exInput, hs, hk, hp1] using hd.symm
      subst hde
      simp [ecallMustWait, hfl, memInput, hs, hk]

theorem exOut_cases (p : PSt) (hI : PInv p) :
    (exOut p).st = (wbOut p).1 ∨
      ∃ d, exInput p = some d ∧ d.instr.op = .ecall ∧ exOut p = ecallRun (wbOut p).1 d ∧
        memInput p = none ∧ p.l3 = none := by
  rcases exStage_st_run (wbOut p).1 (exInput p) p.l2 p.l3 with h | ⟨d, hd, hop, hw, h⟩
  · exact Or.inl h
  · exact Or.inr ⟨d, hd, hop, h, (ecall_runs_iff p hI d hd).1 hw⟩

theorem exFlush_drained (p : PSt) (hI : PInv p) (hex : (exOut p).fault = none) (a : Int)
    (h2 : latchFlush (exOut p).latch = some a) :
    memInput p = none ∧ p.l3 = none ∧
    dropLowStall (nextStall p.stalled (pickStall p.stalled (idOut p) (exOut p).latch) p.l0 p.l1) = none := by
  obtain ⟨d, _, hd, _, hw, hns, _⟩ := exOut_flush p hex a h2
  obtain ⟨hm, h3⟩ := (ecall_runs_iff p hI d hd).1 hw
  refine ⟨hm, h3, ?_⟩
  have hsh := hI.shape
  unfold Shape at hsh
  cases hs : p.stalled with
  | none =>
    rw [pickStall_none, hns]
    cases latchStall (idOut p) <;> simp [nextStall_none_some, dropLowStall]
  | some st =>
    rw [hs] at hsh
    rcases hsh with ⟨hk, _, _⟩ | ⟨hk, hrem, _⟩
    · simp [exInput, hs, hk] at hd
    · rcases hrem with ⟨_, h⟩ | ⟨hr, _⟩
      · rw [h3] at h; cases h
      · rw [pickStall_k2 st hk, nextStall_some_none]
        simp [hr, dropLowStall]

theorem ifOut_none_iff_noInstr (p : PSt) (hI : PInv p) (hs : p.stalled = none) :
    ((ifOut p).2 = none ↔ noInstr p.st) := by
  cases hi : p.st.imem.instrAt p.st.pc with
  | none => rw [ifOut_noinstr p hs hi]; simp [noInstr, hi]
  | some i => rw [ifOut_instr p hs i hi hI.icoh.fetchSound]; simp [noInstr, hi]

theorem noInstr_out (p : PSt) (hI : PInv p) (s' : St) (himem : s'.imem = (ifOut p).1.imem)
    (hpc : s'.pc = (ifOut p).1.pc) (hn : (ifOut p).2 = none) : noInstr s' := by
  cases hs : p.stalled with
  | none =>
    have hni := (ifOut_none_iff_noInstr p hI hs).1 hn
    rw [ifOut_noinstr p hs hni] at himem hpc
    unfold noInstr at hni ⊢
    rw [himem, hpc]; exact hni
  | some st =>
    rw [ifOut_stalled p st hs] at himem hpc hn
    have hsh := hI.shape
    unfold Shape at hsh; rw [hs] at hsh
    have hni : noInstr p.st := by
      rcases hsh with ⟨_, _, h, _⟩ | ⟨_, _, _, h, _⟩ <;> exact h hn
    unfold noInstr at hni ⊢
    rw [himem, hpc]; exact hni

theorem Shape_noflush (p : PSt) (hI : PInv p) (hex : (exOut p).fault = none) (hme : (memOut p).fault = none)
    (h4 : latchFlush (wbOut p).2 = none) (h3 : latchFlush (memOut p).latch = none)
    (h2 : latchFlush (exOut p).latch = none) : Shape (nextP p) := by
  rw [nextP, finishStep_noflush _ _ _ _ _ _ _ h4 h3 h2]
  have himem : (stallBump (pickStall p.stalled (idOut p) (exOut p).latch) (memOut p).st).imem = (ifOut p).1.imem := by
    simp [stallBump_imem, memOut_imem]
  have hpc : (stallBump (pickStall p.stalled (idOut p) (exOut p).latch) (memOut p).st).pc = (ifOut p).1.pc := by
    simp [stallBump_pc, memOut_pc]
  generalize stallBump (pickStall p.stalled (idOut p) (exOut p).latch) (memOut p).st = s' at himem hpc ⊢
  have hno : (ifOut p).2 = none → noInstr s' := noInstr_out p hI s' himem hpc
  rcases Option.eq_none_or_eq_some p.stalled with hs | ⟨st, hs⟩
  · -- unstalled
    have hsh := hI.shape
    unfold Shape at hsh; rw [hs] at hsh
    obtain ⟨i1, i2, i3⟩ := hsh
    have e1 : idOut p = none ↔ p.l0 = none := by rw [idOut_eq_none]; simp [idInput, hs]
    have e2 : (exOut p).latch = none ↔ p.l1 = none := by rw [exOut_latch_eq_none p hex]; simp [exInput, hs]
    have e3 : (memOut p).latch = none ↔ p.l2 = none := by rw [memOut_latch_eq_none p hme]; simp [memInput, hs]
    have hn0 := ifOut_none_iff_noInstr p hI hs
    rw [hs, pickStall_none]
    by_cases hst2 : latchStall (exOut p).latch = true
    · -- an ECALL starts draining
      obtain ⟨d, hd, hop, hw⟩ := exOut_stall p hex hst2
      have hd1 : p.l1 = some d := by simpa [exInput, hs] using hd
      have hf := hI.f1 d hd1
      simp only [hst2, if_true, nextStall_none_some]
      unfold Shape; dsimp only
      right
      refine ⟨rfl, Or.inl ⟨rfl, ?_⟩, ⟨{ d with flagged := true }, by simp [hd1], rfl, hop⟩, hno, ?_, ?_⟩
      rotate_right
      · cases hn : (exOut p).latch with
        | none => rw [hn] at hst2; cases hst2
        | some _ => rfl
      · -- the MEM latch is occupied
        cases h2 : p.l2 with
        | none =>
          have h3 := i1 (by simp [hd1]) h2
          simp [ecallMustWait, hf, h2, h3] at hw
        | some e =>
          cases hm : (memOut p).latch with
          | none => rw [e3.1 hm] at h2; cases h2
          | some _ => rfl
      · intro h0
        have h0' : p.l0 = none := by simpa using h0
        rcases i3 h0' with h | h
        · exact hn0.2 h
        · rw [hd1] at h; cases h
    · simp only [hst2, Bool.false_eq_true, if_false]
      by_cases hst1 : latchStall (idOut p) = true
      · simp only [hst1, if_true, nextStall_none_some]
        unfold Shape; dsimp only
        left
        have hl0 : p.l0.isSome = true := by
          cases h : p.l0 with
          | none => rw [e1.2 h] at hst1; cases hst1
          | some _ => rfl
        refine ⟨rfl, Or.inl rfl, hno, by simpa using hl0, ?_⟩
        unfold idOut; rw [idStage_isSome]; simpa [idInput, hs] using hl0
      · simp only [hst1, Bool.false_eq_true, if_false, nextStall_none_none]
        unfold Shape; dsimp only
        refine ⟨?_, ?_, ?_⟩
        · intro h1 h2; rw [e3]; apply i2 _ (e2.1 h2)
          cases h : p.l0 with
          | none => rw [e1.2 h] at h1; cases h1
          | some _ => rfl
        · intro h0 h1; rw [e2]
          have := e1.1 h1
          rcases i3 this with h | h
          · rw [hn0.2 h] at h0; cases h0
          · exact h
        · intro h0; exact Or.inl (hno h0)
  · -- stalled
    have hsh := hI.shape
    unfold Shape at hsh; rw [hs] at hsh
    have hn0 : (ifOut p).2 = p.l0 := by rw [ifOut_stalled p st hs]
    have e1 : idOut p = none ↔ st.p0 = none := by rw [idOut_eq_none]; simp [idInput, hs]
    rw [hs]
    rcases hsh with ⟨hk, hrem, _, hp0, _⟩ | ⟨hk, hrem, hef, _, s4, _⟩
    · -- ID stall
      have e2 : (exOut p).latch = none := by rw [exOut_latch_eq_none p hex]; simp [exInput, hs, hk]
      rw [pickStall_k1 st hk, e2]
      simp only [latchStall_none, Bool.false_eq_true, if_false, nextStall_some_none]
      rcases hrem with hr | ⟨hr, h2⟩
      · simp only [hr]
        unfold Shape; dsimp only
        left
        refine ⟨hk, Or.inr ⟨rfl, rfl⟩, hno, hp0, ?_⟩
        unfold idOut; rw [idStage_isSome]; simpa [idInput, hs] using hp0
      · have e3 : (memOut p).latch = none := by rw [memOut_latch_eq_none p hme]; simp [memInput, hs, hk, h2]
        simp only [hr]
        unfold Shape; dsimp only
        rw [e3]
        exact ⟨fun _ _ => rfl, fun _ _ => rfl, fun h => Or.inl (hno h)⟩
    · -- EX stall
      have e3 : (memOut p).latch = none := by rw [memOut_latch_eq_none p hme]; simp [memInput, hs, hk]
      rw [pickStall_k2 st hk, nextStall_some_none, e3]
      rcases hrem with ⟨hr, _⟩ | ⟨hr, _⟩
      · simp only [hr]
        unfold Shape; dsimp only
        right
        refine ⟨hk, Or.inr ⟨rfl, rfl⟩, hef, hno, fun h => by rw [hn0]; exact s4 h, ?_⟩
        obtain ⟨e, hp1, _, _⟩ := hef
        cases hn : (exOut p).latch with
        | none =>
          have := (exOut_latch_eq_none p hex).1 hn
          simp [exInput, hs, hk, hp1] at this
        | some _ => rfl
      · simp only [hr]
        unfold Shape; dsimp only
        refine ⟨fun _ _ => rfl, ?_, fun h => Or.inl (hno h)⟩
        intro h0 h1
        rw [hn0, s4 (e1.1 h1)] at h0; cases h0

theorem PInv_step (p : PSt) (hI : PInv p) (hf : (step p).fault = none) : PInv (step p).p := by
  obtain ⟨hex, hme⟩ := (step_fault_none_iff p).1 hf
  rw [step_p p hex hme]
  cases h4 : latchFlush (wbOut p).2 with
  | some a =>
    rw [nextP, finishStep_flush4 _ _ _ _ _ _ _ a h4]
    exact PInv_flushed p _ hI hex (by simp [stallBump_imem, memOut_imem]) rfl rfl (Or.inl rfl) rfl (fun _ => rfl)
  | none =>
    cases h3 : latchFlush (memOut p).latch with
    | some a =>
      rw [nextP, finishStep_flush3 _ _ _ _ _ _ _ a h4 h3]
      exact PInv_flushed p _ hI hex (by simp [stallBump_imem, memOut_imem]) rfl rfl (Or.inl rfl) rfl (fun _ => rfl)
    | none =>
      cases h2 : latchFlush (exOut p).latch with
      | some a =>
        -- an exiting ECALL ran in EX: nothing older is in flight and no stall survives
        obtain ⟨hm, _, hst⟩ := exFlush_drained p hI hex a h2
        rw [nextP, finishStep_flush2 _ _ _ _ _ _ _ a h4 h3 h2, hst]
        exact PInv_flushed p _ hI hex (by simp [stallBump_imem, memOut_imem]) rfl rfl (Or.inr rfl) rfl
          (by simp [(memOut_latch_eq_none p hme).2 hm])
      | none =>
        have hS := Shape_noflush p hI hex hme h4 h3 h2
        rw [nextP, finishStep_noflush _ _ _ _ _ _ _ h4 h3 h2] at hS ⊢
        refine PInv_of_parts p _ hI hex (by simp [stallBump_imem, memOut_imem]) (Or.inr rfl) (Or.inr rfl)
          (Or.inr rfl) (Or.inr ⟨_, rfl⟩) (fun hx => ?_) hS
        -- an exit latch leaving MEM would have raised a flush
        have := memOut_exit_flush p hI hme hx
        rw [h3] at this; cases this

end ArchSim.Pipe
