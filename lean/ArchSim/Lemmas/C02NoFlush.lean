/-
Cycles without flush: every instruction in flight advances by one stage or waits, and completing it
from its new register is completing it from the old one, so the abstraction of the next state is the
old one with the fetched instruction appended (`noflushC`). For ID this is the interlock argument:
the operands it read are final (`id_advance`).
-/
import ArchSim.Lemmas.C02Flush

namespace ArchSim.Pipe
open ArchSim ArchSim.Rv ArchSim.Lemmas.C02Split

theorem mid_regs (p : PSt) (r : Nat) (h2 : ¬ writes (memInput p) r)
    (h1 : ¬ writes (exInput p) r) :
    (mid p).st.regs r = (wbOut p).1.regs r := by
  unfold mid
  rw [bind_rel (R := fun s t => t.regs r = s.regs r) (fun _ => rfl) _ _ (fun s => cEX_regs_frame s _ r h1)]
  unfold older
  rw [bind_rel (R := fun s t => t.regs r = s.regs r) (fun _ => rfl) _ _ (fun s => cMEM_regs_frame s _ _ r h2),
    cWB_st, (wbOut_sim p).regs]

/-- No read-after-write hazard in decode: in an unstalled cycle in which ID raises no stall signal,
    the instruction in ID reads no register that the instructions in EX and MEM will still write.
    With hazard detection on this always holds (`rawFree_of_hazard`); with detection off it is the
    hazard-freedom condition on the program (C08). -/
def RawFree (p : PSt) : Prop :=
  p.stalled = none → latchStall (idOut p) = false → ∀ f, p.l0 = some f → ∀ r,
    ((accessRegs f.instr (wbOut p).1.regs).a1 = some r ∨ (accessRegs f.instr (wbOut p).1.regs).a2 = some r) →
    ¬ writes p.l1 r ∧ ¬ writes p.l2 r

theorem rawFree_of_hazard (p : PSt) (hI : PInv p) (hz : p.hazard = true) : RawFree p := by
  intro hs hn1 f h0 r hr
  have hid : idInput p = p.l0 := by simp [idInput, hs]
  unfold idOut at hn1
  rw [hid, h0, idStage_some, latchStall_some] at hn1
  simp only [idLatch, idStall, hz, Bool.true_and, Bool.or_eq_false_iff] at hn1
  exact ⟨not_writes_of_no_hazard _ p.l1 hI.w1 hn1.1 r hr, not_writes_of_no_hazard _ p.l2 hI.w2 hn1.2 r hr⟩

/-- The interlock lemma: if the instruction in ID reads no register that the instructions in EX and
    MEM will still write, the values ID read are those a sequential execution reads after the older
    in-flight instructions completed: the decoded latch is final. This is so in an unstalled cycle
    in which ID signals no hazard (`RawFree`) and in the last cycle of a stall, when nothing that
    writes a register is left in EX and MEM. -/
theorem id_advance (p : PSt)
    (h : ∀ f, idInput p = some f → ∀ r,
      ((accessRegs f.instr (wbOut p).1.regs).a1 = some r ∨ (accessRegs f.instr (wbOut p).1.regs).a2 = some r) →
      ¬ writes (exInput p) r ∧ ¬ writes (memInput p) r) :
    cEX (mid p).st (idOut p) = cID (mid p).st (idInput p) := by
  unfold idOut
  cases h0 : idInput p with
  | none => rfl
  | some f =>
    apply cEX_idStage
    apply accessRegs_congr
    intro r hr
    obtain ⟨w1, w2⟩ := h f h0 r hr
    rw [mid_regs p r w2 w1]

/-! ### The abstraction of the next state -/

/-- What the abstraction of the next state has to be in a cycle without flush. -/
def noflushC (p : PSt) : Comp :=
  ((mid p).bind (fun s => cID s (idInput p))).bind (fun s => cID s (ifOut p).2)

theorem noflushC_unstalled (p : PSt) (hs : p.stalled = none) :
    noflushC p = (absC p).bind (fun s => cID s (ifOut p).2) := by
  unfold noflushC; rw [absC_eq]; simp [ifEntry, hs, mid]

theorem noflushC_stalled (p : PSt) (st : Stall) (hs : p.stalled = some st) : noflushC p = absC p := by
  unfold noflushC; rw [absC_eq, ifOut_stalled p st hs]; simp [ifEntry, hs, mid]

/-- The abstraction of the next state by its stall mode: `absC_next_unstalled`, `_idStall`, `_exStall`. `hA`:
    what the next state holds in MEM/WB and EX/MEM completes, after `pre`, like the three oldest entries of
    `p` (from `ex_advance`); under an EX stall MEM/WB alone like the two oldest (from `ex_wait`: the waiting
    ecall is completed from the preserved `p1`). `hid`, `hex`: the register that moved or was preserved
    completes like the stage input of `p` it came from. -/
theorem absC_next_unstalled {pre : List Int} (p : PSt) (s' : St) (n0 n2 n3 n4 : Option Latch)
    (hA : CSimL pre ((cWB s' n3 none).bind (fun s => cMEM s n2 none)) (mid p))
    (hid : cEX (mid p).st (idOut p) = cID (mid p).st (idInput p)) :
    CSimL pre (absC { p with st := s', l0 := n0, l1 := idOut p, l2 := n2, l3 := n3, l4 := n4, stalled := none })
      (((mid p).bind (fun s => cID s (idInput p))).bind (fun s => cID s n0)) := by
  have ho : absC { p with st := s', l0 := n0, l1 := idOut p, l2 := n2, l3 := n3, l4 := n4, stalled := none } =
      (((cWB s' n3 none).bind (fun s => cMEM s n2 none)).bind (fun s => cEX s (idOut p))).bind
        (fun s => cID s n0) := by
    simp [absC, memInput, exInput, idInput, ifEntry]
  rw [ho]
  apply bind_sim
  · apply bind_sim_live hA
    intro _
    rw [← hid]
    exact cEX_sim hA.2 _
  · intro s t hst; exact cID_sim hst _

theorem absC_next_idStall {pre : List Int} (p : PSt) (s' : St) (n0 n1 n2 n3 n4 : Option Latch) (st' : Stall) (hk : st'.k = 1)
    (hA : CSimL pre ((cWB s' n3 none).bind (fun s => cMEM s n2 none)) (mid p))
    (hid : ∀ s, cID s st'.p0 = cID s (idInput p)) :
    CSimL pre (absC { p with st := s', l0 := n0, l1 := n1, l2 := n2, l3 := n3, l4 := n4, stalled := some st' })
      (((mid p).bind (fun s => cID s (idInput p))).bind (fun s => cID s n0)) := by
  have ho : absC { p with st := s', l0 := n0, l1 := n1, l2 := n2, l3 := n3, l4 := n4, stalled := some st' } =
      (((cWB s' n3 none).bind (fun s => cMEM s n2 none)).bind (fun s => cID s st'.p0)).bind
        (fun s => cID s n0) := by
    simp [absC, memInput, exInput, idInput, ifEntry, hk]
  rw [ho]
  apply bind_sim
  · apply bind_sim hA
    intro s t hst
    rw [hid]
    exact cID_sim hst _
  · intro s t hst; exact cID_sim hst _

theorem absC_next_exStall {pre : List Int} (p : PSt) (s' : St) (n0 n1 n2 n3 n4 : Option Latch) (st' : Stall) (hk : st'.k = 2)
    (hA : CSimL pre (cWB s' n3 none) (older p))
    (hex : ∀ s, cEX s st'.p1 = cEX s (exInput p))
    (hid : ∀ s, cID s st'.p0 = cID s (idInput p)) :
    CSimL pre (absC { p with st := s', l0 := n0, l1 := n1, l2 := n2, l3 := n3, l4 := n4, stalled := some st' })
      (((mid p).bind (fun s => cID s (idInput p))).bind (fun s => cID s n0)) := by
  have ho : absC { p with st := s', l0 := n0, l1 := n1, l2 := n2, l3 := n3, l4 := n4, stalled := some st' } =
      (((cWB s' n3 none).bind (fun s => cEX s st'.p1)).bind (fun s => cID s st'.p0)).bind
        (fun s => cID s n0) := by
    simp [absC, memInput, exInput, idInput, ifEntry, hk]
  rw [ho]
  unfold mid
  apply bind_sim
  · apply bind_sim
    · apply bind_sim hA
      intro s t hst
      rw [hex]
      exact cEX_sim hst _
    · intro s t hst
      rw [hid]
      exact cID_sim hst _
  · intro s t hst; exact cID_sim hst _

theorem exOut_nostall_of (p : PSt) (hex : (exOut p).fault = none) (d : Latch) (hd : exInput p = some d)
    (hw : ecallMustWait d p.l2 p.l3 = false) : latchStall (exOut p).latch = false := by
  cases h : latchStall (exOut p).latch with
  | false => rfl
  | true =>
    obtain ⟨d', hd', _, hw'⟩ := exOut_stall p hex h
    rw [hd] at hd'; cases hd'; rw [hw] at hw'; cases hw'

/-! ### A cycle without flush
Standing hypotheses of this section: the invariant holds, no stage faults, no latch raises a flush. -/

section NoFlush
variable (p : PSt) (hI : PInv p) (hex : (exOut p).fault = none) (hme : (memOut p).fault = none)
  (h4 : latchFlush (wbOut p).2 = none) (h3 : latchFlush (memOut p).latch = none)
  (h2 : latchFlush (exOut p).latch = none)
include hI hex hme h4 h3 h2

theorem ex_advance (hns : latchStall (exOut p).latch = false) (s' : St) (hs' : Sim s' (memOut p).st) :
    CSimL (latchLog p.l3) ((cWB s' (memOut p).latch none).bind (fun s => cMEM s (exOut p).latch none))
      (mid p) := by
  unfold mid
  have hx := latchExit_of_wbflush_none p h4
  -- the case where EX leaves the state alone
  have noexec : (exOut p).st = (wbOut p).1 →
      (∀ s t, Sim s t → CSim (cMEM s (exOut p).latch none) (cEX t (exInput p))) →
      CSimL (latchLog p.l3) ((cWB s' (memOut p).latch none).bind (fun s => cMEM s (exOut p).latch none))
        ((older p).bind (fun s => cEX s (exInput p))) := by
    intro hsx hpt
    have hold := older_advance p hx hsx hme
    rw [h3] at hold
    exact bind_sim (CSimL.trans_left (cWB_sim hs' _ _) hold) hpt
  cases hd : exInput p with
  | none =>
    have hn2 := exOut_latch_of_none p hd
    apply (hd ▸ noexec) (by unfold exOut; rw [hd]; rfl)
    intro s t hst
    rw [hn2]; exact ⟨rfl, hst, rfl⟩
  | some d =>
    by_cases hop : d.instr.op = .ecall
    · cases hw : ecallMustWait d p.l2 p.l3
      · -- the ECALL runs
        obtain ⟨hm, hl3⟩ := (ecall_runs_iff p hI d hd).1 hw
        have hc := mid_of_ecall_run p hI hex d hd hop hw
        rw [mid, h2, hd] at hc
        rw [(memOut_latch_eq_none p hme).2 hm, cWB_none, finishC_none, bind_pure, hl3]
        exact (cMEM_sim hs' _ _).trans hc.symm
      · -- a waiting ECALL: excluded
        have hl := exStage_ecall_wait (wbOut p).1 d p.l2 p.l3 hop hw
        unfold exOut at hns; rw [hd, hl] at hns; simp at hns
    · have hfd : (exStage (wbOut p).1 (some d) p.l2 p.l3).fault = none := by
        have := hex; unfold exOut at this; rw [hd] at this; exact this
      apply (hd ▸ noexec)
      · unfold exOut; rw [hd, exStage_nonEcall_alu _ d _ _ hop]; split <;> rfl
      · intro s t hst
        rw [cEX_eq_cMEM_nonecall (wbOut p).1 d p.l2 p.l3 hop hfd t]
        unfold exOut; rw [hd]
        exact cMEM_sim hst _ _

omit hI h2 in
theorem ex_wait (hst : latchStall (exOut p).latch = true) (s' : St) (hs' : Sim s' (memOut p).st) :
    CSimL (latchLog p.l3) (cWB s' (memOut p).latch none) (older p) := by
  obtain ⟨d, hd, hop, hw⟩ := exOut_stall p hex hst
  have hsx : (exOut p).st = (wbOut p).1 := by
    unfold exOut; rw [hd, exStage_ecall_wait _ d _ _ hop hw]
  have hold := older_advance p (latchExit_of_wbflush_none p h4) hsx hme
  rw [h3] at hold
  exact CSimL.trans_left (cWB_sim hs' _ _) hold

theorem abs_noflush (hz : RawFree p) : CSimL (latchLog p.l3) (absC (nextP p)) (noflushC p) := by
  rw [nextP, finishStep_noflush _ _ _ _ _ _ _ h4 h3 h2]
  have hs' : Sim (stallBump (pickStall p.stalled (idOut p) (exOut p).latch) (memOut p).st) (memOut p).st :=
    stallBump_sim _ _
  generalize stallBump (pickStall p.stalled (idOut p) (exOut p).latch) (memOut p).st = s' at hs' ⊢
  rcases Option.eq_none_or_eq_some p.stalled with hs | ⟨st, hs⟩
  · -- unstalled
    have hid : idInput p = p.l0 := by simp [idInput, hs]
    have hei : exInput p = p.l1 := by simp [exInput, hs]
    rw [hs, pickStall_none]
    unfold noflushC
    by_cases hst2 : latchStall (exOut p).latch = true
    · simp only [hst2, if_true, nextStall_none_some]
      apply absC_next_exStall _ _ _ _ _ _ _ _ rfl (ex_wait p hex hme h4 h3 hst2 s' hs')
      · intro s; rw [hei]; exact cEX_setFlag s _
      · intro s; rw [hid]; exact cID_setFlag s _
    · have hst2' : latchStall (exOut p).latch = false := by simpa using hst2
      simp only [hst2', Bool.false_eq_true, if_false]
      have hA := ex_advance p hI hex hme h4 h3 h2 hst2' s' hs'
      by_cases hst1 : latchStall (idOut p) = true
      · simp only [hst1, if_true, nextStall_none_some]
        apply absC_next_idStall _ _ _ _ _ _ _ _ rfl hA
        intro s; rw [hid]; exact cID_setFlag s _
      · have hst1' : latchStall (idOut p) = false := by simpa using hst1
        simp only [hst1', Bool.false_eq_true, if_false, nextStall_none_none]
        apply absC_next_unstalled _ _ _ _ _ _ hA
        apply id_advance p
        rw [hid, hei, show memInput p = p.l2 by simp [memInput, hs]]
        exact hz hs hst1'
  · -- stalled
    have hsh := hI.shape
    unfold Shape at hsh; rw [hs] at hsh
    have hid : idInput p = st.p0 := by simp [idInput, hs]
    rw [hs]
    unfold noflushC
    rcases hsh with ⟨hk, hrem, _⟩ | ⟨hk, hrem, ⟨e, hp1, hfl, hop⟩, _, _⟩
    · -- ID stall
      have hei : exInput p = none := by simp [exInput, hs, hk]
      have hn2 : (exOut p).latch = none := exOut_latch_of_none p hei
      have hns : latchStall (exOut p).latch = false := by rw [hn2]; rfl
      have hA := ex_advance p hI hex hme h4 h3 h2 hns s' hs'
      rw [pickStall_k1 st hk, hns]
      simp only [Bool.false_eq_true, if_false, nextStall_some_none]
      rcases hrem with hr | ⟨hr, hl2⟩
      · simp only [hr]
        refine absC_next_idStall p s' (ifOut p).2 (idOut p) (exOut p).latch (memOut p).latch (wbOut p).2 _ hk hA ?_
        intro s; rw [hid]
      · simp only [hr]
        apply absC_next_unstalled _ _ _ _ _ _ hA
        apply id_advance p
        rw [memInput_none_of_l2 p hl2, hei]
        exact fun _ _ r _ => ⟨writes_none r, writes_none r⟩
    · -- EX stall
      have hei : exInput p = some e := by simp [exInput, hs, hk, hp1]
      have hmi : memInput p = none := by simp [memInput, hs, hk]
      rw [pickStall_k2 st hk, nextStall_some_none]
      rcases hrem with ⟨hr, hl3⟩ | ⟨hr, hl3⟩
      · simp only [hr]
        have hw : ecallMustWait e p.l2 p.l3 = true := by simp [ecallMustWait, hfl, hl3]
        have hst2 : latchStall (exOut p).latch = true := by
          unfold exOut; rw [hei, exStage_ecall_wait _ e _ _ hop hw]; rfl
        refine absC_next_exStall p s' (ifOut p).2 (idOut p) (exOut p).latch (memOut p).latch (wbOut p).2 _ hk
          (ex_wait p hex hme h4 h3 hst2 s' hs') ?_ ?_
        · intro s; rw [hei, hp1]
        · intro s; rw [hid]
      · simp only [hr]
        have hw : ecallMustWait e p.l2 p.l3 = false := by simp [ecallMustWait, hfl, hl3]
        have hns := exOut_nostall_of p hex e hei hw
        have hA := ex_advance p hI hex hme h4 h3 h2 hns s' hs'
        apply absC_next_unstalled _ _ _ _ _ _ hA
        apply id_advance p
        rw [hmi, hei, ← hp1]
        have hS := hI.okS st hs
        exact fun _ _ r _ => ⟨ecall_not_writes _ hS.2.1 hS.2.2.1 (fun x hx => by rw [hp1] at hx; cases hx; exact hop) r,
          writes_none r⟩

end NoFlush

end ArchSim.Pipe
