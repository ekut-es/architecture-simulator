/-
Letter case: the caseless scanners find the same symbol of their table on every case variant of it, whatever follows.
`X_cv`: the scanner `X` returns the same on the word and on its case variants.
-/
import ArchSim.Lemmas.C04SpellNumSp

namespace ArchSim.Lemmas.C04Spell
open ArchSim ArchSim.PP ArchSim.Rv ArchSim.Asm ArchSim.Lemmas.C14

theorem caseVar_recase (sel : Nat → Bool) (w : List Char) (h : ∀ c ∈ w, isLow c = true) :
    CaseVar (recase sel w) w := by
  refine ⟨?_, h⟩
  have ht : ∀ c ∈ lowList, toLowerAscii c.toUpper = c ∧ toLowerAscii c.toLower = c := by decide +kernel
  have := recase_map toLowerAscii sel w (fun c hc => by
    have h1 := ht c (isLow_mem c (h c hc))
    have h2 := (low_fixed c (isLow_mem c (h c hc))).1
    exact ⟨by rw [h1.1, h2], by rw [h1.2, h2]⟩)
  rw [this]
  exact (CaseVar.refl h).1

/-- what `oneOfCaseless` looks at in the result of `rePrefix` -/
def outcome (x : Option (List Char × Inp)) : Option (Bool × Inp) := x.map (fun p => (lowersTo p.1, p.2))

def goStep (s : String) (o : Option (Bool × Inp)) (k : R String) : R String :=
  match o with
  | some (b, rest) => if b then .ok s rest else .abort
  | none => k

theorem go_cons (i : Inp) (s : String) (ss : List String) :
    oneOfCaseless.go i (s :: ss) = goStep s (outcome (rePrefix s.toList i)) (oneOfCaseless.go i ss) := by
  simp only [oneOfCaseless.go, outcome, goStep]
  cases rePrefix s.toList i with
  | none => rfl
  | some p => rfl

theorem outcome_rePrefix_cons (p c : Char) (ps : List Char) (i : Inp) :
    outcome (rePrefix (p :: ps) (c :: i)) =
      if reCharMatch p c then (outcome (rePrefix ps i)).map (fun q => (lowersTo [c] && q.1, q.2)) else none := by
  simp only [rePrefix, outcome]
  split
  · cases rePrefix ps i <;> simp [lowersTo]
  · rfl

/-- The idea of the file. A symbol at least as long as the word fails inside the word, at the same place on both variants,
    or consumes the whole word and goes on in the SAME `rest`. A shorter symbol would leave a piece of `w'` resp. `w` in
    the remaining input, and the two outcomes would differ. The symbols `longestFirst` tries before `m` are at least as
    long as `m` (`longestFirst_split`): `hpre` of `go_cv`. -/
theorem rePrefix_outcome (sym w' w rest : List Char) (hv : CaseVar w' w) (hlen : w.length ≤ sym.length) :
    outcome (rePrefix sym (w' ++ rest)) = outcome (rePrefix sym (w ++ rest)) := by
  induction sym generalizing w' w with
  | nil =>
    have hw : w = [] := List.length_eq_zero_iff.mp (by simpa using hlen)
    subst hw
    have hw' := hv.eq_nil
    subst hw'
    rfl
  | cons p ps ih =>
    cases w' with
    | nil => have hw := hv.of_nil; subst hw; rfl
    | cons c' cs' =>
      obtain ⟨c, cs, rfl, hlc, hcl, hc'l, hv'⟩ := hv.cons
      have hm : reCharMatch p c' = reCharMatch p c := by
        rw [reCharMatch_ascii p c' (letter_facts c' hc'l).ascii, reCharMatch_ascii p c (low_fixed c hcl).2, hlc,
          (low_fixed c hcl).1]
      rw [List.cons_append, List.cons_append, outcome_rePrefix_cons, outcome_rePrefix_cons, hm,
        ih cs' cs hv' (by simpa using hlen), (letter_facts c' hc'l).lowers, (low_facts c hcl).2]

theorem rePrefix_self (w rest : List Char) (hw : ∀ c ∈ w, isLow c = true) :
    rePrefix w (w ++ rest) = some (w, rest) := by
  induction w with
  | nil => rfl
  | cons c cs ih =>
    have hcl := isLow_mem c (hw c (by simp))
    have hm : reCharMatch c c = true := by
      rw [reCharMatch_ascii c c (low_fixed c hcl).2]; simp
    simp only [List.cons_append, rePrefix, hm, if_true, ih (fun x hx => hw x (by simp [hx]))]

theorem go_cv (pre post : List String) (m : String) (w' rest : List Char) (hv : CaseVar w' m.toList)
    (hpre : ∀ s ∈ pre, m.toList.length ≤ s.toList.length) :
    oneOfCaseless.go (w' ++ rest) (pre ++ m :: post) = oneOfCaseless.go (m.toList ++ rest) (pre ++ m :: post) := by
  induction pre with
  | nil =>
    simp only [List.nil_append, go_cons, rePrefix_outcome m.toList w' m.toList rest hv (Nat.le_refl _),
      rePrefix_self m.toList rest hv.2]
    rfl
  | cons s pre ih =>
    simp only [List.cons_append, go_cons,
      rePrefix_outcome s.toList w' m.toList rest hv (hpre s (by simp)),
      ih (fun t ht => hpre t (by simp [ht]))]

theorem longestFirst_split (syms : List String) (m : String) (hm : m ∈ syms) :
    ∃ pre post, longestFirst syms = pre ++ m :: post ∧ ∀ s ∈ pre, m.toList.length ≤ s.toList.length := by
  obtain ⟨pre, post, hL⟩ := List.append_of_mem (mem_longestFirst.mpr hm)
  refine ⟨pre, post, hL, ?_⟩
  have hpw := pairwise_longestFirst syms
  rw [hL, List.pairwise_append] at hpw
  intro s hs
  have := hpw.2.2 s hs m (by simp)
  rw [String.length_toList, String.length_toList]
  exact this

/-- Beside C14Scan's `oneOfCaseless_var` (closed form, needs a non-letter after the word): no condition on what follows;
    the length argument of `rePrefix_outcome` is about the symbols tried before `m`, hence `m` must be a symbol of the
    table. -/
theorem oneOfCaseless_cv (syms : List String) (m : String) (hm : m ∈ syms) (w' rest : List Char)
    (hv : CaseVar w' m.toList) :
    oneOfCaseless syms (w' ++ rest) = oneOfCaseless syms (m.toList ++ rest) := by
  by_cases hne : m.toList = []
  · rw [hne] at hv ⊢
    rw [hv.eq_nil]
  · obtain ⟨pre, post, hL, hpre⟩ := longestFirst_split syms m hm
    unfold oneOfCaseless
    simp only [skipWs_var w' m.toList rest hv hne, skipWs_var m.toList m.toList rest (CaseVar.refl hv.2) hne, hL]
    exact go_cv pre post m w' rest hv hpre

theorem caselessLit_cv (kw : String) (w' w rest : List Char) (hv : CaseVar w' w)
    (hlen : w.length ≤ kw.toList.length) : caselessLit kw (w' ++ rest) = caselessLit kw (w ++ rest) := by
  by_cases hne : w = []
  · subst hne
    rw [hv.eq_nil]
  · unfold caselessLit
    simp only [skipWs_var w' w rest hv hne, skipWs_var w w rest (CaseVar.refl hv.2) hne]
    have hl' : w'.length ≤ kw.toList.length := by rw [hv.length]; exact hlen
    have h1 : ((w' ++ rest).take kw.toList.length).length = ((w ++ rest).take kw.toList.length).length := by
      simp [hv.length]
    have h2 : ((w' ++ rest).take kw.toList.length).map upperAscii = ((w ++ rest).take kw.toList.length).map upperAscii := by
      rw [List.map_take, List.map_take, List.map_append, List.map_append, hv.upper]
    have h3 : (w' ++ rest).drop kw.toList.length = (w ++ rest).drop kw.toList.length := by
      rw [List.drop_append, List.drop_append, List.drop_of_length_le hl', List.drop_of_length_le hlen, hv.length]
    rw [h1, h2, h3]

end ArchSim.Lemmas.C04Spell
