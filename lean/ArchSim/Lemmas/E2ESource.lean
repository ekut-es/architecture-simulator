/-
The source-level form of the "supported" side condition: if no line of the source text is tokenized with `ebreak`, `fence`
or a CSR mnemonic, every operation of the stored program is in the supported set, because expansion introduces no
unsupported mnemonic and the operation of a built object is the one its tree's mnemonic names.
-/
import ArchSim.Lemmas.E2EState

namespace ArchSim.Lemmas.E2E
open ArchSim ArchSim.PP ArchSim.Rv ArchSim.Asm ArchSim.Lemmas.C14

/-- the mnemonics outside the supported set -/
def unsupMn : List String := ["ebreak", "fence"] ++ csrMn ++ csriMn

/-- the item does not carry an unsupported mnemonic (`itemMnemonic`: the bare word, or the mnemonic of the tree) -/
def ItemSup (it : Item) : Prop := ∀ m, itemMnemonic it = some m → m ∉ unsupMn

/-- the line is not tokenized with an unsupported mnemonic -/
def LineSupported (l : List Char) : Prop := ∀ t, parseLine l = some t → ItemSup t.item

/-- No line of the text (after comment stripping) uses `ebreak`, `fence` or a CSR mnemonic. -/
def SourceSupported (text : String) : Prop := ∀ p ∈ sanitize text, LineSupported p.2

theorem supported_of_mnemonic : ∀ op : Op, op.mnemonic ∉ unsupMn → op.supported = true :=
  forall_op (by decide +kernel)

theorem buildInstrs_supported (ls : Labels) (es : List TEntry) (addr : Int) (prog : List Instr)
    (hg : GrammarEntries es) (hs : ∀ e ∈ es, ItemSup e.2.2) (h : buildInstrs ls es addr = .ok prog) :
    ∀ i ∈ prog, i.op.supported = true := by
  intro i hi
  rcases buildInstrs_mem ls es addr prog h i hi with h1 | ⟨_, e, he, hx⟩ | ⟨e, he, pi, a, hpi, hin⟩
  · rw [h1]; rfl
  · exact absurd (by decide) (hs e he "ebreak" (by rw [hx]; rfl))
  · obtain ⟨_, mn, hmn, ho⟩ := instantiate_spec ls a e.1 e.2.1 pi i (hg e he pi hpi) hin
    apply supported_of_mnemonic
    rw [ofMnemonic_eq ho]
    exact hs e he mn (by rw [hpi]; exact hmn)

theorem sup_lui (a : Nat) (v : Int) : ItemSup (.grp (.utype "lui" a v)) := by
  intro m hm; cases hm; show "lui" ∉ unsupMn; decide +kernel

theorem sup_addi (a b : Nat) (v : Int) : ItemSup (.grp (.rri "addi" a b v)) := by
  intro m hm; cases hm; show "addi" ∉ unsupMn; decide +kernel

/-- pseudo-instruction expansion introduces no unsupported mnemonic: it emits `lui`, `addi` and the load / store of
    the pseudo-instruction itself -/
theorem expandOne_sup (vars : Vars) (e : TEntry) (g : List TEntry) (he : ItemSup e.2.2)
    (h : expandOne vars e = .ok g) : ∀ x ∈ g, ItemSup x.2.2 := by
  obtain ⟨k, line, it⟩ := e
  unfold expandOne at h
  simp only at h
  split at h
  · cases h; exact List.forall_mem_singleton.2 (sup_addi _ _ _)
  · split at h
    · cases h; exact List.forall_mem_cons.2 ⟨sup_lui _ _, List.forall_mem_singleton.2 (sup_addi _ _ _)⟩
    · cases h; exact List.forall_mem_singleton.2 (sup_addi _ _ _)
  · next mn r1 v idx =>
    have hmn : ItemSup (.grp (.mem mn r1 0 r1)) := fun m hm => by cases hm; exact he mn rfl
    split at h
    · cases h
    · split at h
      · cases h; exact List.forall_mem_cons.2 ⟨sup_lui _ _, List.forall_mem_singleton.2 (sup_addi _ _ _)⟩
      · cases h
        exact List.forall_mem_cons.2 ⟨sup_lui _ _, List.forall_mem_cons.2 ⟨sup_addi _ _ _,
          List.forall_mem_singleton.2 hmn⟩⟩
  · next mn r1 v idx r2 =>
    have hmn : ItemSup (.grp (.mem mn r1 0 r2)) := fun m hm => by cases hm; exact he mn rfl
    split at h
    · cases h
    · cases h
      exact List.forall_mem_cons.2 ⟨sup_lui _ _, List.forall_mem_cons.2 ⟨sup_addi _ _ _,
        List.forall_mem_singleton.2 hmn⟩⟩
  · cases h; exact List.forall_mem_singleton.2 (sup_addi _ _ _)
  · cases h; exact List.forall_mem_singleton.2 he

theorem load_supported_of_source (s : St) (text : String) (h : (load s text).err = none)
    (hsrc : SourceSupported text) : AllSupported (load s text).st.imem.prog := by
  obtain ⟨ls, es, hes, hb⟩ := load_ok_entries (P := fun it => ItemForm it ∧ ItemSup it) s text h
    (fun p hp t ht => ⟨parseLine_form ht, hsrc p hp t ht⟩)
    (fun vars e g he hg x hx => ⟨expandOne_form vars e g he.1 hg x hx, expandOne_sup vars e g he.2 hg x hx⟩)
  exact buildInstrs_supported ls es 0 _ (fun e he => (hes e he).1) (fun e he => (hes e he).2) hb

end ArchSim.Lemmas.E2E
