/-
The life cycle of a simulation: done is a fixed point of `step` and `run`, `step` returns
`not is_done()`, `run` is `step` iterated (when it ends normally in a done state: `Sim.exec` iterated, in either mode)
and does not depend on the fuel once it has ended; empty programs are done; an exit code makes a state done for good.
-/
import ArchSim.Lemmas.C13Load
import ArchSim.Spec.Iter
import ArchSim.Lemmas.SimStep

namespace ArchSim.Sim
open ArchSim
variable {s : RSim}

/-! ### calls on a simulation -/

/-- The state after one `step()` call (whether or not it raised). -/
def stepS (s : RSim) : RSim := (step s).sim

def stepFaults (s : RSim) : Bool := (step s).fault.isSome

def runS (n : Nat) (s : RSim) : RSim := (run n s).1

/-- An API call that can advance a simulation: `step()` or `run()` (with the fuel of the model). -/
inductive Call where
  | step
  | run (fuel : Nat)
deriving Repr, DecidableEq

def call (s : RSim) : Call → RSim
  | .step => stepS s
  | .run n => runS n s

def calls (s : RSim) (cs : List Call) : RSim := cs.foldl call s

/-- `step` applied while the simulation is not done and no step has raised, at most `n` times. -/
def iterStep : Nat → RSim → RSim
  | 0, s => s
  | n + 1, s =>
    if isDone s then s
    else if stepFaults s then stepS s
    else iterStep n (stepS s)

/-! ### done is stable -/

theorem stepS_done (h : isDone s = true) : stepS s = s := by
  simp [stepS, step_done h]

theorem run_done (h : isDone s = true) (n : Nat) : run n s = (s, 0, none) := by
  cases n <;> simp [run, h]

theorem runS_done (h : isDone s = true) (n : Nat) : runS n s = s := by
  simp [runS, run_done h]

theorem call_done (h : isDone s = true) (c : Call) : call s c = s := by
  cases c <;> simp [call, stepS_done h, runS_done h]

theorem calls_done (h : isDone s = true) (cs : List Call) : calls s cs = s := by
  induction cs with
  | nil => rfl
  | cons c cs ih => simp only [calls, List.foldl_cons, call_done h c]; exact ih

theorem iter_stepS_done {s : RSim} (h : isDone s = true) (n : Nat) : iter stepS n s = s :=
  iter_fixed stepS s (stepS_done h) n

/-! ### the return value of `step` -/

theorem stepS_exec (hd : isDone s = false) :
    stepS s = { s with p := (exec s.five s.p).1, started := true } := by
  unfold stepS; rw [step_exec hd]

theorem step_ret (s : RSim) (hf : (step s).fault = none) : (step s).ret = !isDone (step s).sim := by
  cases hd : isDone s with
  | true => rw [step_done hd]; simp [hd]
  | false => rw [step_exec hd] at hf ⊢; simp only at hf; simp [hf, isDone_eq]

theorem step_ret_fault (s : RSim) (hf : (step s).fault ≠ none) : (step s).ret = false := by
  cases hd : isDone s with
  | true => rw [step_done hd]
  | false => rw [step_exec hd] at hf ⊢; simp only at hf; simp [hf]

theorem step_five (s : RSim) : (step s).sim.five = s.five := by
  cases hd : isDone s with
  | true => rw [step_done hd]
  | false => rw [step_exec hd]

theorem step_started (s : RSim) (hd : isDone s = false) : (step s).sim.started = true := by
  rw [step_exec hd]

/-! ### `run` is iterated `step` -/

theorem run_zero (s : RSim) : run 0 s = (s, 0, none) := rfl

theorem run_succ_done {s : RSim} (h : isDone s = true) (n : Nat) : run (n + 1) s = (s, 0, none) :=
  run_done h _

theorem run_succ_fault (h : isDone s = false) {f} (hf : (step s).fault = some f) (n : Nat) :
    run (n + 1) s = ((step s).sim, 0, some f) := by
  simp [run, h, hf]

theorem run_succ_ok (h : isDone s = false) (hf : (step s).fault = none) (n : Nat) :
    run (n + 1) s = ((run n (step s).sim).1, (run n (step s).sim).2.1 + 1, (run n (step s).sim).2.2) := by
  simp [run, h, hf]

theorem run_eq_iterStep (n : Nat) (s : RSim) : (run n s).1 = iterStep n s := by
  induction n generalizing s with
  | zero => rfl
  | succ n ih =>
    cases hd : isDone s with
    | true => simp [run_done hd, iterStep, hd]
    | false =>
      cases hf : (step s).fault with
      | some f => simp [run_succ_fault hd hf, iterStep, hd, stepFaults, hf, stepS]
      | none => simp [run_succ_ok hd hf, iterStep, hd, stepFaults, hf, stepS, ih]

theorem run_iter (n : Nat) (s : RSim) :
    ∃ k, k ≤ n ∧ (run n s).2.1 = k ∧
      (∀ j, j < k → isDone (iter stepS j s) = false ∧ (step (iter stepS j s)).fault = none) ∧
      (((run n s).2.2 = none ∧ (run n s).1 = iter stepS k s ∧ (k < n → isDone (iter stepS k s) = true)) ∨
       (∃ f, (run n s).2.2 = some f ∧ k < n ∧ isDone (iter stepS k s) = false ∧
          (step (iter stepS k s)).fault = some f ∧ (run n s).1 = iter stepS (k + 1) s)) := by
  -- along the recursion of `run`: no fuel; done; the first step raises; the first step succeeds
  -- (`iter stepS (j + 1) s` is `iter stepS j (step s).sim` by unfolding)
  fun_induction run n s with
  | case1 s =>
    exact ⟨0, Nat.le_refl _, rfl, fun j hj => absurd hj (Nat.not_lt_zero _),
      .inl ⟨rfl, rfl, fun h => absurd h (Nat.lt_irrefl _)⟩⟩
  | case2 n s hd =>
    exact ⟨0, Nat.zero_le _, rfl, fun j hj => absurd hj (Nat.not_lt_zero _), .inl ⟨rfl, rfl, fun _ => hd⟩⟩
  | case3 n s hd r f hf =>
    exact ⟨0, Nat.zero_le _, rfl, fun j hj => absurd hj (Nat.not_lt_zero _),
      .inr ⟨f, rfl, Nat.succ_pos _, Bool.not_eq_true _ ▸ hd, hf, rfl⟩⟩
  | case4 n s hd r hf s' c f hr ih =>
    rw [hr] at ih
    obtain ⟨k, hk, hc, hpre, hpost⟩ := ih
    refine ⟨k + 1, by omega, congrArg (· + 1) hc, fun j hj => ?_, ?_⟩
    · cases j with
      | zero => exact ⟨Bool.not_eq_true _ ▸ hd, hf⟩
      | succ j => exact hpre j (by omega)
    · rcases hpost with ⟨h1, h2, h3⟩ | ⟨f', h1, h2, h3, h4, h5⟩
      · exact .inl ⟨h1, h2, fun h => h3 (by omega)⟩
      · exact .inr ⟨f', h1, by omega, h3, h4, h5⟩

theorem run_fuel {n : Nat} (h : isDone (run n s).1 = true ∨ (run n s).2.2 ≠ none)
    {m : Nat} (hm : n ≤ m) : run m s = run n s := by
  induction n generalizing s m with
  | zero =>
    have hd : isDone s = true := h.resolve_right (fun hf => hf rfl)
    rw [run_done hd, run_done hd]
  | succ n ih =>
    obtain ⟨m, rfl⟩ : ∃ m', m = m' + 1 := ⟨m - 1, by omega⟩
    cases hds : isDone s with
    | true => rw [run_done hds, run_done hds]
    | false =>
      cases hfs : (step s).fault with
      | some f => rw [run_succ_fault hds hfs, run_succ_fault hds hfs]
      | none =>
        rw [run_succ_ok hds hfs] at h ⊢
        rw [run_succ_ok hds hfs, ih h (by omega)]

theorem run_stops (n : Nat) (s : RSim) :
    isDone (run n s).1 = true ∨ (run n s).2.2 ≠ none ∨ (run n s).2.1 = n := by
  obtain ⟨k, hk, hc, -, ⟨-, he, hd⟩ | ⟨f, hf, -⟩⟩ := run_iter n s
  · by_cases hlt : k < n
    · exact .inl (he ▸ hd hlt)
    · exact .inr (.inr (by omega))
  · exact .inr (.inl (by rw [hf]; exact Option.some_ne_none f))

/-! ### `run` through `exec`, whatever the mode -/

theorem iter_stepS_exec (s : RSim) (k : Nat) (hnd : ∀ j, j < k → isDone (iter stepS j s) = false) :
    (iter stepS k s).p = iter (fun p => (exec s.five p).1) k s.p ∧ (iter stepS k s).five = s.five := by
  induction k generalizing s with
  | zero => exact ⟨rfl, rfl⟩
  | succ k ih =>
    have h0 : stepS s = _ := stepS_exec (hnd 0 (Nat.succ_pos k))
    obtain ⟨h1, h2⟩ := ih (stepS s) (fun j hj => hnd (j + 1) (Nat.succ_lt_succ hj))
    rw [h0] at h1 h2
    rw [iter_succ, iter_succ, h0]
    exact ⟨h1, h2⟩

theorem run_char (s : RSim) (fuel : Nat) (hnf : (run fuel s).2.2 = none) (hdone : isDone (run fuel s).1 = true) :
    ∃ n, n ≤ fuel ∧ (run fuel s).2.1 = n ∧ (run fuel s).1.p = iter (fun p => (exec s.five p).1) n s.p ∧
      (∀ m, m < n → (exec s.five (iter (fun p => (exec s.five p).1) m s.p)).2 = none ∧
        done s.five (iter (fun p => (exec s.five p).1) m s.p) = false) ∧
      done s.five (iter (fun p => (exec s.five p).1) n s.p) = true := by
  obtain ⟨k, hk, hc, hpre, ⟨_, hfin, _⟩ | ⟨f, hf, _⟩⟩ := run_iter fuel s
  · have hst := fun j (hj : j ≤ k) => iter_stepS_exec s j (fun i hi => (hpre i (by omega)).1)
    refine ⟨k, hk, hc, by rw [hfin]; exact (hst k (Nat.le_refl k)).1, fun m hm => ?_, ?_⟩
    · obtain ⟨e1, e2⟩ := hst m (by omega)
      obtain ⟨hd, hf⟩ := hpre m hm
      rw [step_exec hd] at hf
      rw [isDone_eq] at hd
      rw [e1, e2] at hf hd
      exact ⟨hf, hd⟩
    · obtain ⟨e1, e2⟩ := hst k (Nat.le_refl k)
      rw [hfin, isDone_eq, e1, e2] at hdone
      exact hdone
  · rw [hf] at hnf; cases hnf

theorem run_of_exec (s : RSim) (k : Nat)
    (hpre : ∀ j, j < k → (exec s.five (iter (fun p => (exec s.five p).1) j s.p)).2 = none ∧
      done s.five (iter (fun p => (exec s.five p).1) j s.p) = false)
    (hd : done s.five (iter (fun p => (exec s.five p).1) k s.p) = true) (fuel : Nat) (hfuel : k ≤ fuel) :
    (run fuel s).2.2 = none ∧ (run fuel s).2.1 = k ∧
    (run fuel s).1.p = iter (fun p => (exec s.five p).1) k s.p ∧ isDone (run fuel s).1 = true := by
  induction k generalizing s fuel with
  | zero =>
    have hd' : isDone s = true := hd
    rw [run_done hd']
    exact ⟨rfl, rfl, rfl, hd⟩
  | succ k ih =>
    obtain ⟨fuel, rfl⟩ : ∃ f, fuel = f + 1 := ⟨fuel - 1, by omega⟩
    obtain ⟨hf0, hd0⟩ := hpre 0 (Nat.succ_pos k)
    have hd0 : isDone s = false := hd0
    have hs := step_exec hd0
    have e5 : (step s).sim.five = s.five := by rw [hs]
    have ep : (step s).sim.p = (exec s.five s.p).1 := by rw [hs]
    have hfault : (step s).fault = none := by rw [hs]; exact hf0
    rw [run_succ_ok hd0 hfault]
    obtain ⟨r1, r2, r3, r4⟩ := ih (step s).sim
      (by rw [e5, ep]; exact fun j hj => hpre (j + 1) (Nat.succ_lt_succ hj)) (by rw [e5, ep]; exact hd) fuel (by omega)
    rw [e5, ep] at r3
    exact ⟨r1, by rw [r2], r3, r4⟩

/-! ### empty programs -/

theorem instrAt_nil (im : Rv.IMem) (h : im.prog = []) (pc : Int) : im.instrAt pc = none := by
  unfold Rv.IMem.instrAt
  rw [h]
  split <;> simp

theorem isDone_of_prog_nil (s : RSim) (hp : s.p.st.imem.prog = [])
    (hl : s.five = true → s.p.l0 = none ∧ s.p.l1 = none ∧ s.p.l2 = none ∧ s.p.l3 = none) :
    isDone s = true := by
  unfold isDone
  cases h5 : s.five with
  | true =>
    obtain ⟨h0, h1, h2, h3⟩ := hl h5
    simp [Pipe.isDone, h0, h1, h2, h3, instrAt_nil _ hp]
  | false => simp [Rv.singleDone, instrAt_nil _ hp]

/-- The initial architectural state of a new simulation over the given memory systems
    (mirrors `Driver.freshSt`). -/
def freshSt (ms : Rv.MemSys) (ic : Option Rv.ICache) : Rv.St :=
  { regs := fun _ => 0, pc := 0, mem := ms, imem := { prog := [], cache := ic }, output := "",
    exitCode := none, cycles := 0, instrs := 0, branches := 0, procs := 0, stalls := 0, flushes := 0 }

/-- A new `RiscvSimulation`: mode, hazard detection flag, data memory system, instruction cache. -/
def fresh (five hazard : Bool) (ms : Rv.MemSys) (ic : Option Rv.ICache) : RSim :=
  { five := five, p := Pipe.PSt.init (freshSt ms ic) hazard, started := false }

theorem fresh_isDone (five hazard : Bool) (ms : Rv.MemSys) (ic : Option Rv.ICache) :
    isDone (fresh five hazard ms ic) = true :=
  isDone_of_prog_nil _ rfl (fun _ => ⟨rfl, rfl, rfl, rfl⟩)

theorem load_empty_done (s : RSim) (t : String) (hp : (Asm.load s.p.st t).st.imem.prog = [])
    (hl : s.five = true → s.p.l0 = none ∧ s.p.l1 = none ∧ s.p.l2 = none ∧ s.p.l3 = none) :
    isDone (load s t).1 = true := by
  obtain ⟨h5, _, _, h0, h1, h2, h3, _⟩ := load_frame_sim s t
  refine isDone_of_prog_nil _ ?_ ?_
  · rw [load_st]; exact hp
  · rw [h5, h0, h1, h2, h3]; exact hl

/-- Stated with `Asm.load` folded (see `load_eq`). -/
theorem load_init (five : Bool) (st0 : Rv.St) (hz started : Bool) (text : String) :
    (load { five := five, p := Pipe.PSt.init st0 hz, started := started } text).1 =
      { five := five, p := Pipe.PSt.init (Asm.load st0 text).st hz, started := started } := rfl

theorem isDone_of_exit {c : Int} (hx : s.p.st.exitCode = some c) : isDone s = true := by
  cases h5 : s.five with
  | true => simp [isDone, h5, Pipe.isDone, hx]
  | false => simp [isDone, h5, Rv.singleDone, hx]

theorem exit_stable (s : RSim) (c : Int) (hx : s.p.st.exitCode = some c) :
    isDone s = true ∧ (step s).sim = s ∧ (step s).ret = false ∧ (step s).fault = none ∧
    (∀ fuel, run fuel s = (s, 0, none)) ∧
    (∀ cs : List Call, calls s cs = s ∧ (calls s cs).p.st.exitCode = some c) := by
  have hd := isDone_of_exit hx
  have hs := step_done hd
  refine ⟨hd, by rw [hs], by rw [hs], by rw [hs], run_done hd, fun cs => ?_⟩
  rw [calls_done hd cs]
  exact ⟨rfl, hx⟩

/-! ### concrete simulations for the non-vacuity examples -/

def flat0 : Rv.MemSys := .flat (Mem.Mem.empty Mem.riscvCfg)

/-- a new simulation (hazard detection on, flat memory, no caches) with the given program in its
    instruction memory, i.e. the state after a successful `load_program` -/
def withProg (five : Bool) (prog : List Rv.Instr) : RSim :=
  let s := fresh five true flat0 none
  { s with p := { s.p with st := { s.p.st with imem := { prog := prog, cache := none } } } }

/-- `nop` -/
def nopSim (five : Bool) : RSim := withProg five [{ op := .addi }]

/-- `li a7, 10; ecall; nop; nop` — exits through the ecall with younger instructions behind it -/
def exitSim (five : Bool) : RSim :=
  withProg five [{ op := .addi, rd := 17, imm := 10 }, { op := .ecall }, { op := .addi }, { op := .addi }]

/-- a five-stage state that is done only because of the exit code: all four latches are occupied -/
def exitFull : RSim :=
  let l : Pipe.Latch := { instr := { op := .addi }, addr := 8, pc4 := 12 }
  let s := exitSim true
  { s with started := true,
           p := { s.p with st := { s.p.st with exitCode := some 0, pc := 8 },
                           l0 := some l, l1 := some l, l2 := some l, l3 := some l } }

end ArchSim.Sim
