/-
C03 (program level): the relation between a run with the data cache and the same run on the flat data memory.  The
cache system represents the flat memory (`CRep`, `MRel`), everything else of the state except the cycle, stall and
flush counters (and the cache's own hit / access counters) is equal (`CacheRel`).  The step proofs use of the
memory relation only that accepted accesses keep it (`MemSim R`), so they are done for `StRel R` with `R` left open.
-/
import ArchSim.Model.Rv
import ArchSim.Lemmas.C02SplitMem
import ArchSim.Lemmas.C09ProgMem

namespace ArchSim.Lemmas.C03Prog
open ArchSim ArchSim.Cache ArchSim.Mem ArchSim.Rv ArchSim.Spec.CacheAbs ArchSim.Spec.TagCache

/-- The data-cache system `s` (replacement policy LRU if `l`, else PLRU) represents the flat memory
    `m`: both invariants of reachable cache states hold (`CInv` of C03/C12 — it contains `GeoOK s.geo`
    — and `Inv` of C09), the associativity suits the policy (`0 < assoc`, PLRU ⇒ a power of two), `m`
    is a well-formed RISC-V data memory, and the logical contents of `s` are the cells of `m`.
    Field for field: `C09Prog.DOK l s` (`CRep.dok`) and `C03.Repr (Pol.WF _) s m` (`CRep.toRepr`). -/
structure CRep (l : Bool) (s : DSys Repl.Pol) (m : Mem.Mem) : Prop where
  cinv  : CInv (Repl.Pol.WF s.geo.assoc) s
  inv9  : ArchSim.Lemmas.C09.Inv (Repl.Pol.WF s.geo.assoc) s
  assoc : ArchSim.Lemmas.C09.AssocOK l s.geo.assoc
  memOK : ArchSim.Lemmas.C03.MemOK m
  log   : ∀ a : Int, logical s a = m.cells ((wrap32 a : Nat) : Int)

theorem CRep.dok {l : Bool} {s : DSys Repl.Pol} {m : Mem.Mem} (h : CRep l s m) :
    ArchSim.Lemmas.C09Prog.DOK l s := ⟨h.assoc, h.cinv, h.inv9⟩

theorem CRep.polOK {l : Bool} {s : DSys Repl.Pol} {m : Mem.Mem} (h : CRep l s m) :
    PolicyOK (polOps l) s.geo.assoc (Repl.Pol.WF s.geo.assoc) := h.dok.polOK

theorem CRep.of_empty {l : Bool} {s : DSys Repl.Pol} (hg : GeoOK s.geo)
    (ha : ArchSim.Lemmas.C09.AssocOK l s.geo.assoc) (hs : s.sets = initSets (polOps l) s.geo)
    (hm : ArchSim.Lemmas.C03.MemOK s.mem) : CRep l s s.mem :=
  have ⟨d, hL⟩ := ArchSim.Lemmas.C09Prog.DOK.of_empty hg ha hs hm
  ⟨d.cinv, d.inv, ha, hm, hL⟩

theorem CRep.toRepr {l : Bool} {s : DSys Repl.Pol} {m : Mem.Mem} (h : CRep l s m) :
    ArchSim.Lemmas.C03.Repr (Repl.Pol.WF s.geo.assoc) s m := ⟨h.cinv, h.memOK, h.log⟩

theorem CRep.read {l : Bool} {s : DSys Repl.Pol} {m : Mem.Mem} (h : CRep l s m) {bits : Nat} {a : Int}
    (hacc : Accepted bits a) (c : Bool) :
    ∃ v, (s.read (polOps l) bits a c).res = .ok v ∧ Mem.read m bits a = some (.ok v) ∧
      CRep l (s.read (polOps l) bits a c).sys m := by
  have ⟨hb, hw, hin⟩ : widthOK bits ∧ inWord bits a ∧ inData a := hacc
  obtain ⟨⟨r1, r2, r3⟩, hgeo, _, hag⟩ :=
    ArchSim.Lemmas.C03.step_agrees (P := polOps l) h.polOK h.toRepr (.read bits a c) hb
  have hacc' : (Spec.CacheAbs.Op.read bits a c).accepted := ⟨hw, hin⟩
  have hfs := flatStep_read (m := m) hacc'
  unfold agrees at hag
  rw [if_pos hacc', hfs] at hag
  rw [hfs] at r2 r3
  obtain ⟨v, hv1, hv2⟩ := hag
  have hgeo' : (s.read (polOps l) bits a c).sys.geo = s.geo := hgeo
  have h9 := (ArchSim.Lemmas.C09.read_spec (P := polOps l)
    (ArchSim.Lemmas.C09.polOps_ok h.assoc) h.inv9 hacc c).1.inv
  exact ⟨v, hv1, hv2, ⟨by rw [hgeo']; exact r1, by rw [hgeo']; exact h9, by rw [hgeo']; exact h.assoc,
    r2, r3⟩⟩

theorem CRep.write {l : Bool} {s : DSys Repl.Pol} {m : Mem.Mem} (h : CRep l s m) {bits : Nat} {a : Int}
    (hacc : Accepted bits a) {v : Nat} (hv : v < 2 ^ bits) :
    ∃ m', (s.write (polOps l) bits a v false).res = .ok 0 ∧ Mem.write m bits a v = some (m', none) ∧
      CRep l (s.write (polOps l) bits a v false).sys m' := by
  have ⟨hb, hw, hin⟩ : widthOK bits ∧ inWord bits a ∧ inData a := hacc
  obtain ⟨⟨r1, r2, r3⟩, hgeo, _, _⟩ :=
    ArchSim.Lemmas.C03.step_agrees (P := polOps l) h.polOK h.toRepr (.write bits a v)
      ⟨hb, hv⟩
  obtain ⟨m', hwr, _⟩ :=
    ArchSim.Lemmas.C03.write_riscv h.memOK bits hb a v hin (ArchSim.Lemmas.C03.inWord_hi hw)
  rw [flatStep_write_fst ⟨hw, hin⟩ hwr] at r2 r3
  have hgeo' : (s.write (polOps l) bits a v false).sys.geo = s.geo := hgeo
  obtain ⟨⟨_, _, h9, _⟩, hres, _⟩ := ArchSim.Lemmas.C09.write_spec (P := polOps l)
    (ArchSim.Lemmas.C09.polOps_ok h.assoc) (ArchSim.Lemmas.C09.polOps_idem l _) h.inv9 hacc v
  exact ⟨m', hres, hwr, ⟨by rw [hgeo']; exact r1, by rw [hgeo']; exact h9, by rw [hgeo']; exact h.assoc,
    r2, r3⟩⟩

/-! ### the architectural states -/

/-- The memory system `mc` is a data cache that represents the flat memory system `mf`. -/
def MRel (mc mf : MemSys) : Prop :=
  ∃ (l : Bool) (s : DSys Repl.Pol) (m : Mem.Mem), mc = .cached l s ∧ mf = .flat m ∧ CRep l s m

/-- `sc` is a state whose data memory is a cache system, `sf` the state of the same program with the
    flat data memory the cache represents (`MRel`: invariants `CInv` and C09 `Inv`, admissible
    geometry and policy, `logical = cells`).  Registers, pc, instruction memory (including the state of
    an instruction cache, if any), output, exit code, instruction / branch / procedure counts are equal.
    NOT compared: the cycle counter (miss penalties), the data-cache counters (they live in the cache
    system), and the stall / flush counters (unused in single-cycle mode).
    Field for field this is `StRel MRel` (below; `CacheRel.toStRel`, `StRel.toCacheRel` convert): the
    step proofs are done for `StRel R`, the property theorems are stated on `CacheRel`. -/
structure CacheRel (sc sf : St) : Prop where
  mem      : MRel sc.mem sf.mem
  regs     : sc.regs = sf.regs
  pc       : sc.pc = sf.pc
  imem     : sc.imem = sf.imem
  output   : sc.output = sf.output
  exitCode : sc.exitCode = sf.exitCode
  instrs   : sc.instrs = sf.instrs
  branches : sc.branches = sf.branches
  procs    : sc.procs = sf.procs

/-- The print-string loop of `process_ecall` (code 4) starting at `a` does not raise on the memory
    system `ms`.  On the flat memory this says: all bytes from `a` up to and including the terminating
    zero byte lie in the data range (a byte read cannot cross a word boundary, so these reads are then
    accepted accesses). -/
def PrintOK (ms : MemSys) (a : Int) : Prop :=
  ∃ cs, (printStrLoop printStrFuel ms a []).2 = .ok cs

/-- The data accesses instruction `i` performs in state `s` are accepted ones: a load / store accesses
    an offered width within one word of the data range (`Accepted` at the address `behavior()`
    computes), and an `ecall` print-string (a7 = 4) reads its string from the data range.
    The three clauses follow `behavior()`: a load adds the signed immediate to `regs[rs1]` as integers
    (the memory system wraps the sum), a store adds `UInt32(imm)` in 32-bit arithmetic (this is
    `C09Prog.storeAddr`), and `ecall` takes the service number from a7 = x17 and the address of the
    string from a0 = x10.  `Spec.TagCache.Accepted bits a` unfolds to `widthOK bits ∧ inWord bits a ∧ inData a`
    of `Spec.CacheAbs` (`C09Prog.accepted_iff`, by `Iff.rfl`); the proofs take it apart as such. -/
def AccessOK (i : Instr) (s : St) : Prop :=
  (i.op.ty = .memI → Accepted (accessBits i.op) ((s.regs i.rs1 : Int) + i.imm)) ∧
  (i.op.ty = .s →
    Accepted (accessBits i.op) (((s.regs i.rs1 + wrapU i.imm) % 4294967296 : Nat) : Int)) ∧
  (i.op = .ecall → s.regs 17 = 4 → PrintOK s.mem (s.regs 10))

/-- The instruction `singleStep` executes in state `s` (none: no instruction at pc, or the fetch
    fails).  Without instruction cache it is the instruction stored at pc
    (`Props.C03Prog.fetched_is_instrAt`). -/
def fetched (s : St) : Option Instr :=
  match s.imem.instrAt s.pc with
  | none => none
  | some _ =>
    match (s.imem.fetch s.pc).res with
    | .ok (some i) => some i
    | _ => none

/-- The step taken in state `s` performs accepted data accesses only. -/
def StepAccepted (s : St) : Prop := ∀ i, fetched s = some i → AccessOK i s

/-! ### relations between the two memory systems that a step keeps -/

/-- What the step proofs use of a relation `R` between the memory system of the cached run and that
    of the flat run: the flat side is a well-formed flat memory; an accepted read (counted or not, on
    either side) returns the same value on both sides, leaves the flat side alone at no cost and keeps
    `R`; an accepted write of a value that fits succeeds on both sides and keeps `R`.  `MRel` is such
    a relation, C12's `MRelT` another. -/
structure MemSim (R : MemSys → MemSys → Prop) : Prop where
  flat  : ∀ {mc mf}, R mc mf → ∃ m, mf = .flat m ∧ ArchSim.Lemmas.C03.MemOK m
  read  : ∀ {mc mf}, R mc mf → ∀ {bits : Nat} {a : Int}, Accepted bits a → ∀ c c' : Bool,
    ∃ v, (mc.read bits a c).res = .ok v ∧ mf.read bits a c' = { mem := mf, res := .ok v, extra := 0 } ∧
      R (mc.read bits a c).mem mf
  write : ∀ {mc mf}, R mc mf → ∀ {bits : Nat} {a : Int}, Accepted bits a → ∀ {v : Nat}, v < 2 ^ bits →
    (mc.write bits a v false).res = .ok 0 ∧ (mf.write bits a v false).res = .ok 0 ∧
      R (mc.write bits a v false).mem (mf.write bits a v false).mem

theorem MemSim.lift {Q : Bool → DSys Repl.Pol → Mem.Mem → Prop}
    (hm : ∀ {l s m}, Q l s m → ArchSim.Lemmas.C03.MemOK m)
    (hread : ∀ {l s m}, Q l s m → ∀ {bits : Nat} {a : Int}, Accepted bits a → ∀ c : Bool,
      ∃ v, (s.read (polOps l) bits a c).res = .ok v ∧ Mem.read m bits a = some (.ok v) ∧
        Q l (s.read (polOps l) bits a c).sys m)
    (hwrite : ∀ {l s m}, Q l s m → ∀ {bits : Nat} {a : Int}, Accepted bits a → ∀ {v : Nat}, v < 2 ^ bits →
      ∃ m', (s.write (polOps l) bits a v false).res = .ok 0 ∧ Mem.write m bits a v = some (m', none) ∧
        Q l (s.write (polOps l) bits a v false).sys m') :
    MemSim (fun mc mf => ∃ l s m, mc = .cached l s ∧ mf = .flat m ∧ Q l s m) where
  flat := fun ⟨_, _, m, _, e, h⟩ => ⟨m, e, hm h⟩
  read := by
    rintro _ _ ⟨l, s, m, rfl, rfl, h⟩ bits a hacc c c'
    obtain ⟨v, h1, h2, h3⟩ := hread h hacc c
    exact ⟨v, h1, by simp only [MemSys.read, h2, liftMem], l, _, m, rfl, rfl, h3⟩
  write := by
    rintro _ _ ⟨l, s, m, rfl, rfl, h⟩ bits a hacc v hv
    obtain ⟨m', h1, h2, h3⟩ := hwrite h hacc hv
    refine ⟨h1, ?_, l, _, m', rfl, ?_, h3⟩ <;> simp only [MemSys.write, h2]

theorem MRel.memSim : MemSim MRel := MemSim.lift CRep.memOK CRep.read CRep.write

/-- `CacheRel` with the relation between the two memory systems left open: `CacheRel` is
    `StRel MRel`. -/
structure StRel (R : MemSys → MemSys → Prop) (sc sf : St) : Prop where
  mem      : R sc.mem sf.mem
  regs     : sc.regs = sf.regs
  pc       : sc.pc = sf.pc
  imem     : sc.imem = sf.imem
  output   : sc.output = sf.output
  exitCode : sc.exitCode = sf.exitCode
  instrs   : sc.instrs = sf.instrs
  branches : sc.branches = sf.branches
  procs    : sc.procs = sf.procs

theorem CacheRel.toStRel {R : MemSys → MemSys → Prop} {sc sf : St} (h : CacheRel sc sf)
    (hm : R sc.mem sf.mem) : StRel R sc sf :=
  ⟨hm, h.regs, h.pc, h.imem, h.output, h.exitCode, h.instrs, h.branches, h.procs⟩

theorem StRel.toCacheRel {sc sf : St} (h : StRel MRel sc sf) : CacheRel sc sf :=
  ⟨h.mem, h.regs, h.pc, h.imem, h.output, h.exitCode, h.instrs, h.branches, h.procs⟩

/-! ### the print-string loop -/

theorem flat_read_ok_inData {m : Mem.Mem} (hc : m.cfg = Mem.riscvCfg) {bits : Nat}
    (hb : widthOK bits) {a : Int} {c : Bool} {v : Nat}
    (h : ((MemSys.flat m).read bits a c).res = .ok v) : inData a := by
  unfold inData
  rcases Nat.lt_or_ge (wrap32 a) 16384 with hlt | hge
  · exfalso
    have := ArchSim.Lemmas.C03.read_riscv_bad hc bits hb a hlt
    simp [MemSys.read, this, liftMem] at h
  · exact hge

/-- A byte the flat memory returns lies in the data range, so every read of the loop is an accepted
    one. -/
theorem printStr_sim {R : MemSys → MemSys → Prop} (hR : MemSim R) :
    ∀ (fuel : Nat) (mc mf : MemSys) (a : Int) (acc cs : List Char), R mc mf →
    (printStrLoop fuel mf a acc).2 = .ok cs →
    (printStrLoop fuel mc a acc).2 = .ok cs ∧ (printStrLoop fuel mf a acc).1 = mf ∧
      R (printStrLoop fuel mc a acc).1 mf
  | 0, _, _, _, _, _, _, h => by simp [printStrLoop] at h
  | fuel + 1, mc, mf, a, acc, cs, hr, h => by
    have hin : inData a := by
      obtain ⟨m, rfl, hm⟩ := hR.flat hr
      cases hres : ((MemSys.flat m).read 8 a false).res with
      | error e => simp [printStrLoop, hres] at h
      | ok b => exact flat_read_ok_inData hm.cfg (Or.inl rfl) hres
    obtain ⟨b, h1, h2, h3⟩ := hR.read hr ⟨Or.inl rfl, by omega, hin⟩ false false
    simp only [printStrLoop, h1, h2] at h ⊢
    by_cases hb : b = 0
    · simp only [hb, if_true] at h ⊢
      exact ⟨h, trivial, h3⟩
    · simp only [hb, if_false] at h ⊢
      exact printStr_sim hR fuel _ mf (a + 1) _ cs h3 h

/-! ### power-on -/

section
open ArchSim.Spec.ByteStore

theorem crep_preload (g : Geo) (hg : GeoOK g) (l : Bool) (ha : ArchSim.Lemmas.C09.AssocOK l g.assoc)
    (wt : Bool) (penalty : Nat) (h : List Spec.ByteStore.Op) :
    CRep l (preload (DSys.init (polOps l) wt g penalty (Mem.empty riscvCfg)) h) (run riscvCfg h) := by
  rw [ArchSim.Lemmas.C03.preload_eq]
  exact CRep.of_empty hg ha rfl (ArchSim.Lemmas.C03.MemOK_run h)

theorem cacheRel_init (s : St) (g : Geo) (hg : GeoOK g) (l : Bool)
    (ha : ArchSim.Lemmas.C09.AssocOK l g.assoc) (wt : Bool) (penalty : Nat)
    (h : List Spec.ByteStore.Op) (c st fl : Nat) :
    CacheRel
      { s with mem := .cached l (preload (DSys.init (polOps l) wt g penalty (Mem.empty riscvCfg)) h) }
      { s with mem := .flat (run riscvCfg h), cycles := c, stalls := st, flushes := fl } :=
  ⟨⟨l, _, _, rfl, rfl, crep_preload g hg l ha wt penalty h⟩, rfl, rfl, rfl, rfl, rfl, rfl, rfl, rfl⟩

end

end ArchSim.Lemmas.C03Prog
