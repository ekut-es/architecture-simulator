/-
For C15Asm: the invariant `SimOK prog sim` — the latch invariant `PipeOK` of C15, and the stored program is `prog` — is
established by a load into empty pipeline registers and kept by `RiscvSimulation.step()` in BOTH modes; hence every
run-time fault carries an address of `prog` and the instruction stored there.
-/
import ArchSim.Lemmas.E2E2Load
import ArchSim.Lemmas.C15Run
import ArchSim.Lemmas.C13Life

namespace ArchSim.Lemmas.E2E2
open ArchSim ArchSim.Rv ArchSim.Asm ArchSim.Pipe ArchSim.Lemmas.C15
open ArchSim.Lemmas.C02Split (singleStep_imem singleStep_prog singleStep_fault_pc)

theorem singleStep_imemOK {s : St} (h : ImemOK s.imem) : ImemOK (singleStep s).st.imem := by
  rcases singleStep_imem s with e | e <;> rw [e]
  · exact h
  · exact h.fetch s.pc

theorem _root_.ArchSim.Lemmas.C15.PipeOK.withSt {p : PSt} (h : PipeOK p) {st' : St} (him : ImemOK st'.imem)
    (hp : st'.imem.prog = p.st.imem.prog) : PipeOK { p with st := st' } :=
  ⟨him, h.l0.congr hp, h.l1.congr hp, h.l2.congr hp, h.l3.congr hp, h.l4.congr hp,
    fun st hs => (h.p0 st hs).congr hp, fun st hs => (h.p1 st hs).congr hp⟩

/-- The simulation invariant: latch invariant of C15, and the stored program is `prog`. -/
structure SimOK (prog : List Instr) (sim : Sim.RSim) : Prop where
  pipe : PipeOK sim.p
  prog : sim.p.st.imem.prog = prog

theorem simStep_ok {prog : List Instr} {sim : Sim.RSim} (h : SimOK prog sim) : SimOK prog (Sim.step sim).sim := by
  cases hd : Sim.isDone sim with
  | true => rw [Sim.step_done hd]; exact h
  | false =>
    rw [Sim.step_exec hd]
    cases sim.five with
    | true => exact ⟨step_ok h.pipe, (ArchSim.Lemmas.C07.step_prog _).trans h.prog⟩
    | false =>
      exact ⟨h.pipe.withSt (singleStep_imemOK h.pipe.imem) (singleStep_prog _), (singleStep_prog _).trans h.prog⟩

theorem simIter_ok {prog : List Instr} {sim : Sim.RSim} (h : SimOK prog sim) (n : Nat) :
    SimOK prog (iter Sim.stepS n sim) := by
  induction n generalizing sim with
  | zero => exact h
  | succ n ih => exact ih (simStep_ok h)

theorem pipeOK_empty (p : PSt) (st' : St) (him : ImemOK st'.imem)
    (he : p.l0 = none ∧ p.l1 = none ∧ p.l2 = none ∧ p.l3 = none ∧ p.l4 = none ∧ p.stalled = none) :
    PipeOK { p with st := st' } := by
  obtain ⟨st, hz, l0, l1, l2, l3, l4, stl⟩ := p
  simp only at he
  obtain ⟨rfl, rfl, rfl, rfl, rfl, rfl⟩ := he
  exact init_ok him hz

theorem simLoad_ok (sim : Sim.RSim) (text : String) (hc : ICacheOK sim.p.st)
    (he : sim.p.l0 = none ∧ sim.p.l1 = none ∧ sim.p.l2 = none ∧ sim.p.l3 = none ∧ sim.p.l4 = none ∧
      sim.p.stalled = none) :
    SimOK (load sim.p.st text).st.imem.prog (Sim.load sim text).1 := by
  constructor
  · rw [Sim.load_eq]; exact pipeOK_empty sim.p _ (load_imemOK sim.p.st text hc) he
  · rw [Sim.load_eq]

theorem sim_fault_instr {prog : List Instr} {sim : Sim.RSim} (h : SimOK prog sim) {a : Int}
    {oi : Option Instr} {f : Fault} (hf : (Sim.step sim).fault = some (a, oi, f)) :
    ∃ i, oi = some i ∧ sim.p.st.imem.instrAt a = some i := by
  rcases Bool.eq_false_or_eq_true sim.five with h5 | h5
  · obtain ⟨_, pf, hpf, rfl, rfl, rfl⟩ := (simStep_five_fault h5).1 hf
    exact ⟨pf.instr, rfl, step_fault_instrAt h.pipe hpf⟩
  · obtain ⟨_, hs, ho⟩ := (simStep_single_fault h5).1 hf
    obtain ⟨_, i, hi⟩ := singleStep_fault_pc hs
    exact ⟨i, by rw [ho, hi], hi⟩

theorem singleRun_prog (s : St) (n : Nat) : (singleRun n s).imem.prog = s.imem.prog := by
  induction n with
  | zero => rfl
  | succ n ih => exact (singleStep_prog _).trans ih

theorem singleRun_imemOK {s : St} (h : ImemOK s.imem) (n : Nat) : ImemOK (singleRun n s).imem := by
  induction n with
  | zero => exact h
  | succ n ih => exact singleStep_imemOK ih

end ArchSim.Lemmas.E2E2
