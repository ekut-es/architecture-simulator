/-
Histories (C03 / C12): `Repr WFp s m`, the cached state `s` represents the flat memory `m`, is kept by
every well-formed operation, accepted or not, and the answers agree; hence for whole histories, from
power-on, and against an adversary that overwrites the replacement-policy states.  `exGeo`, `exGeo2`,
`exOps`: geometries and a history for the examples of `Props/C03.lean`.
-/
import ArchSim.Lemmas.C03Top
import ArchSim.Lemmas.C09Pol

namespace ArchSim.Spec.CacheAbs
open ArchSim ArchSim.Mem

/-! ### the flat reference step, case by case -/

theorem flatStep_read_fst (m : Mem) (bits : Nat) (a : Int) (c : Bool) :
    (flatStep m (.read bits a c)).1 = m := by
  unfold flatStep; split <;> rfl

theorem flatStep_read {m : Mem} {bits : Nat} {a : Int} {c : Bool} (h : (Op.read bits a c).accepted) :
    flatStep m (.read bits a c) = (m, Mem.read m bits a) := by
  unfold flatStep; rw [if_pos h]

theorem flatStep_write_fst {m m' : Mem} {bits : Nat} {a : Int} {v : Nat} {e : Option AddrErr}
    (h : (Op.write bits a v).accepted) (hw : Mem.write m bits a v = some (m', e)) :
    (flatStep m (.write bits a v)).1 = m' := by
  unfold flatStep; rw [if_pos h]; simp only [hw]; cases e <;> rfl

theorem flatStep_write_rejected {m : Mem} {bits : Nat} {a : Int} {v : Nat}
    (h : ¬ (Op.write bits a v).accepted) : flatStep m (.write bits a v) = (m, none) := by
  unfold flatStep; rw [if_neg h]

end ArchSim.Spec.CacheAbs

namespace ArchSim.Lemmas.C03
open ArchSim ArchSim.Cache ArchSim.Mem ArchSim.Spec.ByteStore ArchSim.Lemmas.C18 ArchSim.Spec.CacheAbs

variable {σ : Type} {P : PolicyOps σ} {WFp : σ → Prop}

theorem pol_ok (isLru : Bool) (assoc : Nat) (ha : 0 < assoc)
    (h : isLru = false → ∃ d, assoc = 2 ^ d) : PolicyOK (polOps isLru) assoc (Repl.Pol.WF assoc) :=
  (ArchSim.Lemmas.C09.polOps_ok ⟨ha, h⟩).abs

theorem forced_ok (assoc : Nat) (ha : 0 < assoc) : PolicyOK forcedOps assoc (fun v => v < assoc) where
  init := ha
  access := fun s _ hs _ => ⟨s, rfl, hs⟩
  victim := fun s hs => ⟨s, rfl, hs⟩

/-! ### the initial state and preloads -/

theorem lookup_initSets (g : Geo) (k t : Nat) : lookup (initSets (σ := σ) P g) k t = none := by
  unfold lookup initSets
  cases h : (List.replicate (2 ^ g.idxBits)
      ({ ways := List.replicate g.assoc Way.empty, pol := P.init g.assoc } : CSet σ Nat))[k]? with
  | none => rfl
  | some cs =>
    obtain rfl := List.eq_of_mem_replicate (List.mem_of_getElem? h)
    apply (lookupWays_none_iff t).mpr
    intro i w hw hv
    obtain rfl := List.eq_of_mem_replicate (List.mem_of_getElem? hw)
    cases hv.1

theorem initSets_ok (g : Geo) (hP : PolicyOK P g.assoc WFp) : SetsOK g WFp (initSets (σ := σ) P g) := by
  refine ⟨List.length_replicate, fun k cs h => ?_⟩
  obtain rfl := List.eq_of_mem_replicate (List.mem_of_getElem? h)
  refine ⟨List.length_replicate, hP.init, fun i w hw => ?_, fun i j wi wj hi _ hvi => ?_⟩
  · obtain rfl := List.eq_of_mem_replicate (List.mem_of_getElem? hw)
    exact ⟨rfl, (fun h => by cases h), (fun h => by cases h), (fun h => by cases h),
      (fun h => by cases h), (fun h => by cases h)⟩
  · obtain rfl := List.eq_of_mem_replicate (List.mem_of_getElem? hi)
    cases hvi

theorem CInv_of_empty {s : DSys σ} (hg : GeoOK s.geo) (hP : PolicyOK P s.geo.assoc WFp)
    (hsets : s.sets = initSets P s.geo) (hm : MemOK s.mem) :
    CInv WFp s ∧ ∀ a, logical s a = s.mem.cells ((wrap32 a : Nat) : Int) := by
  have hl : ∀ a, logical s a = s.mem.cells ((wrap32 a : Nat) : Int) :=
    fun a => logical_of_none (by rw [hsets]; exact lookup_initSets s.geo _ _)
  exact ⟨⟨⟨hg, hsets ▸ initSets_ok s.geo hP, hm.cfg, hm.wf⟩, fun _ => hl⟩, hl⟩

theorem preload_eq (s : DSys σ) (h : List Spec.ByteStore.Op) :
    preload s h = { s with mem := h.foldl applyOp s.mem } := by
  induction h generalizing s with
  | nil => rfl
  | cons op h ih =>
    cases op with
    | write bits addr v => rw [preload, ih, (writeDirect_sys _ _ _ _).1]; rfl

/-! ### one step against the flat reference -/

/-- The cached state `s` represents the flat memory `m`. -/
def Repr (WFp : σ → Prop) (s : DSys σ) (m : Mem) : Prop :=
  CInv WFp s ∧ MemOK m ∧ ∀ a, logical s a = m.cells ((wrap32 a : Nat) : Int)

theorem Repr_preload (g : Geo) (hg : GeoOK g) (hP : PolicyOK P g.assoc WFp) (wt : Bool) (penalty : Nat)
    (h : List Spec.ByteStore.Op) :
    Repr WFp (preload (DSys.init P wt g penalty (Mem.empty riscvCfg)) h) (run riscvCfg h) := by
  rw [preload_eq]
  obtain ⟨h1, h2⟩ := CInv_of_empty
    (s := { DSys.init P wt g penalty (Mem.empty riscvCfg) with mem := run riscvCfg h })
    hg hP rfl (MemOK_run h)
  exact ⟨h1, MemOK_run h, h2⟩

theorem step_agrees {s : DSys σ} (hP : PolicyOK P s.geo.assoc WFp) {m : Mem} (hr : Repr WFp s m)
    (o : Spec.CacheAbs.Op) (ho : o.wf) :
    Repr WFp (stepOp P s o).sys (flatStep m o).1 ∧ (stepOp P s o).sys.geo = s.geo ∧
      (stepOp P s o).sys.wt = s.wt ∧ agrees o (stepOp P s o).res (flatStep m o).2 := by
  obtain ⟨hs, hm, hL⟩ := hr
  unfold flatStep agrees
  by_cases hacc : o.accepted
  · rw [if_pos hacc, if_pos hacc]
    cases o with
    | read bits addr counted =>
      obtain ⟨hw, hin⟩ : inWord bits addr ∧ inData addr := hacc
      obtain ⟨e1, e2, e3, e4, e5⟩ := read_accepted hP hs bits addr counted ho hw hin
      have hw' : wrap32 addr % 4 + bits / 8 ≤ 4 := hw
      refine ⟨⟨e2, hm, fun a => (e3 a).trans (hL a)⟩, e4, e5, _, e1, ?_⟩
      simp only
      rw [read_riscv hm bits ho addr hin (inWord_hi hw)]
      refine congrArg some (congrArg Except.ok (leSum_congr _ _ _ _ fun i hi => ?_))
      rw [hL, wrap32_add addr i (by omega)]
    | write bits addr v =>
      obtain ⟨hw, hin⟩ : inWord bits addr ∧ inData addr := hacc
      obtain ⟨hb, hv⟩ : widthOK bits ∧ v < 2 ^ bits := ho
      obtain ⟨e1, e2, e3, e4, e5⟩ := write_accepted hP hs bits addr v hb hw hin hv
      obtain ⟨m', hwr, hcfg, hwf, hcells⟩ := write_updBytes hm.cfg bits hb addr v hw hin
      simp only [hwr]
      refine ⟨⟨e2, ⟨hcfg, hwf hm.wf⟩, fun a => ?_⟩, e4, e5, 0, e1, rfl⟩
      exact (e3 a).trans (by rw [funext hL, hcells a])
  · rw [if_neg hacc, if_neg hacc]
    obtain ⟨e, e1, e2, e3, e4, e5⟩ := stepOp_rejected hP hs o ho hacc
    exact ⟨⟨e2, hm, fun a => (e3 a).trans (hL a)⟩, e4, e5, e, e1⟩

theorem history_agrees {s : DSys σ} (hP : PolicyOK P s.geo.assoc WFp) {m : Mem} (hr : Repr WFp s m)
    (ops : List Spec.CacheAbs.Op) (ho : ∀ o, o ∈ ops → o.wf) :
    Repr WFp (runOps P s ops).1 (flatOps m ops).1 ∧ (runOps P s ops).1.geo = s.geo ∧
      (runOps P s ops).1.wt = s.wt ∧ agreesAll ops (runOps P s ops).2 (flatOps m ops).2 := by
  induction ops generalizing s m with
  | nil => exact ⟨hr, rfl, rfl, trivial⟩
  | cons o os ih =>
    obtain ⟨h1, h2, h3, h4⟩ := step_agrees hP hr o (ho o (by simp))
    obtain ⟨i1, i2, i3, i4⟩ := ih (s := (stepOp P s o).sys) (m := (flatStep m o).1) (by rw [h2]; exact hP)
      h1 (fun o' ho' => ho o' (by simp [ho']))
    exact ⟨i1, i2.trans h2, i3.trans h3, h4, i4⟩

theorem agreesAll_getLast (l : List Spec.CacheAbs.Op) (o : Spec.CacheAbs.Op) :
    ∀ (cs : List (Except Err Nat)) (fs : List (Option (Except AddrErr Nat))),
      agreesAll (l ++ [o]) cs fs →
      ∃ c f, cs.getLast? = some c ∧ fs.getLast? = some f ∧ agrees o c f := by
  induction l with
  | nil =>
    intro cs fs h
    match cs, fs, h with
    | [c], [f], h => exact ⟨c, f, rfl, rfl, h.1⟩
    | [], [], h => cases h
    | _ :: _ :: _, _ :: _ :: _, h => cases h.2
  | cons x l ih =>
    intro cs fs h
    match cs, fs, h with
    | c :: cs, f :: fs, h =>
      obtain ⟨c', f', e1, e2, e3⟩ := ih cs fs h.2
      refine ⟨c', f', ?_, ?_, e3⟩
      · cases cs with
        | nil => cases e1
        | cons _ _ => exact e1
      · cases fs with
        | nil => cases e2
        | cons _ _ => exact e2

/-! ### resident blocks under write-through -/

theorem lookup_of_way {s : DSys σ} (hs : CInvS WFp s) {k i : Nat} {cs : CSet σ Nat} {w : Way Nat}
    (hk : s.sets[k]? = some cs) (hi : cs.ways[i]? = some w) (hv : w.valid = true) :
    lookup s.sets k w.tag = some w := by
  rw [lookup_of_get hk]
  exact (lookupWays_some_iff (hs.sets.set k cs hk).distinct _ _).mpr ⟨i, hi, hv, rfl⟩

theorem logical_of_way {s : DSys σ} (hs : CInvS WFp s) {k i : Nat} {cs : CSet σ Nat} {w : Way Nat}
    (hk : s.sets[k]? = some cs) (hi : cs.ways[i]? = some w) (hv : w.valid = true) (j l : Nat)
    (hj : j < 2 ^ s.geo.blkBits) (hl : l < 4) :
    logical s ((w.base + 4 * j + l : Nat) : Int) = byteOf (wordAt w.vals j) l := by
  have hok := (hs.sets.set k cs hk).ways i w hi
  have hklt : k < 2 ^ s.geo.idxBits := hs.sets.len ▸ C09.lt_of_getElem? hk
  have hhi := hok.hi hv
  rw [pow_blk] at hhi
  have hwr : wrap32 ((w.base + 4 * j + l : Nat) : Int) = w.base + 4 * j + l :=
    wrap32_nat _ (by omega)
  obtain ⟨d1, d2, d3, d4⟩ := decode_in_block s.geo.idxBits s.geo.blkBits
    ((w.base + 4 * j + l : Nat) : Int) w.tag k j l hklt hj hl (by rw [hwr, hok.base hv])
  unfold logical
  rw [d1, d2, lookup_of_way hs hk hi hv, d3, d4]

/-- Under write-through every resident block equals its backing block: `read_word(base + 4j)` on
    the backing memory returns word `j` of the block. -/
theorem resident_backed {s : DSys σ} (hs : CInv WFp s) (hwt : s.wt = true) {k i : Nat}
    {cs : CSet σ Nat} {w : Way Nat} (hk : s.sets[k]? = some cs) (hi : cs.ways[i]? = some w)
    (hv : w.valid = true) (j : Nat) (hj : j < 2 ^ s.geo.blkBits) :
    Mem.read s.mem 32 (((w.base + 4 * j : Nat) : Int)) = some (.ok (wordAt w.vals j)) := by
  have hok := (hs.sets.set k cs hk).ways i w hi
  have hhi := hok.hi hv
  have hlo := hok.lo hv
  rw [pow_blk] at hhi
  have hwr : wrap32 ((w.base + 4 * j : Nat) : Int) = w.base + 4 * j := wrap32_nat _ (by omega)
  rw [read_word_riscv (CInvS_memOK hs.toCInvS) _ (by rw [hwr]; omega) (by rw [hwr]; omega), hwr]
  have hb : ∀ l, l < 4 → s.mem.cells ((w.base + 4 * j + l : Nat) : Int) = byteOf (wordAt w.vals j) l := by
    intro l hl
    rw [← logical_of_way hs.toCInvS hk hi hv j l hj hl, hs.wtc hwt, wrap32_nat _ (by omega)]
  have hwl : wordAt w.vals j < 4294967296 := wordAt_lt _ _ (hok.lt hv)
  rw [memWord_eq_leSum, leSum_congr riscvCfg 4 _ _ hb, leSum_byteOf_word _ hwl]

/-! ### the flat memory `flatOf s` -/

theorem logical_wrap (s : DSys σ) (a : Int) : logical s ((wrap32 a : Nat) : Int) = logical s a := by
  unfold logical; rw [decode_wrap]

theorem logical_lt {s : DSys σ} (hs : CInvS WFp s) (a : Int) : logical s a < 256 := by
  unfold logical
  split
  · exact byteOf_lt _ _
  · exact (CInvS_memOK hs).cells_lt _

theorem read_flatOf {s : DSys σ} (hs : CInvS WFp s) (bits : Nat) (hb : widthOK bits) (addr : Int)
    (hw : inWord bits addr) (hin : inData addr) :
    Mem.read (flatOf s) bits addr =
      some (.ok (leSum riscvCfg (bits / 8) (fun i => logical s (addr + (i : Int))))) := by
  have hw' : wrap32 addr % 4 + bits / 8 ≤ 4 := hw
  rw [read_riscv_cfg (m := flatOf s) rfl (fun x => logical_lt hs x) bits hb addr hin (inWord_hi hw)]
  refine congrArg some (congrArg Except.ok ?_)
  apply leSum_congr
  intro i hi
  show logical s ((wrap32 addr + i : Nat) : Int) = _
  rw [← wrap32_add addr i (by omega), logical_wrap]

/-! ### concrete geometries and a history for the non-vacuity examples -/

/-- A direct-mapped cache with two one-word sets: every second word maps to the same set, so the
    history below evicts (and under write-back writes back) repeatedly. -/
def exGeo : Geo := { idxBits := 1, blkBits := 0, assoc := 1 }
/-- Four sets, two ways, four-word blocks (the PLRU and forced-victim examples). -/
def exGeo2 : Geo := { idxBits := 2, blkBits := 2, assoc := 2 }

/-- Mixed widths, one uncounted read, and two addresses that exercise the 32-bit wrap (`0x4002 + 4294967296`;
    `-4294950911` = 0x4001 − 2^32).  0x4000 and 0x4008 share a set of `exGeo` and evict each other.  Operations
    7, 8, 11, 12 are the rejected ones: a read and a write crossing a word boundary, a read and a write below
    the data range. -/
def exOps : List Spec.CacheAbs.Op :=
  [.write 32 0x4000 0x11223344, .write 8 0x4001 0xAA, .read 16 0x4000 true, .write 32 0x4008 5,
   .read 32 0x4000 true, .read 32 0x4008 false, .read 16 0x4003 true, .read 32 0x100 true,
   .write 16 (0x4002 + 4294967296) 0xBEEF, .read 32 0x4000 true, .write 32 0x4005 1,
   .write 8 0x40 1, .read 8 (-4294950911) true]


/-! ### replacement-policy states are irrelevant -/

theorem setPols_spec {s : DSys σ} (hs : SetsOK s.geo WFp s.sets) (f : Nat → σ)
    (hf : ∀ k, WFp (f k)) :
    SetsOK s.geo WFp (setPols s f).sets ∧ ∀ k t, lookup (setPols s f).sets k t = lookup s.sets k t := by
  constructor
  · constructor
    · show (s.sets.mapIdx _).length = _
      rw [List.length_mapIdx]; exact hs.len
    · intro k cs hk
      have hk' : (s.sets.mapIdx (fun k cs => ({ cs with pol := f k } : CSet σ Nat)))[k]? = some cs := hk
      rw [List.getElem?_mapIdx] at hk'
      cases hg : s.sets[k]? with
      | none => rw [hg] at hk'; cases hk'
      | some cs0 =>
        rw [hg] at hk'
        cases hk'
        have h0 := hs.set k cs0 hg
        exact ⟨h0.len, hf k, h0.ways, h0.distinct⟩
  · intro k t
    unfold lookup
    show ((s.sets.mapIdx (fun k cs => ({ cs with pol := f k } : CSet σ Nat)))[k]?).bind _ = _
    rw [List.getElem?_mapIdx]
    cases s.sets[k]? <;> rfl

theorem setPols_inv {s : DSys σ} (hs : CInv WFp s) (f : Nat → σ) (hf : ∀ k, WFp (f k)) :
    CInv WFp (setPols s f) ∧ ∀ a, logical (setPols s f) a = logical s a := by
  obtain ⟨h1, h2⟩ := setPols_spec hs.sets f hf
  exact CInv_transfer hs (setPols s f) rfl rfl rfl h1 h2

theorem history_agrees_adv {s : DSys σ} (hP : PolicyOK P s.geo.assoc WFp) {m : Mem}
    (hr : Repr WFp s m) (ops : List (Spec.CacheAbs.Op × (Nat → σ)))
    (ho : ∀ p, p ∈ ops → p.1.wf ∧ ∀ k, WFp (p.2 k)) :
    Repr WFp (runOpsAdv P s ops).1 (flatOps m (ops.map Prod.fst)).1 ∧
      agreesAll (ops.map Prod.fst) (runOpsAdv P s ops).2 (flatOps m (ops.map Prod.fst)).2 := by
  induction ops generalizing s m with
  | nil => exact ⟨hr, trivial⟩
  | cons p os ih =>
    obtain ⟨o, f⟩ := p
    obtain ⟨hs, hm, hL⟩ := hr
    obtain ⟨how, hfw⟩ := ho (o, f) (by simp)
    obtain ⟨c1, c2⟩ := setPols_inv hs f hfw
    obtain ⟨h1, h2, _, h4⟩ := step_agrees (s := setPols s f) (m := m) hP
      ⟨c1, hm, fun a => (c2 a).trans (hL a)⟩ o how
    obtain ⟨i1, i4⟩ := ih (s := (stepOp P (setPols s f) o).sys) (m := (flatStep m o).1)
      (by rw [h2]; exact hP) h1 (fun p' hp' => ho p' (by simp [hp']))
    exact ⟨i1, h4, i4⟩

end ArchSim.Lemmas.C03
