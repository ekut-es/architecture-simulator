/-
Straight-line programs take `n + 4` cycles: "plain" instructions pass EX and MEM without fault, stall, flush or
architectural effect, so with an uncached instruction memory register `j` holds instruction `k - (j + 1)` after `k` cycles
(`LineInv`, `slotIdx`). `Slot prog Q l o` says the register `l` is empty (`o = none`) or holds program instruction number
`m` (`o = some m`) in a latch satisfying `Q`; each stage maps a slot to the slot of the next register.
-/
import ArchSim.Lemmas.C07Finish
import ArchSim.Lemmas.C08Pad
import ArchSim.Spec.Iter

namespace ArchSim.Lemmas.C07
open ArchSim ArchSim.Rv ArchSim.Pipe ArchSim.Lemmas.C02Split

/-- Opcodes without control transfer, memory access or environment call. -/
def plainOp (op : Op) : Bool :=
  match op.ty with
  | .r | .shiftI | .u => true
  | .i => op != .jalr && op != .ecall && op != .ebreak
  | _ => false

/-- A plain instruction; `srai` must carry the non-negative shift amount its constructor stores. -/
def PlainInstr (i : Instr) : Prop := plainOp i.op = true ∧ (i.op = .srai → 0 ≤ i.imm)

instance (i : Instr) : Decidable (PlainInstr i) := by unfold PlainInstr; infer_instance

theorem plain_alu (d : Latch) (h : PlainInstr d.instr) (regs : Nat → Nat)
    (hrr : d.rr = accessRegs d.instr regs) :
    ∃ cmp res, aluCompute d.instr (aluIn1 d) (aluIn2 d) = some (cmp, res) := by
  cases hal : aluCompute d.instr (aluIn1 d) (aluIn2 d) with
  | none => exact absurd hal (aluCompute_some d regs hrr h.2)
  | some cr => exact ⟨cr.1, cr.2, rfl⟩

theorem plain_ctl (i : Instr) (h : plainOp i.op = true) :
    (ctlOf i).branch = some false ∧ (ctlOf i).jump = some false ∧ (ctlOf i).aluToPc = some false := by
  have hj : i.op ≠ .jalr := by intro he; rw [he] at h; exact absurd h (by decide)
  unfold plainOp at h
  unfold ctlOf
  cases hty : i.op.ty <;> simp only [hty, Bool.false_eq_true] at h <;> simp only [if_neg hj, and_self]
  split <;> exact ⟨rfl, rfl, rfl⟩

theorem plain_memFlush (e : Latch) (h : PlainInstr e.instr) (hx : e.exitCode = none) :
    memFlush e = none := by
  obtain ⟨hb, hj, ha⟩ := plain_ctl e.instr h.1
  simp [memFlush, hb, hj, ha, hx]

def Slot (prog : List Instr) (Q : Latch → Prop) (l : Option Latch) (o : Option Nat) : Prop :=
  match o with
  | none => l = none
  | some m => ∃ x, l = some x ∧ prog[m]? = some x.instr ∧ Q x

/-- What ID guarantees about the latch it hands to EX (what C02's `RrOK` asks of an occupied register). -/
def Q1 (x : Latch) : Prop := ∃ regs, x.rr = accessRegs x.instr regs
/-- What EX and MEM guarantee about the latch they hand on (for plain instructions). -/
def Q2 (x : Latch) : Prop := x.exitCode = none

theorem slot_plain {prog : List Instr} (hplain : ∀ i ∈ prog, PlainInstr i) {m : Nat} {i : Instr}
    (h : prog[m]? = some i) : PlainInstr i :=
  hplain i (List.mem_of_getElem? h)

theorem slot_ex (prog : List Instr) (hplain : ∀ i ∈ prog, PlainInstr i) (s : St)
    (l1 l2 l3 : Option Latch) (o : Option Nat) (h : Slot prog Q1 l1 o) :
    (exStage s l1 l2 l3).st = s ∧ (exStage s l1 l2 l3).fault = none ∧
    Slot prog Q2 (exStage s l1 l2 l3).latch o ∧ latchStall (exStage s l1 l2 l3).latch = false ∧
    latchFlush (exStage s l1 l2 l3).latch = none := by
  cases o with
  | none =>
    have : l1 = none := h
    subst this
    exact ⟨rfl, rfl, rfl, rfl, rfl⟩
  | some m =>
    obtain ⟨x, rfl, hm, regs, hrr⟩ := h
    have hp := slot_plain hplain hm
    obtain ⟨cmp, res, halu⟩ := plain_alu x hp regs hrr
    rw [exStage_nonEcall s x l2 l3 cmp res (fun he => absurd (he ▸ hp.1) (by decide)) halu]
    exact ⟨rfl, rfl, ⟨_, rfl, hm, rfl⟩, rfl, rfl⟩

theorem slot_mem (prog : List Instr) (hplain : ∀ i ∈ prog, PlainInstr i) (s : St)
    (l2 : Option Latch) (o : Option Nat) (h : Slot prog Q2 l2 o) :
    (memStage s l2).st = s ∧ (memStage s l2).fault = none ∧
    Slot prog Q2 (memStage s l2).latch o ∧ latchFlush (memStage s l2).latch = none := by
  cases o with
  | none =>
    have : l2 = none := h
    subst this
    exact ⟨rfl, rfl, rfl, rfl⟩
  | some m =>
    obtain ⟨x, rfl, hm, hx⟩ := h
    have hp := slot_plain hplain hm
    have hfl := plain_memFlush x hp hx
    have hty : x.instr.op.ty ≠ .memI ∧ x.instr.op.ty ≠ .s := by
      have := hp.1
      unfold plainOp at this
      constructor <;> intro he <;> rw [he] at this <;> simp at this
    rw [memStage_some s x _ none (memoryAccess_other x.instr hty.1 hty.2 x.result x.rr.d2 s.mem true) rfl]
    unfold memCount
    rw [hfl]
    exact ⟨rfl, rfl, ⟨_, rfl, hm, hx⟩, hfl⟩

theorem slot_wb (prog : List Instr) (s : St) (l3 : Option Latch) (o : Option Nat)
    (h : Slot prog Q2 l3 o) :
    (wbStage s l3).1.exitCode = s.exitCode ∧
    (wbStage s l3).1.instrs = s.instrs + (if o.isSome then 1 else 0) ∧
    latchFlush (wbStage s l3).2 = none := by
  cases o with
  | none =>
    have : l3 = none := h
    subst this
    exact ⟨rfl, rfl, rfl⟩
  | some m =>
    obtain ⟨x, rfl, hm, hx⟩ := h
    have hx' : x.exitCode = none := hx
    rw [wbStage_some]
    simp [wbSt, wbLatch, latchFlush, hx']

theorem slot_neighbour {prog : List Instr} {Q : Latch → Prop} {l : Option Latch} {o : Option Nat}
    (h : Slot prog Q l o) (a : Nat) (hrel : ∀ b, o = some b → b < a ∧ a ≤ b + 2) :
    Neighbour prog a l := by
  intro x hx
  cases o with
  | none => have : l = none := h; rw [this] at hx; cases hx
  | some b =>
    obtain ⟨y, rfl, hb, _⟩ := h
    cases hx
    exact ⟨b, (hrel b rfl).1, (hrel b rfl).2, hb⟩

theorem slot_id (prog : List Instr) (hfree : HazardFree prog) (hz : Bool) (regs : Nat → Nat)
    (Q Q' Q'' : Latch → Prop) (l0 l1 l2 : Option Latch) (o0 o1 o2 : Option Nat)
    (h0 : Slot prog Q l0 o0) (h1 : Slot prog Q' l1 o1) (h2 : Slot prog Q'' l2 o2)
    (hrel1 : ∀ a b, o0 = some a → o1 = some b → b < a ∧ a ≤ b + 2)
    (hrel2 : ∀ a b, o0 = some a → o2 = some b → b < a ∧ a ≤ b + 2) :
    Slot prog Q1 (idStage hz regs l0 l1 l2) o0 ∧ latchStall (idStage hz regs l0 l1 l2) = false := by
  cases o0 with
  | none =>
    have : l0 = none := h0
    subst this
    exact ⟨rfl, rfl⟩
  | some a =>
    obtain ⟨f, rfl, ha, _⟩ := h0
    rw [idStage_some]
    exact ⟨⟨_, rfl, ha, regs, rfl⟩,
      C08.idStall_hazardFree prog hfree hz a f.instr ha regs l1 l2
        (slot_neighbour h1 a fun b hb => hrel1 a b rfl hb) (slot_neighbour h2 a fun b hb => hrel2 a b rfl hb)⟩

/-- IF at word `m` of an uncached program of at most 4096 instructions (the 16 KiB instruction
    memory): fetches instruction `m`. -/
theorem ifStage_line_some (s : St) (m : Nat) (i : Instr) (hc : s.imem.cache = none)
    (hpc : s.pc = 4 * (m : Int)) (hi : s.imem.prog[m]? = some i) (hm : m < 4096) :
    ifStage s = ({ s with pc := 4 * ((m + 1 : Nat) : Int) },
                 some { instr := i, addr := s.pc, pc4 := s.pc + 4 }) := by
  have hat : s.imem.instrAt s.pc = some i := by rw [hpc, instrAt_word, hi]
  have hf := IMem.fetch_uncached hc hat (by
    rw [hpc]
    exact Int.lt_of_lt_of_le (Int.mul_lt_mul_of_pos_left (Int.ofNat_lt.2 hm) (by decide)) (by decide))
  unfold ifStage
  simp only [hat, hf]
  have : s.pc + 4 = 4 * ((m + 1 : Nat) : Int) := by rw [hpc, Int.natCast_add, Int.mul_add]; rfl
  rw [this]
  rfl

theorem ifStage_line_none (s : St) (m : Nat) (hpc : s.pc = 4 * (m : Int)) (hi : s.imem.prog[m]? = none) :
    ifStage s = (s, none) := by
  have hat : s.imem.instrAt s.pc = none := by rw [hpc, instrAt_word, hi]
  unfold ifStage
  simp only [hat]

/-- Program index held by register `j` (0 = IF/ID … 3 = MEM/WB) after `k` cycles. -/
def slotIdx (n k j : Nat) : Option Nat :=
  if j < k ∧ k - (j + 1) < n then some (k - (j + 1)) else none

theorem slotIdx_succ (n k j : Nat) : slotIdx n (k + 1) (j + 1) = slotIdx n k j := by
  simp only [slotIdx, Nat.add_sub_add_right, Nat.add_lt_add_iff_right]

theorem slotIdx_zero (n k : Nat) : slotIdx n (k + 1) 0 = if k < n then some k else none := by
  unfold slotIdx; simp

theorem slotIdx_rel (n k j j' a b : Nat) (hj : j < j') (hj' : j' ≤ j + 2)
    (ha : slotIdx n k j = some a) (hb : slotIdx n k j' = some b) : b < a ∧ a ≤ b + 2 := by
  unfold slotIdx at ha hb
  split at ha <;> split at hb <;> simp at ha hb
  omega

theorem slotIdx_eq_none (n k j : Nat) : slotIdx n k j = none ↔ k ≤ j ∨ n + j < k := by
  unfold slotIdx
  by_cases h : j < k ∧ k - (j + 1) < n
  · rw [if_pos h]; exact ⟨fun h' => (nomatch h'), fun _ => by omega⟩
  · rw [if_neg h]; exact ⟨fun _ => by omega, fun _ => rfl⟩

/-- Instruction `m` leaves MEM/WB, i.e. retires, in cycle `m + 5`. -/
theorem retired_succ (n k : Nat) :
    min n (k - 4) + (if (slotIdx n k 3).isSome then 1 else 0) = min n (k + 1 - 4) := by
  unfold slotIdx
  by_cases h : 3 < k ∧ k - (3 + 1) < n
  · rw [if_pos h, Nat.sub_add_comm h.1, Nat.min_eq_right (Nat.le_of_lt h.2), Nat.min_eq_right h.2]; rfl
  · rw [if_neg h]
    rcases Nat.lt_or_ge 3 k with h3 | h3
    · have hn : n ≤ k - 4 := Nat.le_of_not_lt fun hlt => h ⟨h3, hlt⟩
      rw [Nat.min_eq_left hn, Nat.min_eq_left (Nat.le_trans hn (Nat.sub_le_sub_right (Nat.le_succ k) 4))]; rfl
    · rw [Nat.sub_eq_zero_of_le (Nat.le_succ_of_le h3), Nat.sub_eq_zero_of_le (Nat.succ_le_succ h3)]; rfl

/-- The pipeline after `k` cycles of a straight-line run started with `c0` cycles and `i0` retired
    instructions on the counters. -/
structure LineInv (prog : List Instr) (c0 i0 k : Nat) (p : PSt) : Prop where
  stl : p.stalled = none
  pc : p.st.pc = 4 * ((min k prog.length : Nat) : Int)
  prg : p.st.imem.prog = prog
  cch : p.st.imem.cache = none
  exit : p.st.exitCode = none
  instrs : p.st.instrs = i0 + min prog.length (k - 4)
  cycles : p.st.cycles = c0 + k
  s0 : Slot prog (fun _ => True) p.l0 (slotIdx prog.length k 0)
  s1 : Slot prog Q1 p.l1 (slotIdx prog.length k 1)
  s2 : Slot prog Q2 p.l2 (slotIdx prog.length k 2)
  s3 : Slot prog Q2 p.l3 (slotIdx prog.length k 3)

theorem line_IF (prog : List Instr) (c0 i0 k : Nat) (p : PSt) (hlen : prog.length ≤ 4096)
    (h : LineInv prog c0 i0 k p) :
    (sIF p).pc = 4 * ((min (k + 1) prog.length : Nat) : Int) ∧ (sIF p).imem = p.st.imem ∧
    Slot prog (fun _ => True) (nIF p) (slotIdx prog.length (k + 1) 0) := by
  unfold sIF nIF
  rw [h.stl, slotIdx_zero]
  simp only
  by_cases hk : k < prog.length
  · have hi : (tick p.st).imem.prog[k]? = some prog[k] := by
      show p.st.imem.prog[k]? = _
      rw [h.prg]; exact List.getElem?_eq_getElem hk
    have hpc : (tick p.st).pc = 4 * (k : Int) := by
      show p.st.pc = _
      rw [h.pc, Nat.min_eq_left (Nat.le_of_lt hk)]
    rw [ifStage_line_some (tick p.st) k prog[k] h.cch hpc hi (Nat.lt_of_lt_of_le hk hlen), if_pos hk,
      Nat.min_eq_left hk]
    exact ⟨rfl, rfl, ⟨_, rfl, List.getElem?_eq_getElem hk, trivial⟩⟩
  · have hpc : (tick p.st).pc = 4 * ((prog.length : Nat) : Int) := by
      show p.st.pc = _
      rw [h.pc, Nat.min_eq_right (Nat.le_of_not_lt hk)]
    have hi : (tick p.st).imem.prog[prog.length]? = none := by
      show p.st.imem.prog[prog.length]? = _
      rw [h.prg]; simp
    rw [ifStage_line_none (tick p.st) prog.length hpc hi, if_neg hk,
      Nat.min_eq_right (Nat.le_succ_of_le (Nat.le_of_not_lt hk))]
    exact ⟨hpc, rfl, rfl⟩

theorem line_step (prog : List Instr) (hplain : ∀ i ∈ prog, PlainInstr i) (hfree : HazardFree prog)
    (hlen : prog.length ≤ 4096) (c0 i0 k : Nat) (p : PSt) (h : LineInv prog c0 i0 k p) :
    (step p).fault = none ∧ LineInv prog c0 i0 (k + 1) (step p).p := by
  have hin : idInput p = p.l0 ∧ exInput p = p.l1 ∧ memInput p = p.l2 := by
    unfold idInput exInput memInput; rw [h.stl]; exact ⟨rfl, rfl, rfl⟩
  obtain ⟨hIFpc, hIFim, hIFslot⟩ := line_IF prog c0 i0 k p hlen h
  obtain ⟨hWBexit, hWBinstrs, hWBflush⟩ := slot_wb prog (sIF p) p.l3 _ h.s3
  obtain ⟨hIDslot, hIDstall⟩ := slot_id prog hfree p.hazard (sWB p).regs _ _ _ (idInput p) p.l1 p.l2 _ _ _
    (hin.1 ▸ h.s0) h.s1 h.s2
    (fun a b ha hb => slotIdx_rel _ k 0 1 a b (by decide) (by decide) ha hb)
    (fun a b ha hb => slotIdx_rel _ k 0 2 a b (by decide) (by decide) ha hb)
  obtain ⟨hEXst, hEXf, hEXslot, hEXstall, hEXflush⟩ :=
    slot_ex prog hplain (sWB p) (exInput p) p.l2 p.l3 _ (hin.2.1 ▸ h.s1)
  obtain ⟨hMEst, hMEf, hMEslot, hMEflush⟩ := slot_mem prog hplain (exO p).st (memInput p) _ (hin.2.2 ▸ h.s2)
  have hpick : pickStall p.stalled (nID p) (exO p).latch = none := by
    unfold pickStall; simp [show latchStall (nID p) = false from hIDstall,
      show latchStall (exO p).latch = false from hEXstall]
  have hst : stallBump (pickStall p.stalled (nID p) (exO p).latch) (meO p).st = sWB p := by
    rw [hpick]; exact hMEst.trans hEXst
  rw [step_quiet p ⟨hEXf, hMEf⟩ ⟨hWBflush, hMEflush, hEXflush⟩, hst, hpick, h.stl]
  refine ⟨rfl, rfl, ?_, ?_, ?_, ?_, ?_, ?_, hIFslot, ?_, ?_, ?_⟩
  · exact (sWB_pc p).trans hIFpc
  · exact (congrArg IMem.prog ((sWB_imem p).trans hIFim)).trans h.prg
  · exact (congrArg IMem.cache ((sWB_imem p).trans hIFim)).trans h.cch
  · exact hWBexit.trans ((sIF_exitCode p).trans h.exit)
  · show (sWB p).instrs = _
    unfold sWB; rw [hWBinstrs, sIF_instrs, h.instrs, Nat.add_assoc, retired_succ]
  · show (sWB p).cycles = _
    rw [sWB_cycles, fetchExtra_none p h.cch, h.cycles]; rfl
  · rw [slotIdx_succ]; exact hIDslot
  · rw [slotIdx_succ]; exact hEXslot
  · rw [slotIdx_succ]; exact hMEslot

/-- One `Pipeline.step()`, forgetting the (absent) exception. -/
def stepP (p : PSt) : PSt := (step p).p

theorem line_run (prog : List Instr) (hplain : ∀ i ∈ prog, PlainInstr i) (hfree : HazardFree prog)
    (hlen : prog.length ≤ 4096) (c0 i0 : Nat) (p0 : PSt) (h0 : LineInv prog c0 i0 0 p0) (k : Nat) :
    LineInv prog c0 i0 k (iter stepP k p0) ∧ (step (iter stepP k p0)).fault = none := by
  induction k with
  | zero => exact ⟨h0, (line_step prog hplain hfree hlen c0 i0 0 p0 h0).1⟩
  | succ k ih =>
    rw [iter_succ']
    have h1 := (line_step prog hplain hfree hlen c0 i0 k _ ih.1).2
    exact ⟨h1, (line_step prog hplain hfree hlen c0 i0 (k + 1) _ h1).1⟩

theorem slot_isNone (prog : List Instr) (Q : Latch → Prop) (l : Option Latch) (o : Option Nat)
    (h : Slot prog Q l o) : l.isNone = o.isNone := by
  cases o with
  | none => have : l = none := h; subst this; rfl
  | some m => obtain ⟨x, rfl, _⟩ := h; rfl

theorem line_isDone (prog : List Instr) (c0 i0 k : Nat) (p : PSt) (h : LineInv prog c0 i0 k p) :
    isDone p = true ↔ (prog.length = 0 ∨ prog.length + 4 ≤ k) := by
  unfold isDone
  rw [h.exit, slot_isNone _ _ _ _ h.s0, slot_isNone _ _ _ _ h.s1, slot_isNone _ _ _ _ h.s2,
    slot_isNone _ _ _ _ h.s3, h.pc, instrAt_word, h.prg]
  simp only [Option.isSome_none, Bool.false_or, Bool.and_eq_true, Option.isNone_iff_eq_none,
    List.getElem?_eq_none_iff, slotIdx_eq_none]
  omega

/-- Start of a straight-line run: empty pipeline at pc 0, uncached program `prog`, not exited. -/
structure LineStart (prog : List Instr) (p0 : PSt) : Prop where
  stl : p0.stalled = none
  pc : p0.st.pc = 0
  imem : p0.st.imem = { prog := prog, cache := none }
  exit : p0.st.exitCode = none
  e0 : p0.l0 = none
  e1 : p0.l1 = none
  e2 : p0.l2 = none
  e3 : p0.l3 = none

theorem lineInv_start (prog : List Instr) (p0 : PSt) (h : LineStart prog p0) :
    LineInv prog p0.st.cycles p0.st.instrs 0 p0 where
  stl := h.stl
  pc := by rw [h.pc]; simp
  prg := by rw [h.imem]
  cch := by rw [h.imem]
  exit := h.exit
  instrs := by simp
  cycles := rfl
  s0 := h.e0
  s1 := h.e1
  s2 := h.e2
  s3 := h.e3

end ArchSim.Lemmas.C07
