/-
TOY assembler front end.  A line `<address mnemonic in any letter case> <numeral>` is tokenised as that instruction: a
finite table of all spellings, carried over to any numeral because the regex alternation only looks at a bounded prefix.
`parseLine'` … `tokenize'` are a second copy of the line grammar with the sorted symbol lists as a parameter (`Syms`):
the model's `one_of` sorts its symbols with `List.mergeSort`, well-founded recursion that the kernel cannot unfold, so
`decide` cannot evaluate the model's `tokenize` on a concrete text; at `longestFirst` of the grammar's own lists the
copy is the model's grammar by unfolding, and the sorted lists are literals.
-/
import ArchSim.Lemmas.ToyAsmNum

namespace ArchSim.ToyAsm
open ArchSim ArchSim.PP

deriving instance DecidableEq for ArchSim.PP.R

/-- all upper/lower-case spellings of an upper-case word -/
def caseVariants : List Char → List (List Char)
  | [] => [[]]
  | c :: cs => (caseVariants cs).flatMap fun v => [c :: v, toLowerAscii c :: v]

/-- every spelling of every address-type mnemonic, paired with the canonical mnemonic -/
def addrSpellings : List (List Char × String) :=
  addrMnemonics.flatMap fun s => (caseVariants s.toList).map fun v => (v, s)

def sortedAddr : List String := ["STO", "LDA", "BRZ", "ADD", "SUB", "AND", "XOR", "OR"]
def sortedNoAddr : List String := ["NOT", "INC", "DEC", "ZRO", "NOP"]

/-- The lengths `one_of`'s stable sort compares: `OR` is the one shorter symbol, so it moves to the end. -/
theorem mnemonic_lengths :
    "STO".length = 3 ∧ "LDA".length = 3 ∧ "BRZ".length = 3 ∧ "ADD".length = 3 ∧ "SUB".length = 3 ∧
    "OR".length = 2 ∧ "AND".length = 3 ∧ "XOR".length = 3 := by decide

theorem longestFirst_addr : longestFirst addrMnemonics = sortedAddr := by
  obtain ⟨h1, h2, h3, h4, h5, h6, h7, h8⟩ := mnemonic_lengths
  simp [longestFirst, addrMnemonics, sortedAddr, List.mergeSort, h1, h2, h3, h4, h5, h6, h7, h8]

theorem longestFirst_noAddr : longestFirst noAddrMnemonics = sortedNoAddr :=
  longestFirst_of_sorted _ (by decide)

/-! ### the regex alternation only looks at a bounded prefix -/

theorem rePrefix_append (sym m rest : List Char) (h : sym.length ≤ m.length) :
    rePrefix sym (m ++ rest) = (rePrefix sym m).map (fun p => (p.1, p.2 ++ rest)) := by
  induction sym generalizing m with
  | nil => simp [rePrefix]
  | cons p ps ih =>
    cases m with
    | nil => simp at h
    | cons c cs =>
      simp only [List.length_cons] at h
      simp only [List.cons_append, rePrefix]
      by_cases hm : reCharMatch p c = true
      · simp only [hm, if_true]
        rw [ih cs (by omega)]
        cases rePrefix ps cs <;> rfl
      · simp [hm]

/-- appending to the unread rest of a scanner result -/
def R.extend {α : Type} (rest : Inp) : R α → R α
  | .fail => .fail
  | .abort => .abort
  | .ok a r => .ok a (r ++ rest)

theorem go_append (syms : List String) (m rest : List Char)
    (h : ∀ s ∈ syms, s.toList.length ≤ m.length) :
    oneOfCaseless.go (m ++ rest) syms = R.extend rest (oneOfCaseless.go m syms) := by
  induction syms with
  | nil => rfl
  | cons s ss ih =>
    simp only [oneOfCaseless.go]
    rw [rePrefix_append _ _ _ (h s (by simp))]
    cases hr : rePrefix s.toList m with
    | none => simpa using ih (fun x hx => h x (by simp [hx]))
    | some p =>
      simp only [Option.map_some]
      split <;> rfl

/-! ### the finite table of spellings -/

theorem sorted_lengths : (∀ s ∈ sortedAddr, s.toList.length ≤ 3) ∧ (∀ s ∈ sortedNoAddr, s.toList.length ≤ 3) := by
  decide

/-- The probe is the spelling plus one blank: that makes it at least as long as the longest symbol (3, `sorted_lengths`;
    `OR` alone has 2), the hypothesis under which `go_append` carries both results to any continuation of the line. -/
theorem addrSpellings_table : ∀ p ∈ addrSpellings,
    oneOfCaseless.go (p.1 ++ [' ']) sortedAddr = .ok p.2 [' '] ∧
    oneOfCaseless.go (p.1 ++ [' ']) sortedNoAddr = .fail ∧
    3 ≤ (p.1 ++ [' ']).length ∧
    (∀ c ∈ p.1, isLabelBody c = true) ∧
    (∀ c, p.1.head? = some c → isLabelInit c = true ∧ isWs c = false ∧ c ≠ '.') ∧ p.1 ≠ [] := by
  decide +kernel

theorem isNum_facts (c : Char) (h : isNum c = true) :
    isWs c = false ∧ isLabelInit c = false ∧ c ≠ ':' ∧ c ≠ '.' := by
  have hws := isNum_not_ws c h
  rw [isNum_iff] at h
  refine ⟨hws, ?_, ?_, ?_⟩
  · have nu : c ≠ '_' := by intro heq; subst heq; revert h; decide
    have na : isAlpha c = false := by rw [Bool.eq_false_iff, Ne, isAlpha_iff]; omega
    simp [isLabelInit, na, nu]
  · intro heq; subst heq; revert h; decide
  · intro heq; subst heq; revert h; decide

theorem parseLine_addr_value (m : List Char) (s : String) (hp : (m, s) ∈ addrSpellings)
    (c : Char) (cs : List Char) (hc : isNum c = true) (val : String)
    (hval : pValue (' ' :: c :: cs) = .ok val []) :
    parseLine (m ++ ' ' :: c :: cs) = some (.instr none s (some val) none) := by
  obtain ⟨hgo1, hgo2, hlen, hbody, hhead, hne⟩ := addrSpellings_table (m, s) hp
  simp only at hgo1 hgo2 hlen hbody hhead hne
  obtain ⟨hcws, hcinit, hccolon, hcdot⟩ := isNum_facts c hc
  cases m with
  | nil => exact absurd rfl hne
  | cons m0 ms =>
    obtain ⟨hm0init, hm0ws, hm0dot⟩ := hhead m0 rfl
    have hline : (m0 :: ms) ++ ' ' :: c :: cs = m0 :: (ms ++ ' ' :: c :: cs) := rfl
    have hskip : skipWs (m0 :: (ms ++ ' ' :: c :: cs)) = m0 :: (ms ++ ' ' :: c :: cs) := by
      simp [skipWs, List.dropWhile, hm0ws]
    have hskip2 : skipWs (' ' :: c :: cs) = c :: cs := by
      have : isWs ' ' = true := by decide
      simp [skipWs, List.dropWhile, this, hcws]
    have hblank : ∀ x, (' ' :: c :: cs).head? = some x → isLabelBody x = false := by
      intro x hx; simp at hx; subst hx; decide
    have hdir : pDirective (m0 :: (ms ++ ' ' :: c :: cs)) = .fail := by
      have e : ".".toList = ['.'] := by decide
      have : ¬ ('.' = m0) := fun h => hm0dot h.symm
      simp [pDirective, lit, hskip, e, stripPrefix, this, R.bind]
    have hlabel : pLabel (m0 :: (ms ++ ' ' :: c :: cs)) = .ok (String.ofList (m0 :: ms)) (' ' :: c :: cs) := by
      simp only [pLabel, word, hskip]
      exact Lemmas.C14.wordAdj_class _ _ m0 ms _ hm0init (fun x hx => hbody x (by simp [hx])) hblank
    have hcolon : pColon (' ' :: c :: cs) = .fail := by
      have e : ":".toList = [':'] := by decide
      have : ¬ (':' = c) := fun h => hccolon h.symm
      simp [pColon, lit, hskip2, e, stripPrefix, this]
    have hdecl : pLabelDecl (m0 :: (ms ++ ' ' :: c :: cs)) = .fail := by
      simp [pLabelDecl, hlabel, R.bind, hcolon, R.map]
    have hvar : pVarDecl (m0 :: (ms ++ ' ' :: c :: cs)) = .fail := by
      simp [pVarDecl, hlabel, R.bind, hcolon]
    have hone : oneOfCaseless addrMnemonics (m0 :: (ms ++ ' ' :: c :: cs)) = .ok s (' ' :: c :: cs) := by
      have := go_append sortedAddr ((m0 :: ms) ++ [' ']) (c :: cs)
        (fun x hx => Nat.le_trans (sorted_lengths.1 x hx) hlen)
      rw [hgo1] at this
      simp only [oneOfCaseless, hskip, longestFirst_addr]
      simpa [R.extend] using this
    have hnone : oneOfCaseless noAddrMnemonics (m0 :: (ms ++ ' ' :: c :: cs)) = .fail := by
      have := go_append sortedNoAddr ((m0 :: ms) ++ [' ']) (c :: cs)
        (fun x hx => Nat.le_trans (sorted_lengths.2 x hx) hlen)
      rw [hgo2] at this
      simp only [oneOfCaseless, hskip, longestFirst_noAddr]
      simpa [R.extend] using this
    have hlabel2 : pLabel (' ' :: c :: cs) = .fail := by
      simp [pLabel, word, hskip2, wordAdj, hcinit]
    have haddr : pAddrInstr none (m0 :: (ms ++ ' ' :: c :: cs)) =
        .ok (.instr none s (some val) none) [] := by
      simp [pAddrInstr, hone, R.bind, orLongest, hval, hlabel2, R.map]
    have hnoaddr : pNoAddrInstr none (m0 :: (ms ++ ' ' :: c :: cs)) = .fail := by
      simp [pNoAddrInstr, hnone, R.map]
    have hinstr : pInstruction (m0 :: (ms ++ ' ' :: c :: cs)) =
        .ok (.instr none s (some val) none) [] := by
      simp [pInstruction, opt, hdecl, R.bind, orLongest, haddr, hnoaddr]
    rw [hline]
    simp [parseLine, orLongest, hdir, hvar, hinstr, hdecl, R.map, atEnd, skipWs]

theorem tokenize_ok_map (ls : List (Nat × List Char)) (toks : List Entry)
    (h : tokenize ls = .ok toks) :
    toks.map (fun x => (x.1, x.2.1)) = ls.map (fun x => (x.1, String.ofList x.2)) := by
  induction ls generalizing toks with
  | nil => cases h; rfl
  | cons a ls ih =>
    obtain ⟨k, l⟩ := a
    simp only [tokenize] at h
    split at h
    · cases h
    · split at h
      · cases h
      · next es hes => cases h; simp [ih es hes]

/-! ### an evaluable mirror -/

theorem longestFirst_dirs : longestFirst ["text", "data"] = ["text", "data"] :=
  longestFirst_of_sorted _ (by decide)

theorem longestFirst_word : longestFirst ["word"] = ["word"] :=
  longestFirst_of_sorted _ (by decide)

/-- `one_of(…, caseless=True)` on an already sorted symbol list -/
def oneOfCaselessS (sorted : List String) (i : Inp) : R String := oneOfCaseless.go (skipWs i) sorted
/-- `one_of(…)` on an already sorted symbol list -/
def oneOfS (sorted : List String) (i : Inp) : R String := oneOf.go (skipWs i) sorted

theorem oneOf_dirs (i : Inp) : oneOf ["text", "data"] i = oneOfS ["text", "data"] i := by
  simp only [oneOf, longestFirst_dirs, oneOfS]

/-- the sorted symbol lists of the line grammar: address mnemonics, other mnemonics, directives, `word` -/
structure Syms where
  addr : List String
  noAddr : List String
  dirs : List String
  word : List String

def pDirective' (y : Syms) (i : Inp) : R TStmt :=
  (lit "." i).bind fun _ r => (oneOfS y.dirs r).map fun d => .directive d

def pVarDecl' (y : Syms) (i : Inp) : R TStmt :=
  (pLabel i).bind fun name r1 =>
  (pColon r1).bind fun _ r2 =>
  (lit "." r2).bind fun _ r3 =>
  (oneOfS y.word r3).bind fun _ r4 =>
  (pValue r4).bind fun v r5 =>
    let (vs, rest) := pMoreValues r5.length r5 [v]
    .ok (.varDecl name vs) rest

def pAddrInstr' (y : Syms) (lbl : Option String) (i : Inp) : R TStmt :=
  (oneOfCaselessS y.addr i).bind fun mn r =>
    orLongest [fun j => (pValue j).map (fun v => TStmt.instr lbl mn (some v) none),
               fun j => (pLabel j).map (fun l => TStmt.instr lbl mn none (some l))] r

def pNoAddrInstr' (y : Syms) (lbl : Option String) (i : Inp) : R TStmt :=
  (oneOfCaselessS y.noAddr i).map fun mn => .instr lbl mn none none

def pInstruction' (y : Syms) (i : Inp) : R TStmt :=
  (opt pLabelDecl i).bind fun lbl r => orLongest [pAddrInstr' y lbl, pNoAddrInstr' y lbl] r

def parseLine' (y : Syms) (line : List Char) : Option TStmt :=
  match orLongest [pDirective' y, pVarDecl' y, pInstruction' y,
                   fun i => (pLabelDecl i).map TStmt.label] line with
  | .ok s rest => if atEnd rest then some s else none
  | _ => none

def tokenize' (y : Syms) : List (Nat × List Char) → Except AsmErr (List Entry)
  | [] => .ok []
  | (k, l) :: rest =>
    match parseLine' y l with
    | none => .error (.parser "ParserSyntaxException" k (String.ofList l))
    | some s =>
      match tokenize' y rest with
      | .error e => .error e
      | .ok es => .ok ((k, String.ofList l, s) :: es)

/-- the sorted lists as literals -/
def sortedSyms : Syms := ⟨sortedAddr, sortedNoAddr, ["text", "data"], ["word"]⟩

theorem parseLine_eq : parseLine = parseLine' sortedSyms := by
  have h : parseLine = parseLine' ⟨longestFirst addrMnemonics, longestFirst noAddrMnemonics,
      longestFirst ["text", "data"], longestFirst ["word"]⟩ := rfl
  rw [h, longestFirst_addr, longestFirst_noAddr, longestFirst_dirs, longestFirst_word]; rfl

theorem tokenize_eq (ls : List (Nat × List Char)) : tokenize ls = tokenize' sortedSyms ls := by
  induction ls with
  | nil => rfl
  | cons a ls ih =>
    obtain ⟨k, l⟩ := a
    simp only [tokenize, tokenize', parseLine_eq, ih]
    rfl

/-- `sanitize` on the character list of the text -/
def sanitizeL (cs : List Char) : List (Nat × List Char) :=
  let ls := splitLines cs
  let numbered := (List.range ls.length).zip ls |>.map fun (k, l) => (k + 1, l)
  let kept := numbered.filter fun (_, l) =>
    let s := pyStrip l
    !s.isEmpty && s.head? != some '#'
  kept.map fun (k, l) => (k, pyStrip (l.takeWhile (· != '#')))

theorem sanitize_eq (text : String) : sanitize text = sanitizeL text.toList := rfl

/-- evaluable check: the characters `cs` tokenise to `toks` -/
def tokenizesTo (cs : List Char) (toks : List Entry) : Bool :=
  match tokenize' sortedSyms (sanitizeL cs) with
  | .ok l => l == toks
  | .error _ => false

theorem tokenize_of_tokenizesTo (text : String) (toks : List Entry)
    (h : tokenizesTo text.toList toks = true) : tokenize (sanitize text) = .ok toks := by
  rw [sanitize_eq, tokenize_eq]
  unfold tokenizesTo at h
  revert h
  cases tokenize' sortedSyms (sanitizeL text.toList) with
  | error e => intro h; cases h
  | ok l => intro h; simp only [beq_iff_eq] at h; rw [h]

/-! ### long texts

A text given as the concatenation of its lines has the characters of its lines
(`textOfLines_toList`); those of a literal line come from `String.toList_ofList`, not from
evaluating `String.toList`, which in the kernel runs the UTF-8 coder on every character. -/

/-- a text as the concatenation of its pieces (lines with their line breaks) -/
def textOfLines (ls : List String) : String := ls.foldl (· ++ ·) ""
def charsOfLines (ls : List String) : List Char := ls.flatMap String.toList

theorem textOfLines_toList (ls : List String) : (textOfLines ls).toList = charsOfLines ls := by
  have : ∀ (acc : String), (ls.foldl (· ++ ·) acc).toList = acc.toList ++ charsOfLines ls := by
    induction ls with
    | nil => intro acc; simp [charsOfLines]
    | cons l ls ih => intro acc; simp [List.foldl_cons, ih, charsOfLines, String.toList_append]
  have h := this ""
  simpa [textOfLines] using h

end ArchSim.ToyAsm
