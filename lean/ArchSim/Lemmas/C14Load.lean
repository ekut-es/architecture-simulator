/-
Straight-line entries (`Straight`: label-free, each expanding to one entry that builds a known instruction whatever the
labels): the segment and label passes leave such entries alone, so `load` stores exactly their instructions.
-/
import ArchSim.Lemmas.C14Main
import ArchSim.Lemmas.C05Seg

namespace ArchSim.Lemmas.C14
open ArchSim ArchSim.PP ArchSim.Rv ArchSim.Asm

/-- `es` are label-free entries from which `buildInstrs` rebuilds `is` at consecutive addresses. -/
def Good : Int → List Entry → List Instr → Prop
  | _, [], [] => True
  | addr, e :: es, i :: is => e.2.2.lbl = none ∧ ItemBuilds addr e.2.2.item i ∧ Good (addr + 4) es is
  | _, _, _ => False

/-- A program of canonical instructions at consecutive addresses starting at `addr`, none of them `fence`, which has
    no printed assembler form (`Instr.repr`, Model/Rv.lean). -/
def CanonFrom : Int → List Instr → Prop
  | _, [] => True
  | addr, i :: is => i.Canon addr ∧ i.op ≠ .fence ∧ CanonFrom (addr + 4) is

instance canonDec (addr : Int) (i : Instr) : Decidable (i.Canon addr) := by
  unfold Instr.Canon
  cases i.op.ty <;> infer_instance

instance canonFromDec : (addr : Int) → (prog : List Instr) → Decidable (CanonFrom addr prog)
  | _, [] => isTrue trivial
  | addr, i :: is =>
    have := canonFromDec (addr + 4) is
    by unfold CanonFrom; infer_instance

theorem canonFrom_mem {addr : Int} {prog : List Instr} (h : CanonFrom addr prog) :
    ∀ i ∈ prog, (∃ a, i.Canon a) ∧ i.op ≠ .fence := by
  induction prog generalizing addr with
  | nil => intro i hi; cases hi
  | cons j js ih =>
    intro i hi
    rcases List.mem_cons.mp hi with rfl | hi
    · exact ⟨⟨addr, h.1⟩, h.2.1⟩
    · exact ih h.2.2 i hi

theorem canonFrom_of_forall (prog : List Instr) (addr : Int)
    (h : ∀ k (hk : k < prog.length), prog[k].Canon (addr + 4 * k) ∧ prog[k].op ≠ .fence) :
    CanonFrom addr prog := by
  induction prog generalizing addr with
  | nil => trivial
  | cons i is ih =>
    refine ⟨?_, (h 0 (by simp)).2, ih (addr + 4) ?_⟩
    · have := (h 0 (by simp)).1
      simp only [List.getElem_cons_zero, Int.natCast_zero, Int.mul_zero, Int.add_zero] at this
      exact this
    · intro k hk
      have := h (k + 1) (by simp; omega)
      simp only [List.getElem_cons_succ] at this
      have e : addr + 4 + 4 * (k : Int) = addr + 4 * ((k + 1 : Nat) : Int) := by
        push_cast; omega
      rw [e]; exact this

/-- the text entries of `load` -/
def tentriesOf (es : List Entry) : List TEntry := es.map fun (k, line, t) => (k, line, t.item)

/-- The expanded item `it'` builds `i` at `addr` whatever the labels, line number and line text. This is `ItemBuilds`
    (C14Main) without its clauses about `i.op`: entries that come out of a pseudo-instruction expansion are described by
    their item alone. `ItemBuilds` implies it (`Good.straight`). -/
def ItemMakes (addr : Int) (it' : Item) (i : Instr) : Prop :=
  (it' = .str "ecall" ∧ i = { op := .ecall }) ∨ (it' = .str "ebreak" ∧ i = { op := .ebreak, imm := 1 }) ∨
  ∃ pi, it' = .grp pi ∧ ∀ ls k line, instantiate ls addr k line pi = .ok i

/-- Straight-line entries: label-free entries `es`, each expanding (under any variable table) to the ONE entry of `xs`
    at its place, which builds the instruction of `is` at its place, at consecutive addresses from the given one. -/
inductive Straight : Int → List Entry → List TEntry → List Instr → Prop
  | nil (a) : Straight a [] [] []
  | cons {a k line t it' i es xs is} : t.lbl = none →
      (∀ vars, expandOne vars (k, line, t.item) = .ok [(k, line, it')]) → ItemMakes a it' i →
      Straight (a + 4) es xs is → Straight a ((k, line, t) :: es) ((k, line, it') :: xs) (i :: is)

namespace Straight
variable {a : Int} {es : List Entry} {xs : List TEntry} {is : List Instr}

theorem noDir (h : Straight a es xs is) : C05.noDir es := by
  induction h with
  | nil => intro e he; cases he
  | @cons _ _ _ t _ _ _ _ _ _ hx hm _ ih =>
    -- a directive expands to itself, and a directive makes no instruction
    have hd : ∀ d, t.item ≠ .directive d := fun d hit => by
      have := hx []
      rw [hit] at this
      cases this
      rcases hm with ⟨h, _⟩ | ⟨h, _⟩ | ⟨_, h, _⟩ <;> cases h
    exact List.forall_mem_cons.2 ⟨by simp [isDir, hd], ih⟩

theorem pending (h : Straight a es xs is) : (es.filterMap fun (k, _, t) => t.lbl.map fun l => (k, l)) = [] := by
  induction h with
  | nil => rfl
  | cons hl _ _ _ ih => simp [hl, ih]

theorem expands (h : Straight a es xs is) (vars : Vars) : expandAll vars (tentriesOf es) = .ok xs := by
  induction h with
  | nil => rfl
  | cons _ hx _ _ ih =>
    simp only [tentriesOf] at ih
    simp only [tentriesOf, List.map_cons, expandAll, hx vars, ih]
    rfl

theorem labels (h : Straight a es xs is) (ls : Labels) (b : Int) : processLabels xs [] ls b = .ok ls := by
  induction h generalizing b with
  | nil => rfl
  | cons _ _ hm _ ih => rcases hm with ⟨rfl, _⟩ | ⟨rfl, _⟩ | ⟨pi, rfl, _⟩ <;> simp [processLabels, ih]

theorem builds (h : Straight a es xs is) (ls : Labels) : buildInstrs ls xs a = .ok is := by
  induction h with
  | nil => rfl
  | @cons _ k line _ _ _ _ _ _ _ _ hm _ ih =>
    rcases hm with ⟨rfl, rfl⟩ | ⟨rfl, rfl⟩ | ⟨pi, rfl, hp⟩
    · simp [buildInstrs, ih, Except.map]
    · simp [buildInstrs, ih, Except.map]
    · simp [buildInstrs, ih, hp ls k line, Except.map]

theorem length (h : Straight a es xs is) : es.length = is.length := by
  induction h with
  | nil => rfl
  | cons _ _ _ _ ih => simp [ih]

theorem loads (s : St) {text : String} {prog : List Instr} (hes : tokenize (sanitize text) = .ok es)
    (h : Straight 0 es xs prog) :
    load s text =
      if prog.length > 4096 then
        { st := { s with mem := s.mem.reset,
                         imem := { prog := prog.take 4096, cache := s.imem.cache.map ICache.reset } },
          err := some (.memAddr 16384) }
      else
        { st := { s with mem := s.mem.reset, imem := { prog := prog, cache := s.imem.cache.map ICache.reset } },
          err := none } := by
  have hx := h.expands []
  simp only [tentriesOf] at hx
  unfold load
  simp only [hes, C05.segment_noDir es h.noDir, h.pending, writeData, hx, h.labels [] 0, h.builds []]

end Straight

theorem expandOne_builds (vars : Vars) (k : Nat) (line : String) {addr : Int} {it : Item} {i : Instr}
    (h : ItemBuilds addr it i) : expandOne vars (k, line, it) = .ok [(k, line, it)] := by
  rcases h with ⟨_, rfl, _⟩ | ⟨_, rfl, _⟩ | ⟨_, _, pi, rfl, hi⟩
  · rfl
  · rfl
  · have := hi [] 0 ""
    cases pi <;> first | rfl | simp [instantiate] at this

theorem Good.straight {addr : Int} {es : List Entry} {is : List Instr} (h : Good addr es is) :
    Straight addr es (tentriesOf es) is := by
  fun_induction Good addr es is with
  | case1 => exact .nil _
  | case2 addr e es i is ih =>
    obtain ⟨k, line, t⟩ := e
    exact .cons h.1 (fun vars => expandOne_builds vars k line h.2.1) (h.2.1.imp (·.2) (Or.imp (·.2) (·.2.2)))
      (ih h.2.2)
  | case3 => exact h.elim

theorem _root_.ArchSim.Lemmas.C14.ItemBuilds.builds {addr : Int} {it : Item} {i : Instr} (hb : ItemBuilds addr it i)
    (ls : Labels) (k : Nat) (line : String) : buildInstrs ls [(k, line, it)] addr = .ok [i] :=
  (Good.straight (es := [(k, line, { lbl := none, item := it })]) (is := [i]) ⟨rfl, hb, trivial⟩).builds ls

theorem good_length {addr : Int} {es : List Entry} {is : List Instr} (h : Good addr es is) :
    es.length = is.length := h.straight.length

theorem load_good (s : St) (text : String) (prog : List Instr) (es : List Entry)
    (hes : tokenize (sanitize text) = .ok es) (hg : Good 0 es prog) (hlen : prog.length ≤ 4096) :
    load s text =
      { st := { s with mem := s.mem.reset, imem := { prog := prog, cache := s.imem.cache.map ICache.reset } },
        err := none } := by
  rw [hg.straight.loads s hes, if_neg (by omega)]

end ArchSim.Lemmas.C14
