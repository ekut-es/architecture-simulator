/-
Facts about the scanners and numeral readers of `Model/PP.lean` that both assembler grammars use: the character
classes as ranges of code points (what `omega` needs to compare them), what the scanners make of a run of one class
followed by a character outside it, and `natOfDigits`/`pyIntDec` on strings of valid digits.  The lemmas stand in the
namespaces of their users: character classes in `PP`, scanner runs in `Lemmas.C14`, digit values in `Lemmas.C04Spell`.
-/
import ArchSim.Model.PP

namespace ArchSim.PP

theorem isNum_iff (c : Char) : isNum c = true ↔ 48 ≤ c.toNat ∧ c.toNat ≤ 57 := by
  simp only [isNum, Bool.and_eq_true, decide_eq_true_eq]; exact Iff.rfl

theorem isAlpha_iff (c : Char) :
    isAlpha c = true ↔ (97 ≤ c.toNat ∧ c.toNat ≤ 122) ∨ (65 ≤ c.toNat ∧ c.toNat ≤ 90) := by
  simp only [isAlpha, Bool.or_eq_true, Bool.and_eq_true, decide_eq_true_eq]; exact Iff.rfl

theorem isHexNum_iff (c : Char) :
    isHexNum c = true ↔
      (48 ≤ c.toNat ∧ c.toNat ≤ 57) ∨ (97 ≤ c.toNat ∧ c.toNat ≤ 102) ∨ (65 ≤ c.toNat ∧ c.toNat ≤ 70) := by
  simp only [isHexNum, Bool.or_eq_true, Bool.and_eq_true, decide_eq_true_eq, isNum_iff, or_assoc]
  exact Iff.rfl

theorem isAlnum_of_isHexNum (c : Char) (h : isHexNum c = true) : isAlnum c = true := by
  rw [isHexNum_iff] at h
  simp only [isAlnum, Bool.or_eq_true, isAlpha_iff, isNum_iff]
  omega

/-- The four white-space characters lie below the digits and letters. -/
theorem not_ws_of_ge (c : Char) (h : 48 ≤ c.toNat) : isWs c = false := by
  have hne : ∀ d : Char, d.toNat < 48 → c ≠ d := by
    intro d hd heq; subst heq; omega
  simp [isWs, hne ' ' (by decide), hne '\t' (by decide), hne '\n' (by decide), hne '\r' (by decide)]

theorem isNum_not_ws : ∀ c, isNum c = true → isWs c = false := by
  intro c h
  rw [isNum_iff] at h
  exact not_ws_of_ge c h.1

theorem longestFirst_of_sorted (l : List String) (h : l.Pairwise fun a b => a.length ≥ b.length) :
    longestFirst l = l :=
  List.mergeSort_of_pairwise (by simpa using h)

end ArchSim.PP

namespace ArchSim.Lemmas.C14
open ArchSim ArchSim.PP

theorem takeWhile_class (P : Char → Bool) (ds rest : List Char)
    (hd : ∀ c ∈ ds, P c = true) (hr : ∀ c ∈ rest.head?, P c = false) :
    (ds ++ rest).takeWhile P = ds := by
  rw [List.takeWhile_append_of_pos hd]
  cases rest with
  | nil => simp
  | cons c r => simp [hr c (by simp)]

theorem dropWhile_class (P : Char → Bool) (ds rest : List Char)
    (hd : ∀ c ∈ ds, P c = true) (hr : ∀ c ∈ rest.head?, P c = false) :
    (ds ++ rest).dropWhile P = rest := by
  rw [List.dropWhile_append_of_pos hd]
  cases rest with
  | nil => simp
  | cons c r => simp [hr c (by simp)]

theorem wordAdj_class (init body : Char → Bool) (c : Char) (cs rest : List Char) (hc : init c = true)
    (hd : ∀ d ∈ cs, body d = true) (hr : ∀ d ∈ rest.head?, body d = false) :
    wordAdj init body (c :: (cs ++ rest)) = .ok (String.ofList (c :: cs)) rest := by
  simp only [wordAdj, hc, if_true, takeWhile_class body cs rest hd hr, dropWhile_class body cs rest hd hr]

theorem wordAdj_run (P : Char → Bool) (ds rest : List Char) (hne : ds ≠ []) (hd : ∀ c ∈ ds, P c = true)
    (hr : ∀ c ∈ rest.head?, P c = false) : wordAdj P P (ds ++ rest) = .ok (String.ofList ds) rest := by
  obtain ⟨c, tl, rfl⟩ := List.exists_cons_of_ne_nil hne
  exact wordAdj_class P P c tl rest (hd c (by simp)) (fun d h => hd d (by simp [h])) hr

theorem stripPrefix_eq (p i : List Char) :
    stripPrefix p i = if p.isPrefixOf i then some (i.drop p.length) else none := by
  induction p generalizing i with
  | nil => simp [stripPrefix]
  | cons a p ih =>
    cases i with
    | nil => simp [stripPrefix]
    | cons b i =>
      simp only [stripPrefix, List.isPrefixOf_cons_cons, List.length_cons, List.drop_succ_cons, ih]
      by_cases hab : a = b
      · simp [hab]
      · simp [hab]

/-- `0x`, `0b` do not match in front of a run of decimal digits: the second character is a digit or what follows. -/
theorem stripPrefix_zero_digits (p : Char) (hp : isNum p = false) (ds rest : List Char) (hne : ds ≠ [])
    (hd : ∀ d ∈ ds, isNum d = true) (hr : ∀ e ∈ rest.head?, e ≠ p) :
    stripPrefix ['0', p] (ds ++ rest) = none := by
  obtain ⟨c, tl, rfl⟩ := List.exists_cons_of_ne_nil hne
  have h2 : ∀ e ∈ (tl ++ rest).head?, p ≠ e := by
    intro e he
    cases tl with
    | nil => exact (hr e he).symm
    | cons d tl =>
      simp only [List.cons_append, List.head?_cons, Option.mem_def, Option.some.injEq] at he
      rintro rfl
      rw [← he, hd d (by simp)] at hp
      cases hp
  simp only [List.cons_append, stripPrefix]
  split
  · cases h : tl ++ rest with
    | nil => rfl
    | cons e r => simp [stripPrefix, h2 e (by simp [h])]
  · rfl

/-- `Combine("0x" + Word(hexnums))`, the hexadecimal alternative of all three numeral patterns. -/
theorem hexWord (ds rest : List Char) (hne : ds ≠ []) (hd : ∀ c ∈ ds, isHexNum c = true)
    (hr : ∀ c ∈ rest.head?, isHexNum c = false) :
    (litAdj "0x" ('0' :: 'x' :: (ds ++ rest))).bind (fun _ r => wordAdj isHexNum isHexNum r) =
      .ok (String.ofList ds) rest := by
  simp only [litAdj, show ("0x" : String).toList = ['0', 'x'] from rfl, stripPrefix, if_true, R.bind,
    wordAdj_run isHexNum ds rest hne hd hr]

theorem skipWs_class (ws rest : List Char) (h : ∀ c ∈ ws, isWs c = true)
    (hr : ∀ c ∈ rest.head?, isWs c = false) : skipWs (ws ++ rest) = rest :=
  dropWhile_class isWs ws rest h hr

theorem bind_eq_ok {α β : Type} {r : R α} {f : α → Inp → R β} {b : β} {rest : Inp} :
    r.bind f = .ok b rest ↔ ∃ a r1, r = .ok a r1 ∧ f a r1 = .ok b rest := by
  cases r with
  | fail => simp [R.bind]
  | abort => simp [R.bind]
  | ok a r1 =>
    simp only [R.bind, R.ok.injEq]
    constructor
    · intro h; exact ⟨a, r1, ⟨rfl, rfl⟩, h⟩
    · rintro ⟨a', r', ⟨rfl, rfl⟩, h⟩; exact h

end ArchSim.Lemmas.C14

namespace ArchSim.Lemmas.C04Spell
open ArchSim ArchSim.PP

/-! ### the value of a digit string -/

/-- positional value of a digit string in base `base` (most significant digit first) -/
def digitsVal (base : Nat) (ds : List Char) : Nat :=
  ds.foldl (fun a c => a * base + (digitVal c).getD 0) 0

def ValidDigits (base : Nat) (ds : List Char) : Prop := ∀ c ∈ ds, ∃ d, digitVal c = some d ∧ d < base

theorem natOfDigits_valid (base : Nat) (ds : List Char) (h : ValidDigits base ds) :
    natOfDigits base ds = some (digitsVal base ds) := by
  unfold natOfDigits digitsVal
  -- the same fold from any accumulator
  suffices hs : ∀ a, List.foldl _ (some a) ds = some (List.foldl _ a ds) from hs 0
  induction ds with
  | nil => intro a; rfl
  | cons c cs ih =>
    intro a
    obtain ⟨d, hd, hlt⟩ := h c (by simp)
    simp only [List.foldl_cons, hd, hlt, if_true, Option.getD_some]
    exact ih (fun x hx => h x (by simp [hx])) _

theorem validDigits_dec (ds : List Char) (h : ∀ c ∈ ds, isNum c = true) : ValidDigits 10 ds := by
  intro c hc
  have hn := h c hc
  refine ⟨c.toNat - 48, by simp [digitVal, hn], ?_⟩
  rw [isNum_iff] at hn
  omega

theorem pyIntDec_digits (ds : List Char) (hds : ∀ c ∈ ds, isNum c = true) (hne : ds ≠ []) (hlen : ds.length ≤ 4300) :
    pyIntDec (String.ofList ds) = some ((digitsVal 10 ds : Nat) : Int) := by
  have hemp : ds.isEmpty = false := by cases ds <;> simp_all
  have hnl : ¬ ds.length > 4300 := by omega
  simp [pyIntDec, hemp, hnl, natOfDigits_valid 10 ds (validDigits_dec ds hds)]

end ArchSim.Lemmas.C04Spell
