/-
The program and statistics views of `Model/SimViews.lean`: the rows of the listing, the stage text of an address
(the LAST register in the list of marks that holds it), and the counter and address strings read back with the
independent reader of `Spec/Digits.lean`.
-/
import ArchSim.Model.CacheViews
import ArchSim.Lemmas.C17Digits

namespace ArchSim.Lemmas.SimViews
open ArchSim ArchSim.SimViews ArchSim.Fmt ArchSim.Spec.Digits ArchSim.Lemmas.C17

theorem listing_length (prog : List Rv.Instr) (marks : Marks) : (listing prog marks).length = prog.length := by
  simp [listing]

theorem listing_getElem? (prog : List Rv.Instr) (marks : Marks) (k : Nat) :
    (listing prog marks)[k]? = (prog[k]?).map (listRow marks k) := by
  simp [listing, List.getElem?_mapIdx]

theorem listing_instrs (prog : List Rv.Instr) (marks : Marks) :
    (listing prog marks).map (·.instr) = prog.map Rv.Instr.repr := by
  apply List.ext_getElem?
  intro k
  simp [listing, List.getElem?_mapIdx, listRow]
  cases prog[k]? <;> simp

theorem stageOf_nil (a : Int) : stageOf [] a = "" := by simp [stageOf]

/-- The register appended last wins: `find?` runs over the reversed list. -/
theorem stageOf_snoc (ms : Marks) (x : Option Int) (n : String) (a : Int) :
    stageOf (ms ++ [(x, n)]) a = if (x == some a) = true then n else stageOf ms a := by
  simp only [stageOf, List.reverse_append, List.reverse_cons, List.reverse_nil, List.nil_append,
    List.singleton_append, List.find?_cons]
  cases x == some a <;> rfl

theorem stageOf_none (ms : Marks) (a : Int) (h : ∀ m ∈ ms, m.1 ≠ some a) : stageOf ms a = "" := by
  rw [stageOf, List.find?_eq_none.mpr fun m hm => by simpa using h m (List.mem_reverse.mp hm)]

theorem stageOf_mem (ms : Marks) (a : Int) : stageOf ms a = "" ∨ (some a, stageOf ms a) ∈ ms := by
  unfold stageOf
  cases h : ms.reverse.find? (fun m => m.1 == some a) with
  | none => exact .inl rfl
  | some m =>
    have h1 : m.1 = some a := by simpa using List.find?_some h
    exact .inr (h1 ▸ List.mem_reverse.mp (List.mem_of_find?_eq_some h))

theorem bin32_toList (a : Int) : (bin32 a).toList = padLeft 32 (natStr 2 (a % 4294967296).toNat) := by
  simp [bin32]

theorem bin32_spec (a : Int) :
    ofDigits 2 (bin32 a).toList = some (a % 4294967296).toNat ∧ (bin32 a).toList.length = 32 := by
  rw [bin32_toList]
  exact padded_natStr 2 (by decide) (by decide) 32 _ (by decide) (by omega)

theorem dec_spec (n : Nat) : ofDigits 10 (String.ofList (natStr 10 n)).toList = some n := by
  simp [ofDigits_natStr 10 (by decide) (by decide) n]

theorem instrStats_some (im : Rv.IMem) (c : Rv.ICache) (fetched : Option Int) (h : im.cache = some c) :
    instrStats im fetched = some (Stats.ofCounters c.hits c.accesses c.lastHit fetched) := by
  unfold instrStats; rw [h]

theorem instrStats_none (im : Rv.IMem) (fetched : Option Int) (h : im.cache = none) :
    instrStats im fetched = none := by
  unfold instrStats; rw [h]

end ArchSim.Lemmas.SimViews
