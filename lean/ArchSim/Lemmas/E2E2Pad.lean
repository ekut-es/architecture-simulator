/-
Source-level padding. A line is SIMPLE when it is tokenized without label into an item that expands to exactly ONE
entry whose instruction object depends neither on its address nor on the label table (`lineInstr`, executable: no label
operand, no absolute `jal` target, no several-instruction pseudo-instruction). A text of simple lines is assembled line
by line, so `load (padText t)` — two `nop` lines behind every line that has an entry — stores `pad` of what `load t` stores.
-/
import ArchSim.Lemmas.C14Load
import ArchSim.Lemmas.C04Expand
import ArchSim.Lemmas.C05Seg
import ArchSim.Lemmas.C04SpellEntryText
import ArchSim.Lemmas.C04SpellPseudo
import ArchSim.Lemmas.C08Pad
import ArchSim.Lemmas.C02SplitArith

/-! ### simple lines -/

namespace ArchSim.Lemmas.E2E2
open ArchSim ArchSim.Rv ArchSim.Asm

/-- the instruction an address- and label-independent syntax tree builds -/
def piInstr (pi : PInstr) : Option Instr :=
  match pi with
  | .rtype .. | .utype .. | .rri .. | .mem .. | .csr .. | .csri .. | .fence .. =>
    match instantiate [] 0 0 "" pi with
    | .ok i => some i
    | .error _ => none
  | _ => none

/-- the single item an item expands to, for the one-entry expansions -/
def expItem (it : Item) : Option Item :=
  match it with
  | .str s => if s = "nop" then some (.grp (.rri "addi" 0 0 0))
              else if s = "ecall" ∨ s = "ebreak" then some it else none
  | .grp (.li rd imm) => if imm > 2047 ∨ imm < -2048 then none else some (.grp (.rri "addi" rd 0 imm))
  | .grp (.mv rd rs) => some (.grp (.rri "addi" rd rs 0))
  | .grp (.memPseudo ..) | .grp (.sPseudo ..) => none
  | .grp _ => some it
  | _ => none

/-- the instruction an expanded item builds -/
def builtItem (it : Item) : Option Instr :=
  match it with
  | .str s => if s = "ecall" then some { op := .ecall }
              else if s = "ebreak" then some { op := .ebreak, imm := 1 } else none
  | .grp pi => piInstr pi
  | _ => none

def itemInstr (it : Item) : Option Instr := (expItem it).bind builtItem

/-- the instruction of a simple line -/
def lineInstr (x : List Char) : Option Instr :=
  match parseLine x with
  | some tok => if tok.lbl.isNone then itemInstr tok.item else none
  | none => none

/-- `piInstr` answers only for trees that use neither the address nor the labels (`C04.instantiate_indep`), and line
    number and text occur only in error values (`C04.Built.instantiate_eq`). -/
theorem piInstr_spec {pi : PInstr} {i : Instr} (h : piInstr pi = some i) (ls : Labels) (addr : Int) (k : Nat)
    (line : String) : instantiate ls addr k line pi = .ok i := by
  have hu : C04.usesAddr pi = false := by cases pi <;> first | rfl | cases h
  have h0 : instantiate [] 0 0 "" pi = .ok i := by
    have ok {r : Except AsmErr Instr} (hr : (match r with | .ok i => some i | .error _ => none) = some i) :
        r = .ok i := by cases r <;> cases hr; rfl
    cases pi <;> first | exact ok h | cases h
  rw [C04.instantiate_indep ls [] addr 0 k line pi hu]
  exact (C04.instantiate_built h0).instantiate_eq k line

theorem expItem_spec {it it' : Item} (h : expItem it = some it') (vars : Vars) (k : Nat) (line : String) :
    expandOne vars (k, line, it) = .ok [(k, line, it')] := by
  cases it with
  | str s =>
    simp only [expItem] at h
    by_cases hn : s = "nop"
    · subst hn; simp only [if_true] at h; cases h; rfl
    · simp only [hn, if_false] at h
      split at h
      · cases h; exact C04.expandOne_plain vars k line (.str s) (by simpa [C04.isPseudo] using hn)
      · cases h
  | grp pi =>
    cases pi <;> simp only [expItem] at h <;> first | (cases h; done) | (cases h; rfl) | skip
    · split at h
      · cases h
      · rename_i hc
        cases h
        simp only [expandOne, hc, if_false]
  | _ => simp [expItem] at h

/-! ### simple entries are straight-line entries -/

/-- `es` are label-free simple entries and `is` their instructions -/
def Good2 : List Entry → List Instr → Prop
  | [], [] => True
  | e :: es, i :: is => e.2.2.lbl = none ∧ itemInstr e.2.2.item = some i ∧ Good2 es is
  | _, _ => False

theorem itemInstr_makes {it : Item} {i : Instr} (h : itemInstr it = some i) :
    ∃ it', expItem it = some it' ∧ ∀ addr, C14.ItemMakes addr it' i := by
  obtain ⟨it', he, h⟩ := Option.bind_eq_some_iff.1 h
  refine ⟨it', he, fun addr => ?_⟩
  cases it' with
  | str s =>
    simp only [builtItem] at h
    split at h
    · rename_i hs; cases h; exact .inl ⟨by rw [hs], rfl⟩
    · split at h
      · rename_i hs; cases h; exact .inr (.inl ⟨by rw [hs], rfl⟩)
      · cases h
  | grp pi => exact .inr (.inr ⟨pi, rfl, (piInstr_spec h · addr · ·)⟩)
  | _ => simp [builtItem] at h

theorem tokenize_simple (nl : List (Nat × List Char)) (h : ∀ x ∈ nl.map (·.2), (lineInstr x).isSome = true) :
    ∃ es, tokenize nl = .ok es ∧ Good2 es ((nl.map (·.2)).filterMap lineInstr) := by
  induction nl with
  | nil => exact ⟨[], rfl, trivial⟩
  | cons p nl ih =>
    obtain ⟨k, l⟩ := p
    obtain ⟨es, hes, hg⟩ := ih (fun x hx => h x (List.mem_cons_of_mem _ hx))
    obtain ⟨i, hi⟩ := Option.isSome_iff_exists.1 (h l List.mem_cons_self)
    simp only [List.map_cons, List.filterMap_cons, hi]
    unfold lineInstr at hi
    split at hi
    · next tok hpl =>
      split at hi
      · next hlb =>
        exact ⟨(k, String.ofList l, tok) :: es, by simp only [tokenize, hpl, hes],
          Option.isNone_iff_eq_none.1 hlb, hi, hg⟩
      · cases hi
    · cases hi

theorem Good2.straight {es : List Entry} {is : List Instr} (h : Good2 es is) (addr : Int) :
    ∃ xs, C14.Straight addr es xs is := by
  fun_induction Good2 es is generalizing addr with
  | case1 => exact ⟨_, .nil _⟩
  | case2 e es i is ih =>
    obtain ⟨k, line, t⟩ := e
    obtain ⟨it', he, hm⟩ := itemInstr_makes h.2.1
    obtain ⟨xs, hs⟩ := ih h.2.2 (addr + 4)
    exact ⟨_, .cons h.1 (expItem_spec he · k line) (hm addr) hs⟩
  | case3 => exact h.elim

theorem good2_length {es : List Entry} {is : List Instr} (h : Good2 es is) : es.length = is.length := by
  obtain ⟨xs, hs⟩ := h.straight 0
  exact hs.length

/-! ### the load of a text of simple lines -/

open ArchSim.Lemmas.C04Spell (entryTexts sanitize_texts) in
/-- every entry text of `t` is a simple line (decidable) -/
def AllSimple (t : String) : Prop := ∀ x ∈ entryTexts t, (lineInstr x).isSome = true

open ArchSim.Lemmas.C04Spell (entryTexts) in
instance (t : String) : Decidable (AllSimple t) := by unfold AllSimple; infer_instance

open ArchSim.Lemmas.C04Spell (entryTexts) in
def lineInstrs (t : String) : List Instr := (entryTexts t).filterMap lineInstr

open ArchSim.Lemmas.C04Spell (entryTexts) in
theorem simple_of_map {t : String} {is : List Instr} (h : (entryTexts t).map lineInstr = is.map some) :
    AllSimple t ∧ lineInstrs t = is := by
  constructor
  · intro x hx
    have hm : lineInstr x ∈ (entryTexts t).map lineInstr := List.mem_map_of_mem hx
    rw [h] at hm
    obtain ⟨i, _, hi⟩ := List.mem_map.1 hm
    rw [← hi]; rfl
  · have hf : (entryTexts t).filterMap lineInstr = ((entryTexts t).map lineInstr).filterMap id := by
      rw [List.filterMap_map]; rfl
    rw [lineInstrs, hf, h, List.filterMap_map]
    exact List.filterMap_some

open ArchSim.Lemmas.C04Spell (entryTexts sanitize_texts) in
theorem load_simple (s : St) (t : String) (h : AllSimple t) :
    load s t =
      if (lineInstrs t).length > 4096 then
        { st := { s with mem := s.mem.reset,
                         imem := { prog := (lineInstrs t).take 4096, cache := s.imem.cache.map ICache.reset } },
          err := some (.memAddr 16384) }
      else
        { st := { s with mem := s.mem.reset,
                         imem := { prog := lineInstrs t, cache := s.imem.cache.map ICache.reset } },
          err := none } := by
  obtain ⟨es, hes, hg⟩ := tokenize_simple (sanitize t) (by rw [sanitize_texts]; exact h)
  rw [sanitize_texts] at hg
  obtain ⟨xs, hs⟩ := Good2.straight (is := lineInstrs t) hg 0
  exact hs.loads s hes

open ArchSim.PP ArchSim.Lemmas.C08
open ArchSim.Lemmas.C04Spell (keepLine entryOf entryText entryTexts joinLines entryTexts_joinLines)
open ArchSim.Lemmas.C14 (NoBreak)

/-! ### the padded text: two `nop` lines behind every entry line -/

def nopLine : List Char := ['n', 'o', 'p']

theorem nopLine_eq : nopLine = "nop".toList := by decide +kernel

/-- two `nop` lines behind every line that has an entry (is not blank and not a comment line) -/
def padLines (ls : List (List Char)) : List (List Char) :=
  ls.flatMap fun l => if keepLine l then [l, nopLine, nopLine] else [l]

/-- the text with two `nop` lines inserted behind every non-blank, non-comment line (comments,
    blank lines and indentation of the original lines are kept). -/
def padText (t : String) : String := joinLines (padLines (splitLines t.toList))

/-! ### the lines of `str.splitlines()` contain no line break -/

theorem go_noBreak (s : List Char) (b : Bool) (cur : List Char) (acc : List (List Char))
    (hc : NoBreak cur) (ha : ∀ l ∈ acc, NoBreak l) : ∀ l ∈ splitLines.go s b cur acc, NoBreak l := by
  fun_induction splitLines.go s b cur acc with
  | case1 => exact fun l hl => ha l (List.mem_reverse.1 hl)
  | case2 =>
    intro l hl
    rcases List.mem_cons.1 (List.mem_reverse.1 hl) with rfl | hl
    · exact fun c h => hc c (List.mem_reverse.1 h)
    · exact ha l hl
  | case3 _ _ _ _ _ _ ih => exact ih hc ha
  | case4 _ _ _ _ _ _ _ ih =>
    exact ih (fun _ h => by cases h) (List.forall_mem_cons.2 ⟨fun c h => hc c (List.mem_reverse.1 h), ha⟩)
  | case5 _ _ _ _ _ _ hnb ih => exact ih (List.forall_mem_cons.2 ⟨by simpa using hnb, hc⟩) ha

theorem splitLines_noBreak (s : List Char) : ∀ l ∈ splitLines s, NoBreak l :=
  go_noBreak s false [] [] (fun _ h => by cases h) (fun _ h => by cases h)

theorem nopLine_noBreak : NoBreak nopLine := by
  intro c hc
  simp only [nopLine, List.mem_cons, List.not_mem_nil, or_false] at hc
  rcases hc with rfl | rfl | rfl <;> decide

theorem padLines_noBreak (ls : List (List Char)) (h : ∀ l ∈ ls, NoBreak l) : ∀ l ∈ padLines ls, NoBreak l := by
  intro l hl
  simp only [padLines, List.mem_flatMap] at hl
  obtain ⟨l0, h0, hl⟩ := hl
  split at hl
  · simp only [List.mem_cons, List.not_mem_nil, or_false] at hl
    rcases hl with rfl | rfl | rfl
    · exact h _ h0
    · exact nopLine_noBreak
    · exact nopLine_noBreak
  · simp only [List.mem_singleton] at hl
    subst hl; exact h _ h0

/-! ### the entries of the padded text -/

theorem entryOf_nopLine : entryOf nopLine = some nopLine := by decide

theorem padLines_entries (ls : List (List Char)) :
    (padLines ls).filterMap entryOf = (ls.filterMap entryOf).flatMap fun x => [x, nopLine, nopLine] := by
  induction ls with
  | nil => rfl
  | cons l ls ih =>
    have hc : padLines (l :: ls) = (if keepLine l then [l, nopLine, nopLine] else [l]) ++ padLines ls := by
      simp [padLines]
    rw [hc, List.filterMap_append, ih]
    by_cases hk : keepLine l = true
    · have he : entryOf l = some (entryText l) := by simp [entryOf, hk]
      simp [hk, he, entryOf_nopLine]
    · have he : entryOf l = none := by simp [entryOf, hk]
      simp [hk, he]

theorem entryTexts_padText (t : String) :
    entryTexts (padText t) = (entryTexts t).flatMap fun x => [x, nopLine, nopLine] := by
  unfold padText
  rw [entryTexts_joinLines _ (padLines_noBreak _ (splitLines_noBreak _)), padLines_entries]
  rfl

theorem parse_nopLine : parseLine nopLine = some { lbl := none, item := .str "nop" } := by
  have := ArchSim.Lemmas.C04Spell.parseLine_nop [] [] ArchSim.Lemmas.C04Spell.allWs_nil
    ArchSim.Lemmas.C04Spell.allWs_nil (fun _ => false)
  have e : ([] : List Char) ++ (ArchSim.Lemmas.C04Spell.recase (fun _ => false) "nop".toList ++ []) = nopLine := by
    decide +kernel
  rw [e] at this
  exact this

theorem lineInstr_nopLine : lineInstr nopLine = some nop := by
  simp only [lineInstr, parse_nopLine]
  decide

theorem allSimple_padText (t : String) (h : AllSimple t) : AllSimple (padText t) := by
  intro x hx
  rw [entryTexts_padText] at hx
  simp only [List.mem_flatMap, List.mem_cons, List.not_mem_nil, or_false] at hx
  obtain ⟨y, hy, rfl | rfl | rfl⟩ := hx
  · exact h _ hy
  · rw [lineInstr_nopLine]; rfl
  · rw [lineInstr_nopLine]; rfl

theorem filterMap_pad (xs : List (List Char)) (h : ∀ x ∈ xs, (lineInstr x).isSome = true) :
    (xs.flatMap fun x => [x, nopLine, nopLine]).filterMap lineInstr = pad (xs.filterMap lineInstr) := by
  induction xs with
  | nil => rfl
  | cons x xs ih =>
    obtain ⟨i, hi⟩ := Option.isSome_iff_exists.1 (h x List.mem_cons_self)
    have ih' := ih (fun y hy => h y (List.mem_cons_of_mem _ hy))
    simp only [List.flatMap_cons, List.cons_append, List.nil_append, List.filterMap_cons, hi,
      lineInstr_nopLine, ih', pad]

theorem lineInstrs_padText (t : String) (h : AllSimple t) : lineInstrs (padText t) = pad (lineInstrs t) := by
  unfold lineInstrs
  rw [entryTexts_padText, filterMap_pad _ h]

/-! ### the load of the padded text -/

theorem pad_supported {prog : List Instr} (h : ∀ i ∈ prog, i.op.supported = true) :
    ∀ i ∈ pad prog, i.op.supported = true := by
  induction prog with
  | nil => intro i hi; cases hi
  | cons j js ih =>
    intro i hi
    simp only [pad, List.mem_cons] at hi
    rcases hi with rfl | rfl | rfl | hi
    · exact h _ List.mem_cons_self
    · rfl
    · rfl
    · exact ih (fun x hx => h x (List.mem_cons_of_mem _ hx)) i hi

theorem load_padText (s : St) (t : String) (h : AllSimple t) (hlen : 3 * (lineInstrs t).length ≤ 4096) :
    (load s t).err = none ∧ (load s t).st.imem.prog = lineInstrs t ∧ (load s (padText t)).err = none ∧
    (load s (padText t)).st =
      { (load s t).st with imem := { (load s t).st.imem with prog := pad (load s t).st.imem.prog } } := by
  have h1 : ¬ (lineInstrs t).length > 4096 := by omega
  have h2 : ¬ (lineInstrs (padText t)).length > 4096 := by
    rw [lineInstrs_padText t h, pad_length]; omega
  rw [load_simple s t h, load_simple s (padText t) (allSimple_padText t h), if_neg h1, if_neg h2,
    lineInstrs_padText t h]
  exact ⟨rfl, rfl, rfl, rfl⟩

theorem load_simple_prog (s : St) (t : String) (h : AllSimple t) (hok : (load s t).err = none) :
    (load s t).st.imem.prog = lineInstrs t ∧ (lineInstrs t).length ≤ 4096 := by
  rw [load_simple s t h] at hok ⊢
  by_cases hl : (lineInstrs t).length > 4096
  · rw [if_pos hl] at hok; cases hok
  · rw [if_neg hl]; exact ⟨rfl, by omega⟩

end ArchSim.Lemmas.E2E2
