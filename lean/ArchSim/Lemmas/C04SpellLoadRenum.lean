/-
Two texts with the same entry texts load to the same result up to the line number of the reported error (the line
numbers of their entries differ by an injective renumbering), and to the very same result when one of them loads
without error.
-/
import ArchSim.Lemmas.C04SpellEntryText
import ArchSim.Lemmas.C04SpellRenum
import ArchSim.Lemmas.C05Renum
import ArchSim.Lemmas.Sanitize

namespace ArchSim.Lemmas.C04Spell
open ArchSim ArchSim.PP ArchSim.Asm ArchSim.Rv

/-- the line numbers of the entries of a source text, in order -/
def entryLines (text : String) : List Nat := (sanitize text).map (·.1)

theorem load_same_entries_ren (s : St) (t1 t2 : String) (h : entryTexts t1 = entryTexts t2) :
    ∃ g : Nat → Nat, (∀ a b, g a = g b → a = b) ∧ (entryLines t1).map g = entryLines t2 ∧
      load s t2 = renOut g (load s t1) := by
  obtain ⟨g, hg, hs⟩ := exists_renumbering (sanitize t1) (sanitize t2)
    (by rw [sanitize_texts, sanitize_texts]; exact h) (C15.sanitize_sorted t1) (C15.sanitize_sorted t2)
  refine ⟨g, hg, ?_, load_ren g hg s t1 t2 hs⟩
  rw [entryLines, entryLines, hs, List.map_map, List.map_map]
  rfl

theorem renOut_st (g : Nat → Nat) (o : LoadOut) : (renOut g o).st = o.st := rfl
theorem renOut_err (g : Nat → Nat) (o : LoadOut) : (renOut g o).err = o.err.map (renErr g) := rfl

theorem load_same_entries (s : St) (t1 t2 : String) (h : entryTexts t1 = entryTexts t2)
    (hok : (load s t1).err = none) : load s t2 = load s t1 := by
  obtain ⟨g, -, -, hl⟩ := load_same_entries_ren s t1 t2 h
  rw [hl, renOut_of_ok g _ hok]

end ArchSim.Lemmas.C04Spell
