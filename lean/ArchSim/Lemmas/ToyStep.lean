/-
The TOY stepping API and lifecycle (C20, C13).  Under the sequencing invariant `Inv` every API call is the due
half-cycle `half` iterated — twice for an accepted `step()`, once for a half-cycle call, not at all when rejected or
done (`call_spec`) — and `run` is `step()` iterated until done.
-/
import ArchSim.Model.Toy
import ArchSim.Spec.Iter

namespace ArchSim.Toy
open ArchSim

/-- Sequencing invariant of a `ToySimulation`: `next_cycle` is 1 or 2, and a finished simulation
    is at an instruction boundary. -/
def Inv (t : TSim) : Prop :=
  (t.nextCycle = 1 ∨ t.nextCycle = 2) ∧ (isDone t = true → t.nextCycle = 1)

instance (t : TSim) : Decidable (Inv t) := by unfold Inv; infer_instance

/-- The half-cycle that is due: first half at `next_cycle = 1`, second half otherwise; the
    identity once the program is done. -/
def half (t : TSim) : TSim :=
  match t.s.loaded with
  | none => t
  | some i => if t.nextCycle = 1 then firstBody t i else secondBody t i

/-- The calls that raise `StepSequenceError`: a first half in the middle of an instruction, a
    second half at an instruction boundary, a whole step in the middle of an instruction — each
    only while the program is not done. `single_step` is never rejected. -/
def rejected (t : TSim) : Call → Bool
  | .first  => !isDone t && t.nextCycle == 2
  | .second => !isDone t && t.nextCycle == 1
  | .step   => !isDone t && t.nextCycle == 2
  | .single => false

/-- Number of half-cycles a call performs: none when done or rejected, two for `step`, else one. -/
def weight (t : TSim) (c : Call) : Nat :=
  if isDone t || rejected t c then 0 else match c with | .step => 2 | _ => 1

/-- State after a sequence of API calls (errors are caught and the next call is made). -/
def calls (t : TSim) : List Call → TSim
  | [] => t
  | c :: cs => calls (call t c).t cs

/-- Which calls of a sequence raised the sequencing error. -/
def errs (t : TSim) : List Call → List Bool
  | [] => []
  | c :: cs => (call t c).err :: errs (call t c).t cs

/-- The calls of a sequence that *should* be rejected, by the classification `rejected`. -/
def rejects (t : TSim) : List Call → List Bool
  | [] => []
  | c :: cs => rejected t c :: rejects (call t c).t cs

/-- Total number of half-cycles performed by the accepted calls of a sequence. -/
def halfCount (t : TSim) : List Call → Nat
  | [] => 0
  | c :: cs => weight t c + halfCount (call t c).t cs

/-- State component of `step()`. -/
def stepT (t : TSim) : TSim := (stepCall t).t

/-- Demo program for the non-vacuity examples: `LDA 5; INC; STO 5` with `mem[5] = 7`, loaded
    into a new simulation. -/
def demoInc : TSim := loadImage {} [⟨1, 5⟩, ⟨9, 0⟩, ⟨0, 5⟩] [(5, 7)]

theorem behavior_loaded (i : TInstr) (s : TSt) : (behavior i s).loaded = s.loaded := by
  unfold behavior
  split <;> try rfl
  simp only; split <;> rfl

theorem firstBody_loaded (t : TSim) (i : TInstr) : (firstBody t i).s.loaded = t.s.loaded := by
  simp [firstBody, behavior_loaded]

@[simp] theorem firstBody_next (t : TSim) (i : TInstr) : (firstBody t i).nextCycle = 2 := rfl
@[simp] theorem secondBody_next (t : TSim) (i : TInstr) : (secondBody t i).nextCycle = 1 := rfl

theorem isDone_none {t : TSim} (h : t.s.loaded = none) : isDone t = true := by simp [isDone, h]
theorem isDone_some {t : TSim} {i : TInstr} (h : t.s.loaded = some i) : isDone t = false := by
  simp [isDone, h]

theorem loaded_of_not_done {t : TSim} (hd : isDone t = false) : ∃ i, t.s.loaded = some i := by
  cases hl : t.s.loaded with
  | none => rw [isDone_none hl] at hd; cases hd
  | some i => exact ⟨i, rfl⟩

theorem half_done {t : TSim} (h : isDone t = true) : half t = t := by
  unfold half; unfold isDone at h
  cases hl : t.s.loaded with
  | none => rfl
  | some i => simp [hl] at h

theorem iter_half_done {t : TSim} (h : isDone t = true) (n : Nat) : iter half n t = t :=
  iter_fixed half t (half_done h) n

theorem Inv_half {t : TSim} (h : Inv t) : Inv (half t) := by
  unfold half
  cases hl : t.s.loaded with
  | none => exact h
  | some i =>
    simp only
    split
    · refine ⟨Or.inr rfl, ?_⟩
      intro hd
      have := firstBody_loaded t i
      rw [hl] at this
      rw [isDone_some this] at hd; cases hd
    · exact ⟨Or.inl rfl, fun _ => rfl⟩

theorem iter_preserves {α : Type} {P : α → Prop} {f : α → α} (hf : ∀ a, P a → P (f a)) (n : Nat)
    {a : α} (h : P a) : P (iter f n a) := by
  induction n generalizing a with
  | zero => exact h
  | succ n ih => exact ih (hf a h)

theorem Inv_iter_half {t : TSim} (h : Inv t) (n : Nat) : Inv (iter half n t) :=
  iter_preserves (P := Inv) (fun _ => Inv_half) n h

theorem firstCycle_due {t : TSim} (h1 : t.nextCycle = 1) : firstCycle t = ⟨half t, false⟩ := by
  unfold firstCycle half
  cases t.s.loaded with
  | none => rfl
  | some i => simp [h1]

theorem secondCycle_due {t : TSim} (h2 : t.nextCycle = 2) : secondCycle t = ⟨half t, false⟩ := by
  unfold secondCycle half
  cases t.s.loaded with
  | none => rfl
  | some i => simp [h2]

theorem half_next_of_one {t : TSim} (hd : isDone t = false) (h1 : t.nextCycle = 1) :
    (half t).nextCycle = 2 ∧ isDone (half t) = false := by
  obtain ⟨i, hl⟩ := loaded_of_not_done hd
  have := firstBody_loaded t i
  rw [hl] at this
  simp only [half, hl, h1, if_true, firstBody_next, true_and]
  exact isDone_some this

theorem half_next_of_two {t : TSim} (hd : isDone t = false) (h2 : t.nextCycle = 2) :
    (half t).nextCycle = 1 := by
  obtain ⟨i, hl⟩ := loaded_of_not_done hd
  simp [half, hl, h2]

theorem call_spec {t : TSim} (h : Inv t) (c : Call) :
    call t c = ⟨iter half (weight t c) t, rejected t c⟩ := by
  obtain ⟨h12, hdone⟩ := h
  cases hd : isDone t with
  | true =>
    have h1 := hdone hd
    have hl : t.s.loaded = none := by simpa [isDone] using hd
    cases c <;>
      simp [call, firstCycle, secondCycle, stepCall, singleCall, hl, h1, weight, rejected, hd]
  | false =>
    rcases h12 with h1 | h2
    · have ⟨hn, hd'⟩ := half_next_of_one hd h1
      cases c
      · simp [call, firstCycle_due h1, weight, rejected, hd, h1, iter]
      · have ⟨i, hl⟩ := loaded_of_not_done hd
        simp [call, secondCycle, hl, weight, rejected, hd, h1]
      · simp [call, stepCall, firstCycle_due h1, secondCycle_due hn, weight, rejected, hd, h1, iter]
      · simp [call, singleCall, firstCycle_due h1, weight, rejected, hd, h1, iter]
    · have ⟨i, hl⟩ := loaded_of_not_done hd
      cases c
      · simp [call, firstCycle, hl, weight, rejected, hd, h2]
      · simp [call, secondCycle_due h2, weight, rejected, hd, h2, iter]
      · simp [call, stepCall, weight, rejected, hd, h2]
      · simp [call, singleCall, secondCycle_due h2, weight, rejected, hd, h2, iter]

theorem call_done {t : TSim} (h : Inv t) (hd : isDone t = true) (c : Call) : call t c = ⟨t, false⟩ := by
  rw [call_spec h c]
  cases c <;> simp [weight, rejected, hd]

theorem Inv_call {t : TSim} (h : Inv t) (c : Call) : Inv (call t c).t := by
  rw [call_spec h c]; exact Inv_iter_half h _

theorem calls_append (t : TSim) (as bs : List Call) : calls t (as ++ bs) = calls (calls t as) bs := by
  induction as generalizing t with
  | nil => rfl
  | cons a as ih => simp [calls, ih]

theorem half_half_next {t : TSim} (h1 : t.nextCycle = 1) :
    (half (half t)).nextCycle = 1 := by
  cases hd : isDone t with
  | true => simp [half_done hd, h1]
  | false =>
    have ⟨hn, hd'⟩ := half_next_of_one hd h1
    exact half_next_of_two hd' hn

theorem Inv_of_one {t : TSim} (h1 : t.nextCycle = 1) : Inv t := ⟨Or.inl h1, fun _ => h1⟩

theorem stepCall_boundary {t : TSim} (h1 : t.nextCycle = 1) :
    stepCall t = ⟨half (half t), false⟩ := by
  have h := Inv_of_one h1
  have := call_spec h .step
  simp only [call] at this
  rw [this]
  cases hd : isDone t with
  | true => simp [weight, rejected, hd, half_done hd]
  | false => simp [weight, rejected, hd, h1, iter]

theorem stepCall_some {t : TSim} {i : TInstr} (h1 : t.nextCycle = 1) (hl : t.s.loaded = some i) :
    stepCall t = ⟨secondBody (firstBody t i) i, false⟩ := by
  have hl' : (firstBody t i).s.loaded = some i := by rw [firstBody_loaded, hl]
  simp [stepCall, firstCycle, secondCycle, h1, hl, hl']

theorem stepT_some {t : TSim} {i : TInstr} (h1 : t.nextCycle = 1) (hl : t.s.loaded = some i) :
    stepT t = secondBody (firstBody t i) i :=
  congrArg (·.t) (stepCall_some h1 hl)

theorem second_after_first {t : TSim} (h1 : t.nextCycle = 1) :
    secondCycle (half t) = ⟨half (half t), false⟩ ∧ singleCall (half t) = ⟨half (half t), false⟩ := by
  cases hd : isDone t with
  | true =>
    have hl : t.s.loaded = none := by simpa [isDone] using hd
    simp [half_done hd, secondCycle, singleCall, firstCycle, hl, h1]
  | false =>
    have ⟨hn, _⟩ := half_next_of_one hd h1
    simp [singleCall, hn, secondCycle_due hn]

theorem Inv_init : Inv {} := by decide

theorem loadImage_next (t : TSim) (is : List TInstr) (d : List (Nat × Nat)) :
    (loadImage t is d).nextCycle = t.nextCycle ∧ (loadImage t is d).started = t.started := by
  unfold loadImage; exact ⟨rfl, rfl⟩

/-! ### `run n` is `stepT` iterated up to the first done state (`run_iter`), and exactly `n` times from `nextCycle = 1`,
where a done state is a fixed point (`run_eq_iter_all`); `load_program` replaces the architectural state `s` only -/

/-- The Boolean `step()` returns when it does not raise: `not self.is_done()` evaluated after the
    two half-cycles. (The model's `stepCall` returns only state and error flag.) -/
def stepRet (t : TSim) : Bool := !isDone (stepCall t).t

/-- A sequence of `load_program` calls with already resolved programs. -/
def loads (t : TSim) : List (List TInstr × List (Nat × Nat)) → TSim
  | [] => t
  | (is, d) :: ps => loads (loadImage t is d) ps

theorem run_done {t : TSim} (hd : isDone t = true) (n : Nat) : run n t = t := by
  cases n with
  | zero => rfl
  | succ n => simp [run, hd]

theorem run_succ_not_done {t : TSim} (hd : isDone t = false) (n : Nat) :
    run (n + 1) t = run n (stepT t) := by
  simp [run, hd, stepT]

theorem run_fuel {t : TSim} {n : Nat} (hd : isDone (run n t) = true) {m : Nat} (hm : n ≤ m) :
    run m t = run n t := by
  induction n generalizing t m with
  | zero => simp only [run] at hd ⊢; exact run_done hd m
  | succ n ih =>
    obtain ⟨m', rfl⟩ : ∃ m', m = m' + 1 := ⟨m - 1, by omega⟩
    cases hdt : isDone t with
    | true => rw [run_done hdt, run_done hdt]
    | false =>
      rw [run_succ_not_done hdt] at hd ⊢
      rw [run_succ_not_done hdt]
      exact ih hd (by omega)

theorem run_iter (n : Nat) (t : TSim) :
    ∃ k, k ≤ n ∧ run n t = iter stepT k t ∧ (∀ j, j < k → isDone (iter stepT j t) = false) ∧
      (k < n → isDone (iter stepT k t) = true) := by
  induction n generalizing t with
  | zero => exact ⟨0, Nat.le_refl _, rfl, fun j hj => by omega, fun h => by omega⟩
  | succ n ih =>
    cases hdt : isDone t with
    | true =>
      exact ⟨0, by omega, by rw [run_done hdt]; rfl, fun j hj => by omega, fun _ => hdt⟩
    | false =>
      obtain ⟨k, hk, he, hlt, hdn⟩ := ih (stepT t)
      refine ⟨k + 1, by omega, ?_, ?_, ?_⟩
      · rw [run_succ_not_done hdt, he]; rfl
      · intro j hj
        cases j with
        | zero => exact hdt
        | succ j => exact hlt j (by omega)
      · intro h; exact hdn (by omega)

theorem stepT_done {t : TSim} (h : Inv t) (hd : isDone t = true) : stepT t = t :=
  congrArg (·.t) (call_done h hd .step)

theorem Inv_stepT {t : TSim} (h : Inv t) : Inv (stepT t) := Inv_call h .step

theorem stepT_next {t : TSim} (h1 : t.nextCycle = 1) : (stepT t).nextCycle = 1 := by
  simp only [stepT, stepCall_boundary h1]; exact half_half_next h1

theorem run_eq_iter_all {t : TSim} (h1 : t.nextCycle = 1) (n : Nat) : run n t = iter stepT n t := by
  induction n generalizing t with
  | zero => rfl
  | succ n ih =>
    cases hdt : isDone t with
    | true =>
      rw [run_done hdt, iter_fixed stepT t (stepT_done (Inv_of_one h1) hdt)]
    | false =>
      rw [run_succ_not_done hdt, ih (stepT_next h1)]; rfl

theorem loadImage_eq (t : TSim) (is : List TInstr) (d : List (Nat × Nat)) :
    loadImage t is d = { t with s := (loadImage {} is d).s } := by
  unfold loadImage; rfl

theorem loadImage_fresh {t : TSim} (h1 : t.nextCycle = 1) (hs : t.started = false)
    (is : List TInstr) (d : List (Nat × Nat)) : loadImage t is d = loadImage {} is d := by
  rw [loadImage_eq t, loadImage_eq {}]
  obtain ⟨s, nc, st⟩ := t
  simp only at h1 hs
  subst h1; subst hs; rfl

theorem loads_keep (t : TSim) (ps : List (List TInstr × List (Nat × Nat))) :
    (loads t ps).nextCycle = t.nextCycle ∧ (loads t ps).started = t.started := by
  induction ps generalizing t with
  | nil => exact ⟨rfl, rfl⟩
  | cons p ps ih =>
    obtain ⟨is, d⟩ := p
    have := ih (loadImage t is d)
    have h2 := loadImage_next t is d
    simp only [loads]
    rw [this.1, this.2, h2.1, h2.2]; exact ⟨rfl, rfl⟩

end ArchSim.Toy
