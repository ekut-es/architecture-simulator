/-
TOY assembler, data pass: the vocabulary on tokenised lines that the statements of C19 use, and the closed form of a
successful `writeData` (`DataSpec`) — every line is a declaration, each variable lies directly below its predecessors
(the first ends at `last`), cells outside the block and old bindings are kept.
-/
import ArchSim.Model.ToyAsm
import ArchSim.Lemmas.ToyMem

namespace ArchSim.ToyAsm
open ArchSim ArchSim.PP ArchSim.Toy

def isVarDecl : TStmt → Bool
  | .varDecl _ _ => true
  | _ => false

def isInstr : TStmt → Bool
  | .instr _ _ _ _ => true
  | _ => false

/-- number of memory words a tokenised line reserves in the data segment -/
def stmtSize : TStmt → Nat
  | .varDecl _ vals => vals.length
  | _ => 0

/-- total number of data words declared by a list of lines -/
def dataSize : List Entry → Nat
  | [] => 0
  | e :: rest => stmtSize e.2.2 + dataSize rest

/-- number of instruction lines in a list of lines -/
def instrCount : List Entry → Nat
  | [] => 0
  | e :: rest => (if isInstr e.2.2 then 1 else 0) + instrCount rest

theorem dataSize_append (a b : List Entry) : dataSize (a ++ b) = dataSize a + dataSize b := by
  induction a with
  | nil => simp [dataSize]
  | cons e a ih => simp only [List.cons_append, dataSize, ih]; omega

theorem dataSize_take_le (l : List Entry) (n : Nat) : dataSize (l.take n) ≤ dataSize l := by
  induction l generalizing n with
  | nil => simp [dataSize]
  | cons e l ih =>
    cases n with
    | zero => simp [dataSize]
    | succ n => simp only [List.take_succ_cons, dataSize]; have := ih n; omega

theorem instrCount_append (a b : List Entry) : instrCount (a ++ b) = instrCount a + instrCount b := by
  induction a with
  | nil => simp [instrCount]
  | cons e a ih => simp only [List.cons_append, instrCount, ih]; omega

theorem instrCount_eq_zero (l : List Entry) (h : ∀ e ∈ l, isInstr e.2.2 = false) : instrCount l = 0 := by
  induction l with
  | nil => rfl
  | cons e l ih =>
    simp only [instrCount, h e (by simp), ih (fun x hx => h x (by simp [hx]))]
    simp

theorem instrCount_eq_zero_of_varDecl (l : List Entry) (h : ∀ e ∈ l, isVarDecl e.2.2 = true) :
    instrCount l = 0 :=
  instrCount_eq_zero l fun e he => by
    have := h e he
    cases hs : e.2.2 <;> simp [hs, isVarDecl, isInstr] at this ⊢

theorem writeVals_eq_putList (vals : List String) (m : Mem.Mem) (a : Int) :
    writeVals m a vals = putList valueToInt m a vals := by
  induction vals generalizing m a with
  | nil => rfl
  | cons v vs ih => exact ih _ _

theorem writeVals_cfg (vals : List String) (m : Mem.Mem) (a : Int) :
    (writeVals m a vals).cfg = m.cfg := by
  rw [writeVals_eq_putList, putList_cfg]

theorem writeVals_cells (vals : List String) (m : Mem.Mem) (hc : m.cfg = Mem.toyCfg) (a : Int)
    (h0 : 0 ≤ a) (h1 : a + vals.length ≤ 4096) (x : Int) :
    (writeVals m a vals).cells x =
      if a ≤ x ∧ x < a + vals.length then valueToInt (vals.getD (x - a).toNat "") % 65536
      else m.cells x := by
  rw [writeVals_eq_putList, putList_cells valueToInt "" vals m hc a h0 h1]

/-! ### the label table -/

theorem lookup_nil (n : String) : lookup [] n = none := rfl

theorem lookup_append (a b : Labels) (n : String) :
    lookup (a ++ b) n = (lookup a n).or (lookup b n) := by
  unfold lookup
  rw [List.find?_append]
  cases List.find? (fun p => p.1 == n) a <;> simp

theorem lookup_single (m n : String) (v : Int) :
    lookup [(m, v)] n = if m = n then some v else none := by
  unfold lookup
  by_cases h : m = n
  · simp [List.find?, h]
  · have : (m == n) = false := by simpa using h
    simp [List.find?, this, h]

theorem lookup_snoc {ls : Labels} {n : String} (hn : lookup ls n = none) (v : Int) (m : String) :
    lookup (ls ++ [(n, v)]) m = if m = n then some v else lookup ls m := by
  rw [lookup_append, lookup_single]
  by_cases hm : m = n
  · subst hm; simp [hn]
  · have : ¬ n = m := fun h => hm h.symm
    simp [hm, this]

theorem addLabel_ok {ls ls' : Labels} {n : String} {v : Int} {k : Nat} {line : String}
    (h : addLabel ls n v k line = .ok ls') : lookup ls n = none ∧ ls' = ls ++ [(n, v)] := by
  unfold addLabel at h
  split at h
  · cases h
  · rename_i hn
    cases h
    exact ⟨by simpa using hn, rfl⟩

theorem addLabel_of_none (ls : Labels) (n : String) (v : Int) (k : Nat) (line : String)
    (h : lookup ls n = none) : addLabel ls n v k line = .ok (ls ++ [(n, v)]) := by
  simp [addLabel, h]

/-! ### the data pass: a successful `writeData` in closed form -/

theorem writeData_nil (o : DataOut) : writeData [] o = o := rfl

theorem writeData_cons_ok (e : Entry) (rest : List Entry) (o : DataOut)
    (h : (writeData (e :: rest) o).err = none) :
    ∃ name vals, e.2.2 = .varDecl name vals ∧ 0 ≤ o.last - vals.length + 1 ∧
      lookup o.labels name = none ∧
      writeData (e :: rest) o =
        writeData rest { o with mem := writeVals o.mem (o.last - vals.length + 1) vals,
                                labels := o.labels ++ [(name, o.last - vals.length + 1)],
                                last := o.last - vals.length } := by
  obtain ⟨k, line, s⟩ := e
  cases s with
  | varDecl name vals =>
    by_cases hfit : o.last - vals.length + 1 < 0
    · simp [writeData, hfit] at h
    · cases hl : lookup o.labels name with
      | none =>
        exact ⟨name, vals, rfl, by omega, hl, by simp only [writeData, if_neg hfit, addLabel_of_none _ _ _ _ _ hl]⟩
      | some x =>
        simp [writeData, hfit, addLabel, hl] at h
  | _ => simp [writeData] at h

theorem writeData_err_none (data : List Entry) (o : DataOut) (h : (writeData data o).err = none) :
    o.err = none := by
  induction data generalizing o with
  | nil => exact h
  | cons e rest ih =>
    obtain ⟨name, vals, _, _, _, heq⟩ := writeData_cons_ok e rest o h
    rw [heq] at h
    have := ih _ h
    exact this

/-- Closed form of the data pass (everything one wants to know about a successful `writeData`). -/
structure DataSpec (data : List Entry) (o d : DataOut) : Prop where
  allVar  : ∀ e ∈ data, isVarDecl e.2.2 = true
  last    : d.last = o.last - dataSize data
  lastGe  : -1 ≤ o.last → -1 ≤ d.last
  cfg     : d.mem.cfg = Mem.toyCfg
  frame   : ∀ x : Int, ¬ (d.last < x ∧ x ≤ o.last) → d.mem.cells x = o.mem.cells x
  keep    : ∀ n x, lookup o.labels n = some x → lookup d.labels n = some x
  var     : ∀ (j k : Nat) (line name : String) (vals : List String),
              data[j]? = some (k, line, .varDecl name vals) →
              lookup o.labels name = none ∧
              lookup d.labels name = some (o.last + 1 - dataSize (data.take (j + 1))) ∧
              ∀ (e : Nat) (he : e < vals.length),
                d.mem.cells (o.last + 1 - dataSize (data.take (j + 1)) + e) = valueToInt vals[e] % 65536
  only    : ∀ n x, lookup d.labels n = some x →
              lookup o.labels n = some x ∨
              ∃ j k line vals, data[j]? = some (k, line, .varDecl n vals) ∧
                x = o.last + 1 - dataSize (data.take (j + 1))

theorem writeData_spec (data : List Entry) (o : DataOut) (hc : o.mem.cfg = Mem.toyCfg)
    (hl : o.last ≤ 4095) (h : (writeData data o).err = none) :
    DataSpec data o (writeData data o) := by
  induction data generalizing o with
  | nil =>
    refine ⟨by simp, by simp [writeData, dataSize], fun h => h, hc, fun _ _ => rfl, fun _ _ h => h,
      by simp, fun n x h => Or.inl h⟩
  | cons e rest ih =>
    obtain ⟨name, vals, hs, hfit, hnew, heq⟩ := writeData_cons_ok e rest o h
    rw [heq] at h ⊢
    have hsz : stmtSize e.2.2 = vals.length := by rw [hs]; rfl
    have hlk := lookup_snoc hnew (o.last - vals.length + 1)
    have hwc := writeVals_cells vals o.mem hc (o.last - vals.length + 1) hfit (by omega)
    have IH := ih _ (by simp only; rw [writeVals_cfg]; exact hc) (by simp only; omega) h
    obtain ⟨k, line, s⟩ := e
    simp only at hs; subst hs
    -- the address of variable 0, and of variable `j + 1` in terms of variable `j` of the rest
    have ha0 : o.last + 1 - (dataSize (List.take (0 + 1) ((k, line, TStmt.varDecl name vals) :: rest)) : Int)
        = o.last - vals.length + 1 := by
      simp only [Nat.zero_add, List.take_succ_cons, List.take_zero, dataSize, stmtSize]; omega
    have haS : ∀ j, o.last + 1 -
        (dataSize (List.take (j + 1 + 1) ((k, line, TStmt.varDecl name vals) :: rest)) : Int)
        = o.last - vals.length + 1 - dataSize (List.take (j + 1) rest) := by
      intro j; simp only [List.take_succ_cons, dataSize, stmtSize]; omega
    constructor
    · intro x hx
      rcases List.mem_cons.mp hx with rfl | hx
      · rfl
      · exact IH.allVar x hx
    · rw [IH.last]; simp only [dataSize, stmtSize]; omega
    · intro _
      exact IH.lastGe (by simp only; omega)
    · exact IH.cfg
    · intro x hx
      have hlast := IH.last
      simp only at hlast
      rw [IH.frame x (by simp only; omega)]
      simp only
      rw [hwc x, if_neg (by omega)]
    · intro n x hn
      apply IH.keep
      simp only
      rw [lookup_append, hn]; rfl
    · intro j k' line' name' vals' hj
      cases j with
      | zero =>
        simp only [List.getElem?_cons_zero, Option.some.injEq, Prod.mk.injEq, TStmt.varDecl.injEq] at hj
        obtain ⟨rfl, rfl, rfl, rfl⟩ := hj
        rw [ha0]
        refine ⟨hnew, ?_, ?_⟩
        · apply IH.keep
          simp only
          rw [hlk, if_pos rfl]
        · intro e he
          have hlast := IH.last
          simp only at hlast
          rw [IH.frame _ (by simp only; omega)]
          simp only
          rw [hwc, if_pos (by omega)]
          have : (o.last - vals.length + 1 + (e : Int) - (o.last - vals.length + 1)).toNat = e := by omega
          rw [this, List.getD_eq_getElem?_getD, List.getElem?_eq_getElem he]; rfl
      | succ j =>
        simp only [List.getElem?_cons_succ] at hj
        obtain ⟨h1, h2, h3⟩ := IH.var j k' line' name' vals' hj
        rw [haS]
        simp only at h1 h2 h3
        rw [hlk] at h1
        split at h1
        · cases h1
        · exact ⟨h1, h2, h3⟩
    · intro n x hn
      rcases IH.only n x hn with h1 | ⟨j, k', line', vals', hj, hx⟩
      · simp only at h1
        rw [hlk] at h1
        split at h1
        · next hd => exact Or.inr ⟨0, k, line, vals, hd ▸ rfl, by rw [ha0]; exact (Option.some.inj h1).symm⟩
        · exact Or.inl h1
      · exact Or.inr ⟨j + 1, k', line', vals', by simpa using hj, by rw [hx, haS]⟩

end ArchSim.ToyAsm
