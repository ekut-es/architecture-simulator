/-
Facts about the shared RISC-V model that hold for every argument: the `fixedint` wraps move a value by a multiple
of 2^32 only, `sextImm`, the digit printer against core's `Nat.toDigits`, `setReg`, the three access widths.
A statement about every operation can be checked on the table `allOps` (`forall_op`).
-/
import ArchSim.Model.Rv

namespace ArchSim.Rv

theorem wrapU_lt (z : Int) : wrapU z < 4294967296 := by
  simp only [wrapU]; omega

theorem wrapU_natCast (n : Nat) (h : n < 4294967296) : wrapU (n : Int) = n := by unfold wrapU; omega

theorem wrapU_congr {a b : Int} (h : a % 4294967296 = b % 4294967296) : wrapU a = wrapU b := by
  simp only [wrapU, h]

theorem wrapU_add_mul (x k : Int) : wrapU (x + k * 4294967296) = wrapU x :=
  wrapU_congr (Int.add_mul_emod_self_right ..)

theorem wrapU_add (a b : Int) : (wrapU a + wrapU b) % 4294967296 = wrapU (a + b) := by
  have ha : 0 ≤ a % 4294967296 := Int.emod_nonneg a (by decide)
  have hb : 0 ≤ b % 4294967296 := Int.emod_nonneg b (by decide)
  have hab : 0 ≤ (a + b) % 4294967296 := Int.emod_nonneg _ (by decide)
  apply Int.ofNat_inj.mp
  simp only [wrapU, Int.natCast_emod, Int.natCast_add, Int.toNat_of_nonneg ha, Int.toNat_of_nonneg hb,
    Int.toNat_of_nonneg hab]
  exact (Int.add_emod a b 4294967296).symm

theorem toS_eq (a : Nat) : ∃ k : Int, toS a = a + k * 4294967296 := by
  unfold toS; split
  · exact ⟨-(a / 4294967296 : Nat), by omega⟩
  · exact ⟨-(a / 4294967296 : Nat) - 1, by omega⟩

theorem toS_bounds (a : Nat) : -2147483648 ≤ toS a ∧ toS a < 2147483648 := by
  simp only [toS]; split <;> omega

theorem wrapU_toS_add (a : Nat) (y : Int) : wrapU (toS a + y) = wrapU ((a : Int) + y) := by
  obtain ⟨k, hk⟩ := toS_eq a
  rw [hk, Int.add_right_comm, wrapU_add_mul]

theorem wrapU_toS (n : Nat) (h : n < 4294967296) : wrapU (toS n) = n := by
  obtain ⟨k, hk⟩ := toS_eq n
  rw [hk, wrapU_add_mul, wrapU_natCast n h]

theorem sextImm_range (n : Nat) (raw : Int) :
    -(2 : Int) ^ (n - 1) ≤ sextImm n raw ∧ sextImm n raw < (2 : Int) ^ (n - 1) := by
  unfold sextImm
  have hP : (0 : Int) < 2 ^ (n - 1) := Int.pow_pos (by decide)
  generalize (2 : Int) ^ (n - 1) = P at hP ⊢
  have h1 := Int.emod_nonneg raw (Int.ne_of_gt hP)
  have h2 := Int.emod_lt_of_pos raw hP
  rcases Int.emod_two_eq (raw / P) with h | h <;> rw [h] <;> omega

theorem sextImm_id (n : Nat) (x : Int) (h : -(2 : Int) ^ (n - 1) ≤ x ∧ x < (2 : Int) ^ (n - 1)) :
    sextImm n x = x := by
  unfold sextImm
  generalize (2 : Int) ^ (n - 1) = m at h
  by_cases h0 : 0 ≤ x
  · rw [Int.emod_eq_of_lt h0 h.2, Int.ediv_eq_zero_of_lt h0 h.2]; omega
  · have hm : 0 ≤ x + m := by omega
    have hlt : x + m < m := by omega
    have h1 : x % m = x + m := by rw [← Int.add_emod_right, Int.emod_eq_of_lt hm hlt]
    have h2 : x / m = -1 := by
      have := Int.add_ediv_of_dvd_right (a := x) (Int.dvd_refl m)
      rw [Int.ediv_eq_zero_of_lt hm hlt, Int.ediv_self (by omega)] at this
      omega
    rw [h1, h2]; omega

/-- `f` translates core's digit characters into the printer's (`hexDigit`: upper-case beyond 9). -/
theorem toDigitsRev_reverse (b : Nat) (hb : b ≥ 2) (f : Char → Char)
    (hf : ∀ d, d < b → f (Nat.digitChar d) = hexDigit d) (n : Nat) :
    (toDigitsRev b hb n).reverse = (Nat.toDigits b n).map f := by
  induction n using Nat.strongRecOn with
  | _ n ih =>
    rw [toDigitsRev, Nat.toDigits_eq_if (by omega)]
    by_cases h : n < b
    · simp only [h, dif_pos, if_true, List.reverse_cons, List.reverse_nil, List.nil_append, List.map_cons,
        List.map_nil, hf n h]
    · simp only [h, dif_neg, if_false, List.reverse_cons, List.map_append, List.map_cons, List.map_nil,
        not_false_eq_true]
      rw [ih (n / b) (Nat.div_lt_self (by omega) (by omega)), hf _ (Nat.mod_lt _ (by omega))]

theorem mem_allOps (op : Op) : op ∈ allOps := by cases op <;> decide +kernel

/-- A statement about every operation can be checked on the finite list `allOps`; facts that are tables by
    nature are settled this way, by one evaluation in the kernel. -/
theorem forall_op {P : Op → Prop} (h : ∀ op ∈ allOps, P op) (op : Op) : P op := h op (mem_allOps op)

/-- the mnemonics of the table are pairwise distinct, so looking one up finds its own row -/
theorem ofMnemonic_mnemonic : ∀ op : Op, Op.ofMnemonic op.mnemonic = some op := forall_op (by decide +kernel)

theorem ofMnemonic_eq {mn : String} {op : Op} (h : Op.ofMnemonic mn = some op) : op.mnemonic = mn := by
  simpa using List.find?_some h

/-! ### The members of the small instruction types, read off the table `Op.ty` -/

theorem ty_shiftI : ∀ op : Op, op.ty = .shiftI → op = .slli ∨ op = .srli ∨ op = .srai := forall_op (by decide +kernel)

theorem ty_b : ∀ op : Op, op.ty = .b → op = .beq ∨ op = .bne ∨ op = .blt ∨ op = .bge ∨ op = .bltu ∨ op = .bgeu :=
  forall_op (by decide +kernel)

theorem ty_j : ∀ op : Op, op.ty = .j → op = .jal := forall_op (by decide +kernel)

theorem ty_fence : ∀ op : Op, op.ty = .fence → op = .fence := forall_op (by decide +kernel)

theorem ne_of_ty_ne {op op' : Op} (h : op.ty ≠ op'.ty) : op ≠ op' := fun e => h (e ▸ rfl)

/-! ### `setReg`: the written register, the others, writes the register file drops -/

theorem setReg_same (regs : Nat → Nat) (rd v : Nat) (h : 0 < rd ∧ rd < 32) : setReg regs rd v rd = v := by
  simp [setReg, h]

theorem setReg_ne (regs : Nat → Nat) (r v x : Nat) (h : r = 0 ∨ x ≠ r) :
    setReg regs r v x = regs x := by
  unfold setReg
  split
  · omega
  · rfl

theorem setReg_read_zero (regs : Nat → Nat) (rd v : Nat) : setReg regs rd v 0 = regs 0 :=
  setReg_ne regs rd v 0 (by omega)

theorem setReg_invalid (regs : Nat → Nat) (rd v : Nat) (h : ¬ (0 < rd ∧ rd < 32)) : setReg regs rd v = regs := by
  funext x
  simp only [setReg]
  split
  · next hx => exact absurd hx.2 h
  · rfl

theorem setReg_write_zero (regs : Nat → Nat) (v : Nat) : setReg regs 0 v = regs := setReg_invalid regs 0 v (by omega)

theorem setReg_setReg (regs : Nat → Nat) (rd v w : Nat) : setReg (setReg regs rd v) rd w = setReg regs rd w := by
  funext x
  simp only [setReg]
  split <;> rfl

theorem setReg_lt {regs : Nat → Nat} (h : ∀ r, regs r < 4294967296) (rd : Nat) {v : Nat} (hv : v < 4294967296)
    (r : Nat) : setReg regs rd v r < 4294967296 := by
  unfold setReg; split
  · exact hv
  · exact h r

/-! ### `accessBits` is 8, 16 or 32 -/

theorem accessBits_cases (op : Op) : accessBits op = 8 ∨ accessBits op = 16 ∨ accessBits op = 32 := by
  unfold accessBits; split <;> simp

theorem accessBits_ge (op : Op) : 8 ≤ accessBits op := by
  have := accessBits_cases op; omega

theorem accessBits_le (op : Op) : accessBits op ≤ 32 := by
  have := accessBits_cases op; omega

end ArchSim.Rv
