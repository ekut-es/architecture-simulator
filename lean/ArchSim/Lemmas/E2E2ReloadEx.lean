/-
Concrete objects for the non-vacuity examples of `Props/C09Asm2.lean` / `Props/C03Asm2.lean`
— the example text `asmText` of `Lemmas/E2EEx.lean` loaded with a data cache and run for two steps (the `lw` has
missed: one access, a resident block), and a second text loaded into that state.
-/
import ArchSim.Lemmas.E2E2Ex
import ArchSim.Lemmas.E2ECacheInit
import ArchSim.Lemmas.E2EEx

namespace ArchSim.Lemmas.E2E2.Ex
open ArchSim ArchSim.Rv ArchSim.Asm ArchSim.Lemmas.E2E ArchSim.Lemmas.E2E.Ex

/-- the state after two single-cycle steps (`lui t0, 4 ; lw a0, 0(t0)`) of `asmText` loaded with the data cache
    `geo1` (one set, one way, one word; write-back LRU; penalty 10): pc 8, x5 = 0x4000, one access, no hit -/
def usedSt : St := ArchSim.Lemmas.C11.singleRun 2 asmStC

/-- `addi x0,x0,0 ; addi x0,x0,0 ; lw x1, 0(x5)`: the instruction at pc 8 is a load through x5 -/
def reProg : List Instr :=
  [{ op := .addi, rd := 0, rs1 := 0, imm := 0 }, { op := .addi, rd := 0, rs1 := 0, imm := 0 },
   { op := .lw, rd := 1, rs1 := 5, imm := 0 }]

def reText : String := listingText reProg

theorem reText_eq : reText = "addi x0, x0, 0\naddi x0, x0, 0\nlw x1, 0(x5)" := by decide +kernel

theorem load_reText (s : St) : (load s reText).err = none ∧ (load s reText).st.imem.prog = reProg :=
  ArchSim.Lemmas.C14.listing_loads s reProg (by decide) (by decide)

/-- `usedSt` after loading `reText`: cache reset (counters kept), program replaced -/
def reSt : St := { usedSt with mem := usedSt.mem.reset, imem := { prog := reProg, cache := none } }

theorem load_reText_used : (load usedSt reText).st = reSt := by
  rw [reText, listingText, ArchSim.Lemmas.C14.load_listing usedSt reProg (by decide) (by decide)]
  have : usedSt.imem.cache = none := by decide
  rw [this]; rfl

open ArchSim.Lemmas.C03Prog.Ex (geo1 geo1_ok assoc1_ok) in
theorem usedSt_stepHyp : ArchSim.Lemmas.C09Prog.StepHyp usedSt := by
  have h0 := load_stepHyp freshSt freshSt_ok rfl true false geo1 geo1_ok assoc1_ok 10 asmText
    asmText_supported
  rw [load_asmText_cached] at h0
  exact ArchSim.Lemmas.C09Prog.StepHyp_run asmStC h0 2 (by unfold ArchSim.Lemmas.C09Prog.SingleOK; decide)

theorem usedSt_flat_ok : ArchSim.Lemmas.C01.StOK (flatOf usedSt) :=
  ⟨⟨_, rfl, rfl, ArchSim.Lemmas.C18.WF_empty _⟩, usedSt_stepHyp.inv.regs, by decide, by decide, by decide⟩

/-- the flat counterpart of `reSt` -/
def reStF : St := { flatOf usedSt with imem := { prog := reProg, cache := none } }

theorem load_reText_flat : (load (flatOf usedSt) reText).st = reStF := by
  rw [reText, listingText, ArchSim.Lemmas.C14.load_listing (flatOf usedSt) reProg (by decide) (by decide)]
  have : (flatOf usedSt).imem.cache = none := by decide
  rw [this]; rfl

open ArchSim.Lemmas.C03Prog in
attribute [local instance] ArchSim.Lemmas.C03Prog.Ex.stepAcceptedDec in
/-- the flat run of the second program from pc 8: the accepted `lw`, then done -/
theorem runAccepted_reStF : RunAccepted reStF :=
  .of_done (k := 1) (by decide) (by decide)

end ArchSim.Lemmas.E2E2.Ex
