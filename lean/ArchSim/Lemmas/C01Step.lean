/-
On an uncached instruction memory and a flat data memory one `singleStep` is the fetch followed by `execOne` (the
display re-read of a load is neutral there); hence the refinement of one step and the invariant `StOK` after it.
`thenStep` carries a fact about one step to runs.
-/
import ArchSim.Lemmas.C01Inv
import ArchSim.Lemmas.C02SplitMem

namespace ArchSim.Lemmas.C01
open ArchSim ArchSim.Rv ArchSim.Spec.RvSpec ArchSim.Mem ArchSim.Cache

theorem instrAt_fetch (prog : List Instr) (c : Option ICache) (pc : Int) (h0 : 0 ≤ pc) (h1 : pc < 4294967296) :
    IMem.instrAt { prog := prog, cache := c } pc = fetch prog (BitVec.ofInt 32 pc) := by
  simp only [IMem.instrAt, fetch, BitVec.toNat_ofInt]
  have e1 : (pc % ((2 ^ 32 : Nat) : Int)).toNat = pc.toNat := by omega
  rw [e1]
  by_cases h : pc % 4 = 0
  · rw [if_pos ⟨h0, h⟩, if_pos (by omega)]
    congr 1; omega
  · rw [if_neg (fun hh => h hh.2), if_neg (by omega)]

/-- The state in which `singleStep` runs `behavior`: counters advanced.  The `+ 0` is the `extra` of an uncached fetch:
    with it `counted s` is `C02Split.sSingle s`, and `C02Split.afterFetch s` after such a fetch, by `rfl`. -/
@[reducible] def counted (s : St) : St := { s with cycles := s.cycles + 1 + 0, instrs := s.instrs + 1 }

/-- On a flat memory the re-read of a load is neutral (`C02Split.loadOK_flat`), so the step is the fetch followed by
    `execOne`. -/
theorem singleStep_some (s : St) (prog : List Instr) (him : s.imem = { prog := prog, cache := none })
    (hlen : prog.length ≤ 4096) (i : Instr) (hi : s.imem.instrAt s.pc = some i) (hs : RegMemOK s) :
    singleStep s = { st := (execOne i (counted s)).st,
                     fault := (execOne i (counted s)).fault.map (fun f => (s.pc, f)) } := by
  obtain ⟨m, hm, _, _⟩ := hs.flat
  have hpc : s.pc < 16384 := by have := IMem.instrAt_lt hi; simp only [him] at this; omega
  have hl : C02Split.LoadOK (counted s).mem (accessBits i.op) (((counted s).regs i.rs1 : Int) + i.imm) := by
    rw [show (counted s).mem = .flat m from hm]; exact C02Split.loadOK_flat m _ (accessBits_le i.op) _
  rw [C02Split.singleStep_eq s i (by rw [him]) hi hpc, show C02Split.sSingle s = counted s from rfl,
    C02Split.singleTail_loadOK i (counted s) (fun _ => ⟨hs.regs_lt _, hl⟩)]
  cases hf : (behavior i (counted s)).fault <;> simp only [execOne, hf, Option.map]

theorem singleStep_pc (s : St) (h0 : 0 ≤ s.pc) (h1 : s.pc < 4294967296) :
    0 ≤ (singleStep s).st.pc ∧ (singleStep s).st.pc < 4294967296 := by
  rcases (C02Split.singleStep_frame s).2.2.2.1 with h | ⟨x, h⟩ <;> rw [h]
  · exact ⟨h0, h1⟩
  · exact ⟨Int.emod_nonneg _ (by decide), Int.emod_lt_of_pos _ (by decide)⟩

theorem StOK.counted {s : St} (h : StOK s) : StOK (counted s) :=
  ⟨h.flat, h.regs_lt, h.x0, h.pc_lo, h.pc_hi⟩

/-- Abstraction of the outcome of a step: the fault (without the instruction address) or the state. -/
def αStep (o : StepOut) : Option (Except SpecFault SpecSt) := αOut o.st (o.fault.map Prod.snd)

theorem execOne_inv (i : Instr) (s : St) (h : RegMemOK s) : RegMemOK (execOne i s).st := by
  have hb := behavior_inv i s h
  simp only [execOne]
  split
  · exact hb
  · exact hb.of_eq rfl rfl

theorem singleStep_refines (prog : List Instr) (hp : ProgOK prog) (s : St)
    (him : s.imem = { prog := prog, cache := none }) (hs : StOK s) :
    αStep (singleStep s) = some (step prog (α s)) := by
  have hfetch : s.imem.instrAt s.pc = fetch prog (α s).pc := by
    rw [him]; exact instrAt_fetch prog none s.pc hs.pc_lo hs.pc_hi
  cases hi : s.imem.instrAt s.pc with
  | none =>
    rw [C02Split.singleStep_nofetch s hi]
    simp only [step, ← hfetch, hi]
    rfl
  | some i =>
    have hmem : i ∈ prog := by have := IMem.instrAt_mem hi; rwa [him] at this
    obtain ⟨hwf, hsup⟩ := hp.wf i hmem
    rw [singleStep_some s prog him hp.len i hi hs.regMemOK]
    simp only [step, ← hfetch, hi]
    have := execOne_refines i (counted s) hwf hsup hs.counted
    rw [show α (counted s) = α s from rfl] at this
    rw [← this]
    simp only [αStep, αBeh, Option.map_map]
    congr 1
    cases (execOne i (counted s)).fault <;> rfl

theorem StOK_step (prog : List Instr) (hp : ProgOK prog) (s : St)
    (him : s.imem = { prog := prog, cache := none }) (hs : StOK s) : StOK (singleStep s).st := by
  have hinv : RegMemOK (singleStep s).st := by
    cases hi : s.imem.instrAt s.pc with
    | none => rw [C02Split.singleStep_nofetch s hi]; exact hs.regMemOK.of_eq rfl rfl
    | some i =>
      rw [singleStep_some s prog him hp.len i hi hs.regMemOK]
      exact execOne_inv i _ (hs.regMemOK.of_eq rfl rfl)
  obtain ⟨p0, p1⟩ := singleStep_pc s hs.pc_lo hs.pc_hi
  exact ⟨hinv.flat, hinv.regs_lt, hinv.x0, p0, p1⟩

/-- One step followed by `K`, as `stepN` and `simN` do it: stop at a fault. -/
def thenStep (o : StepOut) (K : St → StepOut) : StepOut :=
  match o.fault with
  | some f => { st := o.st, fault := some f }
  | none => K o.st

theorem thenStep_refines (prog : List Instr) (hp : ProgOK prog) (s : St)
    (him : s.imem = { prog := prog, cache := none }) (hs : StOK s) (K : St → StepOut)
    (K' : SpecSt → Except SpecFault SpecSt)
    (ih : ∀ t : St, t.imem = { prog := prog, cache := none } → StOK t → αStep (K t) = some (K' (α t))) :
    αStep (thenStep (singleStep s) K) =
      some (match step prog (α s) with
        | .error f => .error f
        | .ok s' => K' s') := by
  have h1 := singleStep_refines prog hp s him hs
  unfold thenStep
  cases hf : (singleStep s).fault with
  | some f =>
    simp only [αStep, hf, αOut, Option.map] at h1 ⊢
    cases hfa : αFault f.2 with
    | none => rw [hfa] at h1; cases h1
    | some f' => rw [hfa] at h1; rw [(Option.some.inj h1).symm]
  | none =>
    simp only [αStep, hf, αOut, Option.map] at h1
    rw [(Option.some.inj h1).symm]
    exact ih _ (by rw [C02Split.singleStep_imem_nocache s (by rw [him]), him]) (StOK_step prog hp s him hs)

theorem thenStep_st (P : St → Prop) (o : StepOut) (K : St → StepOut) (ho : P o.st) (hK : P (K o.st).st) :
    P (thenStep o K).st := by
  unfold thenStep; split
  · exact ho
  · exact hK

theorem stepN_st (P : St → Prop) (h : ∀ s, P s → P (singleStep s).st) : ∀ n s, P s → P (stepN n s).st
  | 0, _, hs => hs
  | n + 1, s, hs => thenStep_st P _ (stepN n) (h s hs) (stepN_st P h n _ (h s hs))

theorem simN_st (P : St → Prop) (h : ∀ s, P s → P (singleStep s).st) : ∀ n s, P s → P (simN n s).st
  | 0, _, hs => hs
  | n + 1, s, hs => by
    simp only [simN]; split
    · exact hs
    · exact thenStep_st P _ (simN n) (h s hs) (simN_st P h n _ (h s hs))

end ArchSim.Lemmas.C01
