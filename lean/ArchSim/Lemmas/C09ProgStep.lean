/-
C09 at program level, one instruction.  `RunInv` (32-bit registers, `DInv` of the memory) is kept by every `behavior`
that does not fault, and `behavior` counts one access per load or store: both are read off C01's `behavior_regs_lt` /
`behavior_mem_cases` (which memory operation the instruction performed).  The display re-read after a load is neutral
on such states, so `singleTail` faults exactly when `behavior` does.
-/
import ArchSim.Lemmas.C09ProgMem
import ArchSim.Lemmas.C01Inv
import ArchSim.Lemmas.C02SplitFamilies
import ArchSim.Lemmas.C02SplitMain

namespace ArchSim.Lemmas.C09Prog
open ArchSim ArchSim.Cache ArchSim.Rv ArchSim.Repl
open ArchSim.Spec.TagCache (Accepted)
open ArchSim.Spec.CacheAbs (widthOK)

structure RunInv (s : St) : Prop where
  regs : ∀ r, s.regs r < 4294967296
  mem  : DInv s.mem

theorem RunInv.of_eq {s t : St} (h : RunInv s) (hm : t.mem = s.mem) (hr : t.regs = s.regs) :
    RunInv t where
  regs := by rw [hr]; exact h.regs
  mem := by rw [hm]; exact h.mem

/-- The address `behavior` of a store uses. -/
def storeAddr (i : Instr) (s : St) : Int := (((s.regs i.rs1 + wrapU i.imm) % 4294967296 : Nat) : Int)

open ArchSim.Lemmas.C01 (behavior_regs_lt behavior_mem_cases) in
theorem behavior_runinv (i : Instr) (s : St) (h : RunInv s) (hf : (behavior i s).fault = none) :
    RunInv (behavior i s).st := by
  have hw := widthOK_accessBits i.op
  refine ⟨behavior_regs_lt i s h.regs (fun a v hv => (DInv_read_ok h.mem hw a true hv).2.1), ?_⟩
  rcases behavior_mem_cases i s with ⟨_, _, _, e⟩ | ⟨_, a, e, hr⟩ | ⟨_, a, v, hv, e, hr⟩ | ⟨_, e, hne⟩ <;> rw [e]
  · exact h.mem
  · obtain ⟨v, hv⟩ := hr hf
    exact (DInv_read_ok h.mem hw a true hv).1
  · obtain ⟨x, hx⟩ := hr hf
    exact (DInv_write_ok h.mem hw a hv hx).1
  · exact (processEcall_dinv s h.mem).resolve_left (fun ⟨e, h'⟩ => hne hf e h')

theorem read_accepted_ok {ms : MemSys} (h : DInv ms) {bits : Nat} {a : Int} (hacc : Accepted bits a)
    (counted : Bool) : ∃ v, (ms.read bits a counted).res = .ok v := by
  obtain ⟨l, ds, rfl, hok⟩ := h
  exact ⟨_, (C03.read_accepted hok.polOK hok.cinv bits a counted hacc.1 hacc.2.1 hacc.2.2).1⟩

theorem write_accepted_ok {ms : MemSys} (h : DInv ms) {bits : Nat} {a : Int} (hacc : Accepted bits a)
    {v : Nat} (hv : v < 2 ^ bits) : (ms.write bits a v false).res = .ok 0 := by
  obtain ⟨l, ds, rfl, hok⟩ := h
  exact (C03.write_accepted hok.polOK hok.cinv bits a v hacc.1 hacc.2.1 hacc.2.2 hv).1

def isMemOp (i : Instr) : Bool := i.op.ty == .memI || i.op.ty == .s

theorem isMemOp_iff (i : Instr) : isMemOp i = true ↔ i.op.ty = .memI ∨ i.op.ty = .s := by
  simp only [isMemOp, Bool.or_eq_true, beq_iff_eq]

open ArchSim.Lemmas.C01 (behavior_mem_cases) in
theorem behavior_dAcc (i : Instr) (s : St) (h : RunInv s) :
    (isMemOp i = true → (behavior i s).fault = none → dAcc (behavior i s).st.mem = dAcc s.mem + 1) ∧
    (isMemOp i = false → dAcc (behavior i s).st.mem = dAcc s.mem) := by
  have hw := widthOK_accessBits i.op
  rw [Bool.eq_false_iff, Ne, isMemOp_iff]
  rcases behavior_mem_cases i s with ⟨h1, h2, _, e⟩ | ⟨hty, a, e, hr⟩ | ⟨hty, a, v, hv, e, hr⟩ | ⟨hop, e, _⟩ <;> rw [e]
  · exact ⟨fun hm => absurd hm (by rintro (h | h) <;> contradiction), fun _ => rfl⟩
  · refine ⟨fun _ hf => ?_, fun hm => absurd (.inl hty) hm⟩
    obtain ⟨v, hv⟩ := hr hf
    exact (DInv_read_ok h.mem hw a true hv).2.2.2
  · refine ⟨fun _ hf => ?_, fun hm => absurd (.inr hty) hm⟩
    obtain ⟨x, hx⟩ := hr hf
    exact (DInv_write_ok h.mem hw a hv hx).2.2
  · exact ⟨fun hm => (by rcases hm with h | h <;> rw [hop] at h <;> cases h), fun _ => processEcall_dAcc s⟩

open ArchSim.Lemmas.C02Split

/-- A cached data memory satisfying the invariant has what the agreement of the two implementations of an
    instruction (`C09Prog.step_agree`) needs of the data memory (`C02Split.MemOK`: stores alias modulo 2^32, a
    load's uncounted re-read is neutral), at every address: a load that returns a value was an accepted access. -/
theorem memOK_of_dok {l : Bool} {ds : DSys Pol} (h : DOK l ds) (i : Instr) (s : St)
    (hmem : s.mem = .cached l ds) : MemOK i s := by
  rw [MemOK, hmem]
  exact ⟨writeAlias_cached l ds (by rw [h.inv.cfg]; rfl) (by rw [h.inv.cfg]; rfl),
    fun _ => loadOK_cached h (widthOK_accessBits i.op) _⟩

theorem RunInv.loadOK {s : St} (h : RunInv s) (i : Instr) :
    i.op.ty = .memI → s.regs i.rs1 < 4294967296 ∧
      LoadOK s.mem (accessBits i.op) ((s.regs i.rs1 : Int) + i.imm) := fun _ => by
  obtain ⟨l, ds, hm, hok⟩ := h.mem
  rw [hm]
  exact ⟨h.regs _, loadOK_cached hok (widthOK_accessBits i.op) _⟩

theorem singleTail_facts (i : Instr) (s : St) (h : RunInv s) :
    ((singleTail i s).fault = none ↔ (behavior i s).fault = none) ∧
    (singleTail i s).st.mem = (behavior i s).st.mem ∧
    (singleTail i s).st.regs = (behavior i s).st.regs := by
  rw [singleTail_loadOK i s (h.loadOK i)]
  cases (behavior i s).fault with
  | some ft => exact ⟨by simp, rfl, rfl⟩
  | none => exact ⟨by simp, rfl, rfl⟩

theorem singleTail_runinv (i : Instr) (s : St) (h : RunInv s) (hf : (singleTail i s).fault = none) :
    RunInv (singleTail i s).st := by
  obtain ⟨h1, h2, h3⟩ := singleTail_facts i s h
  exact (behavior_runinv i s h (h1.1 hf)).of_eq h2 h3

end ArchSim.Lemmas.C09Prog
