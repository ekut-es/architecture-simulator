/-
The state produced by `loadImage`: its memory is the data words with the instructions written over them, it
satisfies the boundary invariant `BInv`, and its abstraction is the reference machine's initial state `refInit`.
-/
import ArchSim.Lemmas.ToyRefine

namespace ArchSim.Toy
open ArchSim ArchSim.ToyRef

/-- The data-writing step of `loadImage`. -/
def dataStep (m : Mem.Mem) (av : Nat × Nat) : Mem.Mem := (Mem.writeN m (av.1 : Int) 1 (av.2 % 65536)).1

theorem dataStep_cfg (m : Mem.Mem) (av : Nat × Nat) : (dataStep m av).cfg = m.cfg :=
  Lemmas.C18.writeN_cfg _ _ _ _

theorem foldl_dataStep_cfg (data : List (Nat × Nat)) (m : Mem.Mem) :
    (data.foldl dataStep m).cfg = m.cfg := by
  induction data generalizing m with
  | nil => rfl
  | cons av data ih => simp only [List.foldl_cons]; rw [ih, dataStep_cfg]

theorem absMem_dataStep (m : Mem.Mem) (hc : m.cfg = Mem.toyCfg) (av : Nat × Nat) :
    absMem (dataStep m av) =
      if av.1 < 4096 then (fun x => if x = BitVec.ofNat 12 av.1 then BitVec.ofNat 16 av.2 else absMem m x)
      else absMem m := by
  unfold dataStep
  by_cases ha : av.1 < 4096
  · rw [writeN_toy m hc _ ha, if_pos ha]
    simp only
    rw [absMem_putCell _ _ _ ha, ofNat16_mod]
  · rw [writeN_toy_err m hc _ (by omega), if_neg ha]

theorem absMem_foldl_dataStep (data : List (Nat × Nat)) (m : Mem.Mem) (hc : m.cfg = Mem.toyCfg) :
    absMem (data.foldl dataStep m) =
      data.foldl (fun f (av : Nat × Nat) =>
        if av.1 < 4096 then (fun x => if x = BitVec.ofNat 12 av.1 then BitVec.ofNat 16 av.2 else f x) else f)
        (absMem m) := by
  induction data generalizing m with
  | nil => rfl
  | cons av data ih =>
    simp only [List.foldl_cons]
    rw [ih _ (by rw [dataStep_cfg]; exact hc), absMem_dataStep m hc]

theorem absMem_empty : absMem (Mem.Mem.empty Mem.toyCfg) = fun _ => 0 := by
  funext x; simp [absMem, Mem.Mem.empty]

theorem writeInstrs_eq_putList (is : List TInstr) (m : Mem.Mem) (k : Nat) :
    loadImage.writeInstrs m k is = putList encode m (k : Int) is := by
  induction is generalizing m k with
  | nil => rfl
  | cons i is ih => exact ih _ _

theorem writeInstrs_cfg (is : List TInstr) (m : Mem.Mem) (k : Nat) :
    (loadImage.writeInstrs m k is).cfg = m.cfg := by
  rw [writeInstrs_eq_putList, putList_cfg]

theorem writeInstrs_cells (is : List TInstr) (m : Mem.Mem) (hc : m.cfg = Mem.toyCfg)
    (hlen : is.length ≤ 4096) (x : Int) :
    (loadImage.writeInstrs m 0 is).cells x =
      if 0 ≤ x ∧ x < (is.length : Int) then encode (is.getD x.toNat default) % 65536 else m.cells x := by
  rw [writeInstrs_eq_putList, putList_cells encode default is m hc _ (by omega) (by omega)]
  simp only [Int.natCast_zero, Int.zero_add, Int.sub_zero]

/-- the memory after the data words of `loadImage`, before the instructions -/
def dataImage (data : List (Nat × Nat)) : Mem.Mem := data.foldl dataStep (Mem.Mem.empty Mem.toyCfg)

theorem dataImage_cfg (data : List (Nat × Nat)) : (dataImage data).cfg = Mem.toyCfg := by
  unfold dataImage; rw [foldl_dataStep_cfg]; rfl

def imageMem (instrs : List TInstr) (data : List (Nat × Nat)) : Mem.Mem :=
  loadImage.writeInstrs (dataImage data) 0 instrs

theorem loadImage_mem (t : TSim) (instrs : List TInstr) (data : List (Nat × Nat)) :
    (loadImage t instrs data).s.mem = imageMem instrs data := by
  unfold loadImage imageMem
  cases instrs <;> rfl

theorem imageMem_cfg (instrs : List TInstr) (data : List (Nat × Nat)) :
    (imageMem instrs data).cfg = Mem.toyCfg := by
  unfold imageMem; rw [writeInstrs_cfg, dataImage_cfg]

theorem absMem_imageMem (instrs : List TInstr) (data : List (Nat × Nat)) (hlen : instrs.length ≤ 4096) :
    absMem (imageMem instrs data) =
      fun x => if x.toNat < instrs.length then BitVec.ofNat 16 (encode (instrs.getD x.toNat default))
               else dataMem data x := by
  funext x
  unfold imageMem
  simp only [absMem]
  rw [writeInstrs_cells instrs _ (dataImage_cfg data) hlen]
  by_cases hx : x.toNat < instrs.length
  · rw [if_pos hx, if_pos (by omega), ofNat16_mod, Int.toNat_natCast]
  · rw [if_neg hx, if_neg (by omega)]
    have := absMem_foldl_dataStep data (Mem.Mem.empty Mem.toyCfg) rfl
    rw [absMem_empty] at this
    exact congrFun this x

theorem loadImage_fields (t : TSim) (instrs : List TInstr) (data : List (Nat × Nat)) :
    (loadImage t instrs data).s.pc = 1 ∧ (loadImage t instrs data).s.accu = 0 ∧
    (loadImage t instrs data).s.maxPc = some ((instrs.length : Int) - 1) ∧
    (loadImage t instrs data).s.loaded = instrs.head? ∧
    (loadImage t instrs data).s.cycles = 0 ∧ (loadImage t instrs data).s.instrs = 0 ∧
    (loadImage t instrs data).s.branches = 0 := by
  unfold loadImage
  cases instrs <;> simp

theorem abs_loadImage (t : TSim) (instrs : List TInstr) (data : List (Nat × Nat))
    (hlen : instrs.length ≤ 4096) :
    abs (loadImage t instrs data) =
      refInit instrs.length (fun k => encode (instrs.getD k default)) data := by
  obtain ⟨hpc, hacc, hmax, hld, hcy, hin, hbr⟩ := loadImage_fields t instrs data
  apply RefSt.ext
  · show BitVec.ofNat 16 (loadImage t instrs data).s.accu = _
    rw [hacc]; rfl
  · show BitVec.ofNat 12 ((loadImage t instrs data).s.pc + 4095) = _
    rw [hpc]; rfl
  · show absMem (loadImage t instrs data).s.mem = _
    rw [loadImage_mem, absMem_imageMem _ _ hlen]; rfl
  · show (loadImage t instrs data).s.maxPc.getD (-1) = _
    rw [hmax]; rfl
  · show isDone (loadImage t instrs data) = decide (instrs.length = 0)
    rw [isDone, hld]
    cases instrs <;> simp
  · exact hin
  · exact hcy
  · exact hbr

theorem BInv_loadImage (t : TSim) (h1 : t.nextCycle = 1) (instrs : List TInstr) (data : List (Nat × Nat))
    (hlen : instrs.length ≤ 4096)
    (hhead : ∀ i, instrs.head? = some i → i.opcode ≤ 12 ∧ i.addr < 4096) :
    BInv (loadImage t instrs data) := by
  obtain ⟨hpc, hacc, hmax, hld, hcy, hin, hbr⟩ := loadImage_fields t instrs data
  refine ⟨by rw [(loadImage_next t instrs data).1, h1], ?_, by rw [hacc]; omega, by rw [hpc]; omega, ?_⟩
  · rw [loadImage_mem]; exact imageMem_cfg _ _
  · rw [hld]
    cases instrs with
    | nil => left; rfl
    | cons i is =>
      right
      obtain ⟨ho, ha⟩ := hhead i rfl
      have h0 : (1 + 4095) % 4096 = 0 := rfl
      have hlt := encode_lt i ho ha
      simp only [List.head?_cons, Option.some.injEq]
      rw [hpc, h0, rd_toy _ (by rw [loadImage_mem]; exact imageMem_cfg _ _) _ (by omega), loadImage_mem]
      unfold imageMem
      rw [writeInstrs_cells (i :: is) _ (dataImage_cfg data) hlen, if_pos (by simp), Int.toNat_natCast,
        List.getD_cons_zero, Nat.mod_eq_of_lt hlt, Nat.mod_eq_of_lt hlt, decode_encode_self i ho ha]

end ArchSim.Toy
