/-
A concrete source text for the non-vacuity examples — a `.data` variable, a pseudo-instruction, a label (in-line
declaration and branch target) — shown to load through the general spelling theorems of C04Spell. `parseLine` does not
reduce by `decide` (`one_of` sorts its symbols with `mergeSort`), so the three lines that are not instructions are
tokenized here alternative by alternative; the instruction grammar fails on them because they, or what follows their
label, start with a dot.
-/
import ArchSim.Lemmas.C15Examples
import ArchSim.Lemmas.ToyAsmFront
import ArchSim.Lemmas.E2ECacheInit
import ArchSim.Lemmas.E2ESource
import ArchSim.Lemmas.C11ProgPipe
import ArchSim.Lemmas.C04SpellLabelTarget
import ArchSim.Lemmas.C03ProgEx
import ArchSim.Lemmas.C03ProgFive

namespace ArchSim.Lemmas.E2E.Ex
open ArchSim ArchSim.PP ArchSim.Rv ArchSim.Asm

theorem parse_directive (d : String) (hd : d = "data" ∨ d = "text")
    (hb : pInstrBody ("." ++ d).toList = .fail) :
    parseLine ("." ++ d).toList = some { lbl := none, item := .directive d } := by
  have h1 : pDirective ("." ++ d).toList = .ok { lbl := none, item := .directive d } [] := by
    unfold pDirective
    rcases hd with rfl | rfl <;> simp only [ArchSim.ToyAsm.oneOf_dirs] <;> rfl
  have h5 : pInstruction ("." ++ d).toList = .fail := by
    unfold pInstruction
    rw [show opt pLabelDecl ("." ++ d).toList = .ok none ("." ++ d).toList by rcases hd with rfl | rfl <;> rfl]
    simp only [R.bind, hb, R.map]
  unfold parseLine orLongest
  simp only [List.map, h1, h5]
  -- the other alternatives fail by evaluation
  rcases hd with rfl | rfl <;> rfl

theorem parse_data : parseLine ".data".toList = some { lbl := none, item := .directive "data" } :=
  parse_directive "data" (.inl rfl) (C04Spell.pInstrBody_fail_head _ '.' "data".toList (by rfl) (by decide))
theorem parse_text : parseLine ".text".toList = some { lbl := none, item := .directive "text" } :=
  parse_directive "text" (.inr rfl) (C04Spell.pInstrBody_fail_head _ '.' "text".toList (by rfl) (by decide))

/-- the three type names have the same length, so `one_of` tries them in the order written -/
theorem oneOf_tys (i : Inp) :
    oneOf ["byte", "half", "word"] i = ArchSim.ToyAsm.oneOfS ["byte", "half", "word"] i := by
  simp only [oneOf, longestFirst_of_sorted ["byte", "half", "word"] (by decide), ArchSim.ToyAsm.oneOfS]

theorem parse_xword : parseLine "x: .word 7".toList = some { lbl := none, item := .varDecl "x" "word" [7] } := by
  have h2 : pVarDecl "x: .word 7".toList = .ok { lbl := none, item := .varDecl "x" "word" [7] } [] := by
    unfold pVarDecl
    simp only [oneOf_tys]
    rfl
  have h5 : pInstruction "x: .word 7".toList = .fail := by
    unfold pInstruction
    rw [show opt pLabelDecl "x: .word 7".toList = .ok (some "x") " .word 7".toList by rfl]
    simp only [R.bind, R.map,
      C04Spell.pInstrBody_fail_head " .word 7".toList '.' "word 7".toList (by rfl) (by decide)]
  unfold parseLine orLongest
  simp only [List.map, h2, h5]
  -- the other alternatives fail, and the bare label declaration matches less, by evaluation
  rfl

/-! ### the instruction lines, through the general spelling theorems -/

/-- a fact about a line written as a term, for the line written out (`hl` is an evaluation) -/
theorem parse_as {l l' : List Char} {r : Option Tok} (h : parseLine l = r) (hl : l = l') : parseLine l' = r :=
  hl ▸ h

open ArchSim.Lemmas.C04Spell in
theorem parse_lui : parseLine "lui t0, 4".toList = some { lbl := none, item := .grp (.utype "lui" 5 4) } :=
  parse_as (parseLine_render { r1 := .abi } { op := .lui, rd := 5, imm := 4 }
    ((spellable_small _ (by decide) (by decide) (by decide) (by decide) (by decide) (by decide)).legible _)) (by decide +kernel)

open ArchSim.Lemmas.C04Spell in
theorem parse_lw : parseLine "lw a0, 0(t0)".toList = some { lbl := none, item := .grp (.mem "lw" 10 0 5) } :=
  parse_as (parseLine_render { r1 := .abi, r2 := .abi } { op := .lw, rd := 10, rs1 := 5, imm := 0 }
    ((spellable_small _ (by decide) (by decide) (by decide) (by decide) (by decide) (by decide)).legible _)) (by decide +kernel)

open ArchSim.Lemmas.C04Spell ArchSim.Lemmas.C14 in
/-- `li rd, v` in lower case with single blanks, abi register name, decimal constant (`parseLine_spelled_word` with the
    body `bodyP_li`, the lemmas under `C04Spell.pseudo_line_spelling_independent`) -/
theorem parse_li_of (rd : Nat) (v : Int) (hrd : rd < 32) (hv : -(2 : Int) ^ 64 ≤ v ∧ v ≤ (2 : Int) ^ 64) :
    parseLine ([] ++ (recase (fun _ => false) "li".toList ++ tReg [' '] .abi rd (tSep [] ',' (tNum [' '] .dec v []))))
      = some { lbl := none, item := .grp (.li rd v) } :=
  parseLine_spelled_word "li" (kw_mem (by decide)) [] allWs_nil (fun _ => false) _
    (lineSep_tReg [' '] .abi rd _ allWs_space (by decide) hrd) _ [] allWs_nil
    (bodyP_li [' '] [] [' '] [] allWs_space (by decide) allWs_nil allWs_space allWs_nil rd v hrd
      .abi .dec (small_natAbs _ hv.1 hv.2))

theorem parse_li_a7 : parseLine "li a7, 93".toList = some { lbl := none, item := .grp (.li 17 93) } :=
  parse_as (parse_li_of 17 93 (by decide) (by decide)) (by decide +kernel)

theorem parse_li_a0 : parseLine "li a0, 0".toList = some { lbl := none, item := .grp (.li 10 0) } :=
  parse_as (parse_li_of 10 0 (by decide) (by decide)) (by decide +kernel)

theorem isLabel_end : ArchSim.Lemmas.C04Spell.IsLabel "end".toList :=
  ⟨'e', "nd".toList, by decide, by decide, by decide⟩

open ArchSim.Lemmas.C04Spell ArchSim.Lemmas.C14 in
/-- `beq zero, zero, end`: a mnemonic word and the body `bodyS_BL` (the lemmas under
    `C04Spell.label_target_line_spelling_independent`) -/
theorem parse_beq : parseLine "beq zero, zero, end".toList
    = some { lbl := none, item := .grp (.btypeLabel "beq" 0 0 "end" 0) } :=
  parse_as (parseLine_spelled_word "beq" (mnemonic_mem .beq) [] allWs_nil (fun _ => false) _
    (lineSep_tReg [' '] .abi 0 _ allWs_space (by decide) (by decide)) _ [] allWs_nil
    (bodyS_BL [' '] [] [' '] [] [' '] [] allWs_space (by decide) allWs_nil allWs_space allWs_nil allWs_space allWs_nil
      .beq rfl 0 0 (by decide) (by decide) .abi .abi "end".toList isLabel_end .none trivial)) (by decide +kernel)

open ArchSim.Lemmas.C04Spell in
theorem parse_end : parseLine "end: ecall".toList = some { lbl := some "end", item := .str "ecall" } :=
  parse_as (parseLine_pre_render (.labelled [] "end".toList [] [' ']) ⟨allWs_nil, isLabel_end, allWs_nil, allWs_space⟩ {}
    { op := .ecall } ((spellable_small _ (by decide) (by decide) (by decide) (by decide) (by decide) (by decide)).legible _))
    (by decide +kernel)

/-! ### the example text -/

/-- The example source: a `.data` variable `x` (at 0x4000, value 7), a comment, indentation, the pseudo-instruction
    `li`, a branch to the label `end`, which is declared in-line. The program exits with code `x` = 7. -/
def asmText : String :=
  ".data\nx: .word 7   # the variable\n.text\n  lui t0, 4\n  lw a0, 0(t0)\n  li a7, 93\n" ++
  "  beq zero, zero, end\n  li a0, 0\nend: ecall\n"

def asmLines : List (Nat × List Char) :=
  [(1, ".data".toList), (2, "x: .word 7".toList), (3, ".text".toList), (4, "lui t0, 4".toList),
   (5, "lw a0, 0(t0)".toList), (6, "li a7, 93".toList), (7, "beq zero, zero, end".toList),
   (8, "li a0, 0".toList), (9, "end: ecall".toList)]

theorem sanitize_asmText : sanitize asmText = asmLines := by
  -- on the character list: `String.toList` of a literal is `toList_ofList`; evaluating it would make the
  -- kernel run the UTF-8 coder on every character
  -- through `ToyAsm.sanitize`, the same function, which has the form `sanitizeL` on character lists
  refine (Lemmas.C15.toy_sanitize_eq _).symm.trans ((ToyAsm.sanitize_eq _).trans ?_)
  unfold asmText asmLines
  rw [String.toList_append]
  repeat rw [String.toList_ofList]
  decide +kernel

/-- the program the example text assembles to -/
def asmProg : List Instr :=
  [{ op := .lui, rd := 5, imm := 4 }, { op := .lw, rd := 10, rs1 := 5, imm := 0 },
   { op := .addi, rd := 17, rs1 := 0, imm := 93 }, { op := .beq, rs1 := 0, rs2 := 0, imm := 8 },
   { op := .addi, rd := 10, rs1 := 0, imm := 0 }, { op := .ecall }]

/-- the `.data` preload of the example: one word write -/
def asmHist : List Spec.ByteStore.Op := [.write 32 16384 7]

/-- the loaded state, explicitly: power-on registers, the data image, the program -/
def asmSt : St :=
  { freshSt with mem := .flat (Spec.ByteStore.run Mem.riscvCfg asmHist), imem := { prog := asmProg, cache := none } }

theorem load_asmText_eq : load freshSt asmText = { st := asmSt, err := none } := by
  rw [ArchSim.Lemmas.C05.load_factors, sanitize_asmText]
  simp only [asmLines, tokenize, parse_data, parse_xword, parse_text, parse_lui, parse_lw, parse_li_a7, parse_li_a0,
    parse_beq, parse_end]
  rfl

theorem load_asmText_st : (load freshSt asmText).st = asmSt := by rw [load_asmText_eq]

theorem load_asmText : (load freshSt asmText).err = none ∧ (load freshSt asmText).st.imem.prog = asmProg := by
  rw [load_asmText_eq]; exact ⟨rfl, rfl⟩

theorem asmText_supported : AllSupported (load freshSt asmText).st.imem.prog := by
  rw [load_asmText.2]; decide

/-! ### the run of the example: accepted accesses (hypothesis of the C03Prog theorems) -/

open ArchSim.Lemmas.C03Prog in
attribute [local instance] Ex.stepAcceptedDec in
theorem acc5 : ∀ j, j < 5 → StepAccepted (singleRun j asmSt) := by decide

open ArchSim.Lemmas.C03Prog in
theorem runAccepted_asmSt : RunAccepted asmSt :=
  .of_done (k := 5) (by decide) acc5

/-! ### the example loaded with a data cache (one set, one way, one word; write-back LRU; penalty 10) -/

open ArchSim.Lemmas.C03Prog.Ex (geo1) in
/-- the state loaded with the cache, explicitly -/
def asmStC : St :=
  { asmSt with mem := .cached true (Spec.CacheAbs.preload
      (Cache.DSys.init (Cache.polOps true) false geo1 10 (Mem.Mem.empty Mem.riscvCfg)) asmHist) }

open ArchSim.Lemmas.C03Prog.Ex (geo1) in
theorem load_asmText_cached : (load (withCache freshSt true false geo1 10) asmText).st = asmStC := by
  obtain ⟨_, h, h1, h2⟩ := load_withCache freshSt _ rfl rfl true false geo1 10 asmText
  rw [load_asmText_st] at h1 h2
  have e : Spec.ByteStore.run Mem.riscvCfg asmHist = Spec.ByteStore.run Mem.riscvCfg h := MemSys.flat.inj h1
  rw [h2, asmStC, ArchSim.Lemmas.C03.preload_eq, ArchSim.Lemmas.C03.preload_eq]
  show ({ asmSt with mem := (MemSys.cached true
    { Cache.DSys.init (Cache.polOps true) false geo1 10 (Mem.Mem.empty Mem.riscvCfg) with
      mem := Spec.ByteStore.run Mem.riscvCfg h }) } : St) = _
  rw [← e]
  rfl

/-! ### the source-level side condition holds for the example -/

theorem lineSupported_of {l : List Char} {t : Tok} (hp : parseLine l = some t) (hs : ItemSup t.item) :
    LineSupported l := by
  intro t' ht'
  rw [hp] at ht'
  cases ht'
  exact hs

instance (it : Item) : Decidable (ItemSup it) :=
  inferInstanceAs (Decidable (∀ m, m ∈ itemMnemonic it → m ∉ unsupMn))

theorem asmText_source : SourceSupported asmText := by
  intro p hp
  rw [sanitize_asmText] at hp
  simp only [asmLines, List.mem_cons, List.not_mem_nil, or_false] at hp
  rcases hp with rfl | rfl | rfl | rfl | rfl | rfl | rfl | rfl | rfl
  · exact lineSupported_of parse_data (by decide)
  · exact lineSupported_of parse_xword (by decide)
  · exact lineSupported_of parse_text (by decide)
  · exact lineSupported_of parse_lui (by decide)
  · exact lineSupported_of parse_lw (by decide)
  · exact lineSupported_of parse_li_a7 (by decide)
  · exact lineSupported_of parse_beq (by decide)
  · exact lineSupported_of parse_li_a0 (by decide)
  · exact lineSupported_of parse_end (by decide)

/-! ### the example loaded with an instruction cache (`exCache1`: one set, one way, two-word blocks, LRU, penalty 7) -/

open ArchSim.Lemmas.C11Prog (exCache1) in
theorem load_asmText_icache : (load (withICache freshSt exCache1) asmText).st =
    { asmSt with imem := { prog := asmProg, cache := some exCache1.reset } } := by
  rw [(load_withICache freshSt exCache1 asmText).2, load_asmText_st]; rfl

end ArchSim.Lemmas.E2E.Ex
