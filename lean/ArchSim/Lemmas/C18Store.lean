/-
Flat memory, writes.  THE description of the multi-cell write is `writeN_eq`: `writeN m a n v` stores the
base-`2^cellBits` digits of `v` at the wrapped addresses of the leading run of in-range cells and reports the first
cell out of range.  That is the specification's `opCells`, hence a history of writes is one fold of single-cell stores
(`put`, `applyCells`) over its `trace`, and a cell holds the last value stored in it.
-/
import ArchSim.Model.Mem
import ArchSim.Spec.ByteStore

namespace ArchSim.Lemmas.C18
open ArchSim.Mem ArchSim.Spec.ByteStore

/-! ### single-cell store on a memory -/

/-- Store value `p.2` at cell address `p.1` (already wrapped and range-checked). -/
def put (m : Mem) (p : Int × Nat) : Mem :=
  { m with cells := fun x => if x = p.1 then p.2 else m.cells x,
           keys := if p.1 ∈ m.keys then m.keys else m.keys ++ [p.1] }

def applyCells (m : Mem) (l : List (Int × Nat)) : Mem := l.foldl put m

def pick (x : Int) (acc : Nat) (p : Int × Nat) : Nat := if p.1 = x then p.2 else acc

theorem lastVal_eq (l : List (Int × Nat)) (x : Int) : lastVal l x = l.foldl (pick x) 0 := rfl

@[simp] theorem put_cfg (m : Mem) (p) : (put m p).cfg = m.cfg := rfl

@[simp] theorem applyCells_nil (m : Mem) : applyCells m [] = m := rfl
@[simp] theorem applyCells_cons (m : Mem) (p l) : applyCells m (p :: l) = applyCells (put m p) l := rfl
theorem applyCells_append (m : Mem) (l₁ l₂) :
    applyCells m (l₁ ++ l₂) = applyCells (applyCells m l₁) l₂ := by
  simp [applyCells, List.foldl_append]

@[simp] theorem applyCells_cfg (m : Mem) (l) : (applyCells m l).cfg = m.cfg := by
  induction l generalizing m with
  | nil => rfl
  | cons p l ih => simp [ih]

theorem put_cells (m : Mem) (p) (x : Int) : (put m p).cells x = pick x (m.cells x) p := by
  simp only [put, pick, eq_comm]

theorem applyCells_cells (m : Mem) (l) (x : Int) :
    (applyCells m l).cells x = l.foldl (pick x) (m.cells x) := by
  induction l generalizing m with
  | nil => rfl
  | cons p l ih => simp [ih, put_cells]

theorem put_keys_mem (m : Mem) (p) (x : Int) : x ∈ (put m p).keys ↔ x ∈ m.keys ∨ x = p.1 := by
  simp only [put]
  split
  · next h => exact ⟨Or.inl, fun h' => h'.elim id (fun e => e ▸ h)⟩
  · simp

theorem applyCells_keys_mem (m : Mem) (l) (x : Int) :
    x ∈ (applyCells m l).keys ↔ x ∈ m.keys ∨ x ∈ l.map Prod.fst := by
  induction l generalizing m with
  | nil => simp
  | cons p l ih =>
    simp only [applyCells_cons, ih, put_keys_mem, List.map_cons, List.mem_cons, or_assoc]

theorem put_keys_nodup (m : Mem) (p) (h : m.keys.Nodup) : (put m p).keys.Nodup := by
  simp only [put]
  split
  · exact h
  · next hp =>
    exact List.nodup_append.mpr ⟨h, by simp, fun a ha b hb e =>
      hp (by simp at hb; rw [← hb, ← e]; exact ha)⟩

theorem applyCells_keys_nodup (m : Mem) (l) (h : m.keys.Nodup) : (applyCells m l).keys.Nodup := by
  induction l generalizing m with
  | nil => exact h
  | cons p l ih => exact ih _ (put_keys_nodup m p h)

/-! ### `writeCell` as a `put` -/

theorem writeCell_ok (m : Mem) (a : Int) (v : Nat) (h : inRange m.cfg (wrapAddr m.cfg a) = true) :
    writeCell m a v = .ok (put m (wrapAddr m.cfg a, v)) := by
  simp [writeCell, h, put]

theorem writeCell_err (m : Mem) (a : Int) (v : Nat) (h : inRange m.cfg (wrapAddr m.cfg a) = false) :
    writeCell m a v = .error ⟨wrapAddr m.cfg a⟩ := by
  simp [writeCell, h]

theorem writeCell_cfg (m m' : Mem) (a : Int) (v : Nat) (h : writeCell m a v = .ok m') : m'.cfg = m.cfg := by
  simp only [writeCell] at h
  split at h
  · cases h; rfl
  · cases h

/-! ### `writeNFrom` in closed form -/

theorem cellVal_zero (c : Cfg) (v : Nat) : cellVal c v 0 = v % 2 ^ c.cellBits := by
  simp [cellVal]

theorem cellVal_succ (c : Cfg) (v j : Nat) :
    cellVal c (v / 2 ^ c.cellBits) j = cellVal c v (j + 1) := by
  simp only [cellVal]
  rw [Nat.div_div_eq_div_mul, ← Nat.pow_add, Nat.succ_mul, Nat.add_comm]

theorem cellVal_lt (c : Cfg) (v i : Nat) : cellVal c v i < 2 ^ c.cellBits :=
  Nat.mod_lt _ (Nat.two_pow_pos _)

theorem takeWhile_range_succ (p : Nat → Bool) (n : Nat) :
    (List.range (n + 1)).takeWhile p =
      if p 0 then 0 :: ((List.range n).takeWhile (fun j => p (j + 1))).map Nat.succ else [] := by
  rw [List.range_succ_eq_map, List.takeWhile_cons, List.takeWhile_map]
  rfl

/-- `writeNFrom` with `i` cells already written: it stores the digits `j` of `v` at the cells `i + j` up to
    the first one out of range, and reports that one. -/
theorem writeNFrom_eq (m : Mem) (a : Int) (n i v : Nat) :
    writeNFrom m a n i v =
      (applyCells m (((List.range n).takeWhile (fun j => cellOk m.cfg a (i + j))).map
          (fun j => (wrapAddr m.cfg (a + ((i + j : Nat) : Int)), cellVal m.cfg v j))),
       if ((List.range n).takeWhile (fun j => cellOk m.cfg a (i + j))).length < n then
         some ⟨wrapAddr m.cfg (a + ((i + ((List.range n).takeWhile
           (fun j => cellOk m.cfg a (i + j))).length : Nat) : Int))⟩
       else none) := by
  induction n generalizing m i v with
  | zero => rfl
  | succ n ih =>
    rw [takeWhile_range_succ, writeNFrom]
    by_cases h : cellOk m.cfg a i = true
    · rw [writeCell_ok m (a + i) _ h]
      simp only [ih, Nat.add_zero, h, if_true, put_cfg, List.map_cons, List.map_map, List.length_cons,
        List.length_map, applyCells_cons, cellVal_zero, Nat.add_lt_add_iff_right]
      have e : ∀ j, i + 1 + j = i + (j + 1) := fun j => by omega
      simp only [e, Function.comp_def, cellVal_succ, Nat.succ_eq_add_one]
    · rw [writeCell_err m (a + i) _ (Bool.not_eq_true _ ▸ h)]
      simp [h]

/-! ### the leading run of in-range cells -/

theorem takeWhile_range_spec (p : Nat → Bool) (n : Nat) :
    ∃ j, (List.range n).takeWhile p = List.range j ∧ j ≤ n ∧ (∀ i, i < j → p i = true) ∧
      (j < n → p j = false) := by
  -- `j` is the index of the first element of `range n` at which `p` fails
  have hle : (List.range n).findIdx (fun a => !p a) ≤ n := by
    simpa using List.findIdx_le_length (xs := List.range n) (p := fun a => !p a)
  refine ⟨(List.range n).findIdx (fun a => !p a), ?_, hle, fun i hi => ?_, fun h => ?_⟩
  · rw [List.takeWhile_eq_take_findIdx_not, List.take_range, Nat.min_eq_left hle]
  · simpa using List.not_of_lt_findIdx hi
  · have := List.findIdx_getElem (xs := List.range n) (p := fun a => !p a) (w := by simpa using h)
    rw [List.getElem_range] at this
    simpa using this

theorem firstBad_spec (c : Cfg) (a : Int) (n : Nat) :
    firstBad c a n ≤ n ∧ (∀ i, i < firstBad c a n → cellOk c a i = true) ∧
      (firstBad c a n < n → cellOk c a (firstBad c a n) = false) := by
  obtain ⟨j, he, h⟩ := takeWhile_range_spec (cellOk c a) n
  rw [firstBad, okIdx, he, List.length_range]
  exact h

theorem okIdx_eq_range (c : Cfg) (a : Int) (n : Nat) : okIdx c a n = List.range (firstBad c a n) := by
  obtain ⟨j, he, _⟩ := takeWhile_range_spec (cellOk c a) n
  rw [firstBad, okIdx, he, List.length_range]

theorem firstBad_le (c : Cfg) (a : Int) (n : Nat) : firstBad c a n ≤ n := (firstBad_spec c a n).1

theorem mem_okIdx (c : Cfg) (a : Int) (n i : Nat) (h : i ∈ okIdx c a n) : cellOk c a i = true := by
  rw [okIdx_eq_range, List.mem_range] at h
  exact (firstBad_spec c a n).2.1 i h

theorem firstBad_eq (c : Cfg) (a : Int) (n j : Nat) (hj : j ≤ n)
    (hok : ∀ i, i < j → cellOk c a i = true) (hbad : j < n → cellOk c a j = false) :
    firstBad c a n = j := by
  obtain ⟨h1, h2, h3⟩ := firstBad_spec c a n
  rcases Nat.lt_trichotomy (firstBad c a n) j with h | h | h
  · have := hok _ h; rw [h3 (by omega)] at this; cases this
  · exact h
  · have := h2 j h; rw [hbad (by omega)] at this; cases this

theorem okIdx_of_firstBad (c : Cfg) (a : Int) (n j : Nat) (hj : j ≤ n)
    (hok : ∀ i, i < j → cellOk c a i = true) (hbad : j < n → cellOk c a j = false) :
    okIdx c a n = List.range j := by
  rw [okIdx_eq_range, firstBad_eq c a n j hj hok hbad]

theorem okIdx_all (c : Cfg) (a : Int) (n : Nat) (hok : ∀ i, i < n → cellOk c a i = true) :
    okIdx c a n = List.range n :=
  okIdx_of_firstBad c a n n (Nat.le_refl _) hok (fun h => absurd h (Nat.lt_irrefl _))

theorem writeN_eq (m : Mem) (a : Int) (n v : Nat) :
    writeN m a n v =
      (applyCells m ((okIdx m.cfg a n).map (fun (i : Nat) => (wrapAddr m.cfg (a + (i : Int)), cellVal m.cfg v i))),
       if firstBad m.cfg a n < n then some ⟨wrapAddr m.cfg (a + (firstBad m.cfg a n : Nat))⟩
       else none) := by
  rw [writeN, writeNFrom_eq]
  simp only [Nat.zero_add, firstBad, okIdx]
  rfl

@[simp] theorem writeN_cfg (m : Mem) (a : Int) (n v : Nat) : (writeN m a n v).1.cfg = m.cfg := by
  rw [writeN_eq]; simp

/-! ### histories -/

theorem applyOp_eq (m : Mem) (op : Op) : applyOp m op = applyCells m (opCells m.cfg op) := by
  cases op with
  | write bits a v =>
    simp only [applyOp, ArchSim.Mem.write, opCells]
    by_cases h : m.cfg.cellBits > bits
    · have : cellsOf m.cfg bits = 0 := by
        simp only [cellsOf]; exact Nat.div_eq_of_lt h
      simp [h, this, okIdx]
    · simp only [h, if_false]
      rw [writeN_eq]

@[simp] theorem applyOp_cfg (m : Mem) (op : Op) : (applyOp m op).cfg = m.cfg := by
  rw [applyOp_eq]; simp

theorem foldl_applyOp (m : Mem) (h : List Op) :
    h.foldl applyOp m = applyCells m (trace m.cfg h) := by
  induction h generalizing m with
  | nil => rfl
  | cons op h ih =>
    rw [List.foldl_cons, ih, applyOp_cfg, applyOp_eq]
    simp [trace, applyCells_append]

theorem run_eq (c : Cfg) (h : List Op) : run c h = applyCells (Mem.empty c) (trace c h) := by
  rw [run, foldl_applyOp]; rfl

theorem run_cfg (c : Cfg) (h : List Op) : (run c h).cfg = c := by
  rw [run_eq, applyCells_cfg]; rfl

theorem run_append (c : Cfg) (h : List Op) (op : Op) : run c (h ++ [op]) = applyOp (run c h) op := by
  simp [run, List.foldl_append]

theorem trace_append (c : Cfg) (h₁ h₂ : List Op) : trace c (h₁ ++ h₂) = trace c h₁ ++ trace c h₂ := by
  simp [trace]

/-! ### values of `lastVal` -/

theorem foldl_pick_bound (x : Int) (b : Nat) (l : List (Int × Nat)) (init : Nat) (hi : init < b)
    (hl : ∀ p ∈ l, p.2 < b) : l.foldl (pick x) init < b := by
  induction l generalizing init with
  | nil => exact hi
  | cons p l ih =>
    rw [List.foldl_cons]
    apply ih
    · simp only [pick]; split
      · exact hl p (by simp)
      · exact hi
    · intro q hq; exact hl q (by simp [hq])

theorem foldl_pick_not_mem (x : Int) (l : List (Int × Nat)) (init : Nat)
    (hx : x ∉ l.map Prod.fst) : l.foldl (pick x) init = init := by
  induction l generalizing init with
  | nil => rfl
  | cons p l ih =>
    simp only [List.map_cons, List.mem_cons, not_or] at hx
    rw [List.foldl_cons, ih _ hx.2]
    simp only [pick]
    rw [if_neg (fun e => hx.1 e.symm)]

theorem foldl_pick_range (n : Nat) (k : Nat → Int) (val : Nat → Nat) (init : Nat) (i : Nat)
    (hi : i < n) (hd : ∀ j, i < j → j < n → k j ≠ k i) :
    ((List.range n).map (fun j => (k j, val j))).foldl (pick (k i)) init = val i := by
  induction n with
  | zero => omega
  | succ n ih =>
    rw [List.range_succ, List.map_append, List.foldl_append]
    simp only [List.map_cons, List.map_nil, List.foldl_cons, List.foldl_nil, pick]
    by_cases h : i = n
    · subst h; simp
    · rw [if_neg (hd n (by omega) (by omega))]
      exact ih (by omega) (fun j h1 h2 => hd j h1 (by omega))

theorem mem_trace (c : Cfg) (h : List Op) (p : Int × Nat) :
    p ∈ trace c h ↔ ∃ bits a v, Op.write bits a v ∈ h ∧
      ∃ i : Nat, i < firstBad c a (cellsOf c bits) ∧ p = (wrapAddr c (a + (i : Int)), cellVal c v i) := by
  simp only [trace, List.mem_flatMap]
  constructor
  · rintro ⟨op, hop, hp⟩
    cases op with
    | write bits a v =>
      simp only [opCells, okIdx_eq_range, List.mem_map, List.mem_range] at hp
      obtain ⟨i, hi, rfl⟩ := hp
      exact ⟨bits, a, v, hop, i, hi, rfl⟩
  · rintro ⟨bits, a, v, hop, i, hi, rfl⟩
    exact ⟨_, hop, by simp only [opCells, okIdx_eq_range, List.mem_map, List.mem_range]; exact ⟨i, hi, rfl⟩⟩

theorem trace_val_lt (c : Cfg) (h : List Op) : ∀ p ∈ trace c h, p.2 < 2 ^ c.cellBits := by
  intro p hp
  obtain ⟨bits, a, v, -, i, -, rfl⟩ := (mem_trace c h p).mp hp
  exact cellVal_lt c v i

theorem trace_key_inRange (c : Cfg) (h : List Op) : ∀ p ∈ trace c h, inRange c p.1 = true := by
  intro p hp
  obtain ⟨bits, a, v, -, i, hi, rfl⟩ := (mem_trace c h p).mp hp
  exact (firstBad_spec c a _).2.1 i hi

end ArchSim.Lemmas.C18
