/-
C09 at program level, the memory system of the architectural state: the invariant `DOK` of a cached data memory
(C03's representation invariant and C09's accounting invariant together) and what a SUCCESSFUL access through it
implies — it was accepted, the value read is a 32-bit value, the invariant is kept, the access is counted.  The
print-string service of `ecall` reads through the cache without counting.
-/
import ArchSim.Lemmas.C03Hist
import ArchSim.Lemmas.C09Pol
import ArchSim.Lemmas.C02SplitMem
import ArchSim.Lemmas.RvEcall

namespace ArchSim.Lemmas.C09Prog
open ArchSim ArchSim.Cache ArchSim.Rv ArchSim.Repl
open ArchSim.Spec.TagCache (Accepted)
open ArchSim.Spec.CacheAbs (CInv widthOK inWord inData logical)

/-- Invariant of a cached data memory system `.cached l ds` of the architectural state: the
    representation invariant of C03 (`cinv`, for the values read) and the accounting invariant of C09
    (`inv`, for the counters and the re-read), each with the real policy's `Pol.WF`. -/
structure DOK (l : Bool) (ds : DSys Pol) : Prop where
  assoc : C09.AssocOK l ds.geo.assoc
  cinv  : CInv (Pol.WF ds.geo.assoc) ds
  inv   : C09.Inv (Pol.WF ds.geo.assoc) ds

def DInv (ms : MemSys) : Prop := ∃ l ds, ms = .cached l ds ∧ DOK l ds

def dAcc : MemSys → Nat
  | .flat _ => 0
  | .cached _ ds => ds.accesses

theorem DOK.polOK {l : Bool} {ds : DSys Pol} (h : DOK l ds) :
    Spec.CacheAbs.PolicyOK (polOps l) ds.geo.assoc (Pol.WF ds.geo.assoc) :=
  (C09.polOps_ok h.assoc).abs

theorem accepted_iff (bits : Nat) (a : Int) : Accepted bits a ↔ widthOK bits ∧ inWord bits a ∧ inData a :=
  Iff.rfl

theorem DOK.of_geo {l : Bool} {ds ds' : DSys Pol} (h : DOK l ds) (hg : ds'.geo = ds.geo)
    (hc : CInv (Pol.WF ds.geo.assoc) ds') (hi : C09.Inv (Pol.WF ds.geo.assoc) ds') : DOK l ds' := by
  refine ⟨by rw [hg]; exact h.assoc, ?_, ?_⟩
  · rw [hg]; exact hc
  · rw [hg]; exact hi

/-- A system with empty sets over a well-formed RISC-V lower memory satisfies both invariants, and its
    logical contents are the cells of that memory, whatever its counters: this is the state at
    power-on, after `.data` preloads, and after a reset. -/
theorem DOK.of_empty {l : Bool} {ds : DSys Pol} (hg : Spec.CacheAbs.GeoOK ds.geo)
    (ha : C09.AssocOK l ds.geo.assoc) (hs : ds.sets = initSets (polOps l) ds.geo)
    (hm : C03.MemOK ds.mem) :
    DOK l ds ∧ ∀ a, logical ds a = ds.mem.cells ((Cache.wrap32 a : Nat) : Int) := by
  obtain ⟨c, hL⟩ := C03.CInv_of_empty hg (C09.polOps_ok ha).abs hs hm
  exact ⟨⟨ha, c, .of_empty (.of_abs hg) (C09.polOps_ok ha) hs hm.cfg⟩, hL⟩

theorem DInv_read_ok {ms : MemSys} (h : DInv ms) {bits : Nat} (hb : widthOK bits) (a : Int)
    (counted : Bool) {v : Nat} (hv : (ms.read bits a counted).res = .ok v) :
    DInv (ms.read bits a counted).mem ∧ v < 4294967296 ∧ Accepted bits a ∧
      dAcc (ms.read bits a counted).mem = dAcc ms + (if counted then 1 else 0) := by
  obtain ⟨l, ds, rfl, h⟩ := h
  replace hv : (ds.read (polOps l) bits a counted).res = .ok v := hv
  by_cases hrej : inWord bits a ∧ inData a
  · obtain ⟨hw, hin⟩ := hrej
    have hacc : Accepted bits a := ⟨hb, hw, hin⟩
    obtain ⟨e1, e2, _, e4, _⟩ := C03.read_accepted h.polOK h.cinv bits a counted hb hw hin
    have hsim := (C09.read_spec (C09.polOps_ok h.assoc) h.inv hacc counted).1
    have hcnt := congrArg (·.accesses) hsim.erase_eq
    refine ⟨⟨l, _, rfl, h.of_geo e4 e2 hsim.inv⟩, ?_, hacc, by cases counted <;> exact hcnt⟩
    rw [e1] at hv
    cases hv
    have hlt := C18.leSum_lt Mem.riscvCfg (bits / 8)
      (fun i => logical ds (a + (i : Int))) (fun i _ => C03.logical_lt h.cinv.toCInvS _)
    have : 2 ^ (bits / 8 * Mem.riscvCfg.cellBits) ≤ 4294967296 := by
      rcases hb with rfl | rfl | rfl <;> decide
    omega
  ·
    obtain ⟨e, he, _⟩ := C03.stepOp_rejected h.polOK h.cinv (.read bits a counted) hb hrej
    have he' : (ds.read (polOps l) bits a counted).res = .error e := he
    rw [he'] at hv; cases hv

theorem DInv_write_ok {ms : MemSys} (h : DInv ms) {bits : Nat} (hb : widthOK bits) (a : Int)
    {v : Nat} (hv : v < 2 ^ bits) {x : Nat} (hr : (ms.write bits a v false).res = .ok x) :
    DInv (ms.write bits a v false).mem ∧ Accepted bits a ∧
      dAcc (ms.write bits a v false).mem = dAcc ms + 1 := by
  obtain ⟨l, ds, rfl, h⟩ := h
  replace hr : (ds.write (polOps l) bits a v false).res = .ok x := hr
  by_cases hrej : inWord bits a ∧ inData a
  · obtain ⟨hw, hin⟩ := hrej
    have hacc : Accepted bits a := ⟨hb, hw, hin⟩
    obtain ⟨_, e2, _, e4, _⟩ := C03.write_accepted h.polOK h.cinv bits a v hb hw hin hv
    have hsim := (C09.write_spec (C09.polOps_ok h.assoc) (C09.polOps_idem l _) h.inv hacc v).1
    exact ⟨⟨l, _, rfl, h.of_geo e4 e2 hsim.inv⟩, hacc, congrArg (·.accesses) hsim.erase_eq⟩
  ·
    obtain ⟨e, he, _⟩ := C03.stepOp_rejected h.polOK h.cinv (.write bits a v) ⟨hb, hv⟩ hrej
    have he' : (ds.write (polOps l) bits a v false).res = .error e := he
    rw [he'] at hr; cases hr

open ArchSim.Lemmas.C02Split in
theorem loadOK_cached {l : Bool} {ds : DSys Pol} (h : DOK l ds) {bits : Nat} (hb : widthOK bits)
    (A : Int) : LoadOK (.cached l ds) bits A := by
  intro v hv
  obtain ⟨_, hlt, hacc, _⟩ := DInv_read_ok ⟨l, ds, rfl, h⟩ hb A true hv
  refine ⟨hlt, ?_⟩
  rw [C09.memsys_reread h.assoc h.inv hacc true rfl, hv]

theorem widthOK_accessBits (op : Rv.Op) : widthOK (accessBits op) :=
  accessBits_cases op

theorem dAcc_read_uncounted (ms : MemSys) (bits : Nat) (a : Int) :
    dAcc (ms.read bits a false).mem = dAcc ms := by
  cases ms with
  | flat m => rw [read_flat_mem]
  | cached l ds => exact (C09.read_uncounted_frame (P := polOps l) ds bits a).2.1

theorem printStrLoop_dAcc : ∀ (fuel : Nat) (ms : MemSys) (a : Int) (acc : List Char),
    dAcc (printStrLoop fuel ms a acc).1 = dAcc ms
  | 0, _, _, _ => rfl
  | fuel + 1, ms, a, acc => by
    simp only [printStrLoop]
    split
    · exact dAcc_read_uncounted ms 8 a
    · split
      · exact dAcc_read_uncounted ms 8 a
      · rw [printStrLoop_dAcc fuel, dAcc_read_uncounted]

theorem printStrLoop_dinv : ∀ (fuel : Nat) (ms : MemSys) (a : Int) (acc : List Char), DInv ms →
    ∀ cs, (printStrLoop fuel ms a acc).2 = .ok cs → DInv (printStrLoop fuel ms a acc).1
  | 0, _, _, _, _, cs, h => by cases h
  | fuel + 1, ms, a, acc, hI, cs, h => by
    simp only [printStrLoop] at h ⊢
    split at h
    · cases h
    · rename_i b hb
      have h8 : widthOK 8 := Or.inl rfl
      have hI' := (DInv_read_ok hI h8 a false hb).1
      split at h
      · rename_i hb0; rw [if_pos hb0]; exact hI'
      · rename_i hb0; rw [if_neg hb0]; exact printStrLoop_dinv fuel _ _ _ hI' cs h

theorem processEcall_dAcc (s : St) : dAcc (processEcall s).1 = dAcc s.mem := by
  by_cases h4 : s.regs 17 = 4
  · rw [processEcall_of_eq4 s h4]; exact printStrLoop_dAcc _ _ _ _
  · rw [processEcall_of_ne4 s h4]

theorem processEcall_dinv (s : St) (h : DInv s.mem) :
    (∃ e, (processEcall s).2 = .err e) ∨ DInv (processEcall s).1 := by
  by_cases h4 : s.regs 17 = 4
  · rw [processEcall_of_eq4 s h4]
    cases hr : (printStrLoop printStrFuel s.mem (s.regs 10) []).2 with
    | error e => exact Or.inl ⟨e, rfl⟩
    | ok cs => exact Or.inr (printStrLoop_dinv _ _ _ _ h cs hr)
  · rw [processEcall_of_ne4 s h4]; exact Or.inr h

end ArchSim.Lemmas.C09Prog
