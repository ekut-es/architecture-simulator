/-
The pseudo-instruction groups (`li`, `la`, load/store by variable name, `nop`, `mv`) from source to effect: what
`expandOne` produces, what the instruction pass makes of it, and what `behavior` does when the group is executed one
instruction after the other (`runSeq`); `lui` + `addi` rebuild every constant modulo 2^32.
-/
import ArchSim.Model.Asm
import ArchSim.Lemmas.RvBits
import ArchSim.Lemmas.RvBehavior

namespace ArchSim.Lemmas.C05
open ArchSim ArchSim.Asm ArchSim.Rv

/-! ### executing a straight-line group -/

/-- Execute a list of instruction objects with `behavior`, one after the other, stopping at the first
    fault (the pc is not advanced: that is the stage's job, `behavior` of these instructions never
    touches it). -/
def runSeq : List Instr → St → BehOut
  | [], s => { st := s, fault := none }
  | i :: is, s =>
    match (behavior i s).fault with
    | some f => { st := (behavior i s).st, fault := some f }
    | none => runSeq is (behavior i s).st

theorem runSeq_nil (s : St) : runSeq [] s = { st := s, fault := none } := rfl

theorem runSeq_cons_ok (i : Instr) (is : List Instr) (s : St) (h : (behavior i s).fault = none) :
    runSeq (i :: is) s = runSeq is (behavior i s).st := by
  simp only [runSeq, h]

theorem runSeq_append_ok (l₁ l₂ : List Instr) (s s' : St) (h : runSeq l₁ s = { st := s', fault := none }) :
    runSeq (l₁ ++ l₂) s = runSeq l₂ s' := by
  induction l₁ generalizing s with
  | nil => simp only [runSeq, BehOut.mk.injEq, and_true] at h; subst h; rfl
  | cons i is ih =>
    cases hf : (behavior i s).fault with
    | none =>
      rw [List.cons_append, runSeq_cons_ok _ _ _ hf]
      rw [runSeq_cons_ok _ _ _ hf] at h
      exact ih _ h
    | some f => simp [runSeq, hf] at h

/-! ### `lui` + `addi` rebuild a constant modulo 2^32 -/

/-- `lui` keeps the low 20 bits of its immediate: the sign extension vanishes modulo 2^32 after the shift -/
theorem sext20_shift (x : Int) : (sextImm 20 x * 4096) % 4294967296 = (x * 4096) % 4294967296 := by
  unfold sextImm; omega

/-- the split of `hiLo` undone, exactly (no modulus): the carry into the high part pays for the
    sign extension of the low part -/
theorem hiLo_sum (u : Int) :
    (if u % 4096 > 2047 then u / 4096 + 1 else u / 4096) * 4096 + sextImm 12 (u % 4096) = u := by
  unfold sextImm
  split <;> omega

/-- The high part may be 2^20: it wraps to 0 in the 20 bits of `lui`. -/
theorem hiLo_emod (c : Int) :
    (sextImm 20 (hiLo c).1 * 4096 + sextImm 12 (hiLo c).2) % 4294967296 = c % 4294967296 := by
  rw [Int.add_emod, sext20_shift, ← Int.add_emod, hiLo]
  exact (congrArg (· % 4294967296) (hiLo_sum _)).trans (Int.emod_emod _ _)

theorem hiLo_core (c : Int) :
    (wrapU (sextImm 20 (hiLo c).1 * 4096) + wrapU (sextImm 12 (hiLo c).2)) % 4294967296 = wrapU c := by
  rw [wrapU_add]
  exact wrapU_congr (hiLo_emod c)

theorem wrapU_lt (x : Int) : wrapU x < 4294967296 := Rv.wrapU_lt x

theorem St_setReg_setReg (s : St) (rd v w : Nat) : (s.setReg rd v).setReg rd w = s.setReg rd w := by
  simp only [St.setReg, setReg_setReg]

theorem St_setReg_invalid (s : St) (rd v : Nat) (h : ¬ (0 < rd ∧ rd < 32)) : s.setReg rd v = s := by
  simp only [St.setReg, setReg_invalid _ _ _ h]

theorem ofMn_of_mnemonic (op : Op) : Op.ofMnemonic op.mnemonic = some op := ofMnemonic_mnemonic op
theorem ofMn_lui : Op.ofMnemonic "lui" = some .lui := ofMnemonic_mnemonic .lui
theorem ofMn_addi : Op.ofMnemonic "addi" = some .addi := ofMnemonic_mnemonic .addi

/-! ### instruction objects of the generated base instructions -/

section
variable (ls : Labels) (addr : Int) (k : Nat) (line : String)

theorem instantiate_lui (rd : Nat) (imm : Int) :
    instantiate ls addr k line (.utype "lui" rd imm) = .ok (mkInstr .lui rd 0 0 imm) := by
  simp only [instantiate, ofMn_lui]

theorem instantiate_addi (a b : Nat) (imm : Int) :
    instantiate ls addr k line (.rri "addi" a b imm) = .ok (mkInstr .addi a b 0 imm) := by
  simp only [instantiate, ofMn_addi, Op.ty]

theorem instantiate_load (mn : String) (op : Op)
    (hop : Op.ofMnemonic mn = some op) (hty : op.ty = .memI) (a b : Nat) (imm : Int) :
    instantiate ls addr k line (.mem mn a imm b) = .ok (mkInstr op a b 0 imm) := by
  simp only [instantiate, hop, hty]

/-- `op rs2, imm(rs1)` for a store mnemonic: the first register of the syntax is the data register -/
theorem instantiate_store (mn : String) (op : Op)
    (hop : Op.ofMnemonic mn = some op) (hty : op.ty = .s) (a b : Nat) (imm : Int) :
    instantiate ls addr k line (.mem mn a imm b) = .ok (mkInstr op 0 b a imm) := by
  simp only [instantiate, hop, hty]

end

/-! ### behaviour of `lui`, `addi`, loads and stores: the equations `Rv.behavior_u/_i/_memI/_s` at the objects `mkInstr` builds -/

theorem behavior_lui (rd : Nat) (x : Int) (s : St) :
    behavior (mkInstr .lui rd 0 0 x) s = { st := s.setReg rd (wrapU (sextImm 20 x * 4096)), fault := none } := rfl

theorem behavior_addi (rd rs : Nat) (x : Int) (s : St) :
    behavior (mkInstr .addi rd rs 0 x) s =
      { st := s.setReg rd ((s.regs rs + wrapU (sextImm 12 x)) % 4294967296), fault := none } := rfl

/-- loads and stores keep the 12-bit sign extension of the written offset (`ecall`/`ebreak`, whose
    stored immediate is fixed, are not of these types) -/
theorem storedImm_memI (op : Op) (hty : op.ty = .memI) (raw : Int) : storedImm op raw = sextImm 12 raw := by
  have h1 : op ≠ .ecall := by rintro rfl; exact absurd hty (by decide)
  have h2 : op ≠ .ebreak := by rintro rfl; exact absurd hty (by decide)
  simp only [storedImm, hty, if_neg h1, if_neg h2]

theorem storedImm_s (op : Op) (hty : op.ty = .s) (raw : Int) : storedImm op raw = sextImm 12 raw := by
  simp only [storedImm, hty]

theorem behavior_load (op : Op) (hty : op.ty = .memI) (rd rs : Nat) (imm : Int) (s : St) :
    behavior (mkInstr op rd rs 0 imm) s =
      (let o := s.mem.read (accessBits op) ((s.regs rs : Int) + sextImm 12 imm) true
       let s1 : St := { s with mem := o.mem, cycles := s.cycles + o.extra }
       match o.res with
       | .error e => { st := s1, fault := some (.mem e) }
       | .ok v => { st := s1.setReg rd (loadExt op v), fault := none }) := by
  rw [behavior_memI _ s hty]
  simp only [mkInstr, storedImm_memI op hty]
  rfl

theorem behavior_store (op : Op) (hty : op.ty = .s) (rs1 rs2 : Nat) (imm : Int) (s : St) :
    behavior (mkInstr op 0 rs1 rs2 imm) s =
      (let addr : Int := ((s.regs rs1 + wrapU (sextImm 12 imm)) % 4294967296 : Nat)
       let o := s.mem.write (accessBits op) addr (s.regs rs2 % 2 ^ accessBits op) false
       let s1 : St := { s with mem := o.mem, cycles := s.cycles + o.extra }
       match o.res with
       | .error e => { st := s1, fault := some (.mem e) }
       | .ok _ => { st := s1, fault := none }) := by
  rw [behavior_s _ s hty]
  simp only [mkInstr, storedImm_s op hty]
  rfl

/-- the two-instruction group `lui rd, hi; addi rd, rd, lo` -/
def luiAddi (rd : Nat) (a : Int) : List Instr :=
  [mkInstr .lui rd 0 0 (hiLo a).1, mkInstr .addi rd rd 0 (hiLo a).2]

/-- the instruction objects of `li rd, c` -/
def liInstrs (rd : Nat) (c : Int) : List Instr :=
  if c > 2047 ∨ c < -2048 then luiAddi rd c else [mkInstr .addi rd 0 0 c]

/-- For every `rd`: writes to `x0` and to register numbers ≥ 32 are dropped by the register file. -/
theorem runSeq_luiAddi (rd : Nat) (a : Int) (s : St) :
    runSeq (luiAddi rd a) s = { st := s.setReg rd (wrapU a), fault := none } := by
  simp only [luiAddi, runSeq, behavior_lui, behavior_addi, St_setReg_setReg]
  by_cases h : 0 < rd ∧ rd < 32
  · simp only [St.setReg, setReg_same _ _ _ h, hiLo_core]
  · simp only [St_setReg_invalid _ _ _ h]

/-! ### what `expandOne` produces -/

/-- text entries of `lui rd, hi; addi rd, rd, lo` for the constant `a` -/
def luiAddiEntries (k : Nat) (line : String) (rd : Nat) (a : Int) : List TEntry :=
  [(k, line, .grp (.utype "lui" rd (hiLo a).1)), (k, line, .grp (.rri "addi" rd rd (hiLo a).2))]

/-- text entries `li rd, c` expands to -/
def liEntries (k : Nat) (line : String) (rd : Nat) (c : Int) : List TEntry :=
  if c > 2047 ∨ c < -2048 then luiAddiEntries k line rd c else [(k, line, .grp (.rri "addi" rd 0 c))]

section
variable (vars : Vars) (k : Nat) (line : String)

theorem expandOne_li (rd : Nat) (c : Int) :
    expandOne vars (k, line, .grp (.li rd c)) = .ok (liEntries k line rd c) := by
  simp only [expandOne, liEntries, luiAddiEntries]
  split <;> rfl

theorem expandOne_memPseudo (mn : String) (rd : Nat) (v : String)
    (idx : Option Int) (a sz : Int) (h : lookupVar vars v = some (a, sz)) :
    expandOne vars (k, line, .grp (.memPseudo mn rd v idx)) =
      .ok (luiAddiEntries k line rd (a + sz * idx.getD 0) ++
        if mn = "la" then [] else [(k, line, .grp (.mem mn rd 0 rd))]) := by
  simp only [expandOne, h, luiAddiEntries]
  split <;> simp

theorem expandOne_memPseudo_unknown (mn : String) (rd : Nat) (v : String)
    (idx : Option Int) (h : lookupVar vars v = none) :
    expandOne vars (k, line, .grp (.memPseudo mn rd v idx)) = .error (.parser "ParserVariableException" k line) := by
  simp only [expandOne, h]

theorem expandOne_sPseudo (mn : String) (rs : Nat) (v : String)
    (idx : Option Int) (rt : Nat) (a sz : Int) (h : lookupVar vars v = some (a, sz)) :
    expandOne vars (k, line, .grp (.sPseudo mn rs v idx rt)) =
      .ok (luiAddiEntries k line rt (a + sz * idx.getD 0) ++ [(k, line, .grp (.mem mn rs 0 rt))]) := by
  simp only [expandOne, h, luiAddiEntries]
  simp

theorem expandOne_sPseudo_unknown (mn : String) (rs : Nat) (v : String)
    (idx : Option Int) (rt : Nat) (h : lookupVar vars v = none) :
    expandOne vars (k, line, .grp (.sPseudo mn rs v idx rt)) = .error (.parser "ParserVariableException" k line) := by
  simp only [expandOne, h]

theorem expandOne_nop :
    expandOne vars (k, line, .str "nop") = .ok [(k, line, .grp (.rri "addi" 0 0 0))] := by
  simp only [expandOne]

theorem expandOne_mv (rd rs : Nat) :
    expandOne vars (k, line, .grp (.mv rd rs)) = .ok [(k, line, .grp (.rri "addi" rd rs 0))] := by
  simp only [expandOne]

end

/-! ### instruction objects of the groups, for any label table and any address -/

section
variable (ls : Labels) (addr : Int) (k : Nat) (line : String)

theorem build_luiAddi (rd : Nat) (a : Int) :
    buildInstrs ls (luiAddiEntries k line rd a) addr = .ok (luiAddi rd a) := by
  simp only [luiAddiEntries, buildInstrs, instantiate_lui, instantiate_addi, Except.map, luiAddi]

theorem build_li (rd : Nat) (c : Int) :
    buildInstrs ls (liEntries k line rd c) addr = .ok (liInstrs rd c) := by
  simp only [liEntries, liInstrs]
  split
  · exact build_luiAddi ..
  · simp only [buildInstrs, instantiate_addi, Except.map]

end

/-! ### executing the groups -/

/-- `h0`: the short form reads `x0`, which holds 0 in every reachable state. -/
theorem runSeq_li (rd : Nat) (c : Int) (s : St) (h0 : s.regs 0 = 0) :
    runSeq (liInstrs rd c) s = { st := s.setReg rd (wrapU c), fault := none } := by
  simp only [liInstrs]
  split
  · exact runSeq_luiAddi rd c s
  · next h =>
    simp only [runSeq, behavior_addi, h0, Nat.zero_add, sextImm_id 12 c (by omega), Nat.mod_eq_of_lt (wrapU_lt c)]

theorem runSeq_single (i : Instr) (s : St) : runSeq [i] s = behavior i s := by
  cases h : behavior i s with
  | mk st fault => cases fault <;> simp [runSeq, h]

theorem sext12_zero : sextImm 12 0 = 0 := by decide

theorem runSeq_luiAddi_then (rd : Nat) (a : Int) (i : Instr) (s : St) :
    runSeq (luiAddi rd a ++ [i]) s = behavior i (s.setReg rd (wrapU a)) := by
  rw [runSeq_append_ok _ _ _ _ (runSeq_luiAddi rd a s), runSeq_single]

theorem wrapU_add_zero (a : Int) : (wrapU a + wrapU 0) % 4294967296 = wrapU a := by
  rw [wrapU_add, Int.add_zero]

theorem behavior_nop (s : St) : behavior (mkInstr .addi 0 0 0 0) s = { st := s, fault := none } := by
  rw [behavior_addi, St_setReg_invalid _ _ _ (by omega)]

/-- In the Python register values are `UInt32`; the model's registers are `Nat`, so the reduction modulo 2^32 stays
    and is the identity on reachable states (`StOK.regs_lt`). -/
theorem behavior_mv (rd rs : Nat) (s : St) :
    behavior (mkInstr .addi rd rs 0 0) s = { st := s.setReg rd (s.regs rs % 4294967296), fault := none } := by
  rw [behavior_addi, sext12_zero]; rfl

/-! ### the result of a concrete run

`Except` has no decidable equality; for a concrete run the success value is compared instead, which the
kernel evaluates alone (`rfl` has the elaborator evaluate the run first). -/

theorem eq_ok_of {ε α} {x : Except ε α} {v : α} (h : x.toOption = some v) : x = .ok v := by
  cases x with
  | error e => cases h
  | ok a => cases h; rfl

theorem eq_some_ok_of {ε α} {x : Option (Except ε α)} {v : α} (h : x.map Except.toOption = some (some v)) :
    x = some (.ok v) := by
  cases x with
  | none => cases h
  | some r => exact congrArg some (eq_ok_of (Option.some.inj h))

end ArchSim.Lemmas.C05

