/-
Every accepted operation of the data-cache model commutes with the erasure to the tag-only reference
cache (`Sim`) and leaves its block `Touched`: one walk through the hit and miss cases per operation, on
the equations of `Lemmas/CacheForms.lean` and of C09Set; hence whole histories commute.  In between:
counter arithmetic of the reference alone.
-/
import ArchSim.Lemmas.C09Sys

namespace ArchSim.Lemmas.C09
open ArchSim ArchSim.Cache ArchSim.Spec.TagCache
open ArchSim.Lemmas.C03 (bump)

/-- One step of the model is simulated by one step of the reference: the erased state, the added
    cycles agree, the invariant is kept, and the operation did not raise. -/
structure Sim {σ : Type} (ok : σ → Prop) (o : Out σ) (r : ROut σ) : Prop where
  erase_eq : erase o.sys = r.cache
  extra_eq : o.extra = r.extra
  inv      : Inv ok o.sys
  succeeds : ∃ v, o.res = .ok v

section
variable {σ : Type} {P : PolicyOps σ} {ok : σ → Prop} {s : DSys σ}

theorem refRead_erase (a : Int) (counted : Bool) {S' : List (CSet σ Nat)} {hit : Bool}
    (h : lookupSets P (s.sets.map eraseSet) (decode s.geo.idxBits s.geo.blkBits a) true
          = (S'.map eraseSet, hit)) (m' : Mem.Mem) :
    refRead P (erase s) a counted =
      { cache := erase (if counted then bump { s with sets := S', mem := m' } hit
                        else { s with sets := S', mem := m' }),
        miss := counted && !hit,
        extra := if counted && !hit then s.penalty else 0 } := by
  have h' : lookupSets P (erase s).sets (decode (erase s).geo.idxBits (erase s).geo.blkBits a) true
      = (S'.map eraseSet, hit) := h
  simp only [refRead, h']
  cases counted <;> rfl

theorem refWrite_erase (a : Int) {S' : List (CSet σ Nat)} {hit : Bool}
    (h : lookupSets P (s.sets.map eraseSet) (decode s.geo.idxBits s.geo.blkBits a) (!s.wt)
          = (S'.map eraseSet, hit)) (m' : Mem.Mem) :
    refWrite P (erase s) a =
      { cache := erase (bump { s with sets := S', mem := m' } hit),
        miss := !hit,
        extra := if hit then 0 else s.penalty } := by
  have h' : lookupSets P (erase s).sets (decode (erase s).geo.idxBits (erase s).geo.blkBits a)
      (!(erase s).wt) = (S'.map eraseSet, hit) := h
  simp only [refWrite, h']
  rfl

theorem fetch_block (hinv : Inv ok s) {bits : Nat} {a : Int} (hacc : Accepted bits a) :
    ∃ ws, readBlockFromMem s.mem (decode s.geo.idxBits s.geo.blkBits a).blockBase s.geo.words 0 = .ok ws
      ∧ ws.length = s.geo.words ∧
      16384 ≤ (decode s.geo.idxBits s.geo.blkBits a).blockBase ∧
      (decode s.geo.idxBits s.geo.blkBits a).blockBase + 4 * s.geo.words ≤ 4294967296 := by
  obtain ⟨h1, h2⟩ := C03.decode_range s.geo.idxBits s.geo.blkBits a hinv.geo.blk hacc.2.2
  rw [C03.pow_blk] at h2
  obtain ⟨ws, hws, hl, _⟩ := C03.readBlockFromMem_ok hinv.cfg _ s.geo.words 0 h1
    (by simpa [Geo.words] using h2)
  exact ⟨ws, hws, hl, h1, h2⟩

theorem WayOK_newWay {g : Geo} {d : DAddr} {vals : List Nat} (h1 : 16384 ≤ d.blockBase)
    (h2 : d.blockBase + 4 * g.words ≤ 4294967296) (hl : vals.length ≤ g.words) :
    WayOK g (newWay d vals) :=
  ⟨hl, fun _ => ⟨h1, by show d.blockBase + 4 * vals.length ≤ 4294967296; omega⟩⟩

theorem hit_way {g : Geo} (hP : PolicyOK P g.assoc ok) {cs : CSet σ Nat} (hcs : SetOK ok g cs)
    {t i : Nat} (hf : findWay cs.ways t = some i) :
    i < cs.ways.length ∧ (∃ p, P.access cs.pol i = some p ∧ ok p) ∧
      ((cs.ways[i]?.map (·.vals)).getD []).length ≤ g.words := by
  have hil := findWay_lt hf
  refine ⟨hil, hP.access cs.pol i hcs.pol (hcs.nways ▸ hil), ?_⟩
  rw [List.getElem?_eq_getElem hil]
  exact (hcs.ways _ (List.getElem_mem hil)).1

theorem victim_way {g : Geo} (hP : PolicyOK P g.assoc ok) {cs : CSet σ Nat}
    (hcs : SetOK ok g cs) :
    ∃ v old p, P.victim cs.pol = some v ∧ cs.ways[v]? = some old ∧ P.access cs.pol v = some p ∧
      ok p ∧ WayOK g old := by
  obtain ⟨v, hv, hvlt⟩ := hP.victim cs.pol hcs.pol
  obtain ⟨p, hp, hokp⟩ := hP.access cs.pol v hcs.pol hvlt
  have hvl : v < cs.ways.length := hcs.nways ▸ hvlt
  exact ⟨v, cs.ways[v], p, hv, List.getElem?_eq_getElem hvl, hp, hokp,
    hcs.ways _ (List.getElem_mem hvl)⟩

/-- The block of `d` is resident in way `i` of its set with payload `vals`, and telling the policy
    about way `i` again changes nothing (under `PolicyIdem` every accepted access leaves its block so):
    an uncounted re-read of such a block is the identity (`read_of_touched`). -/
def Touched (P : PolicyOps σ) (s : DSys σ) (d : DAddr) (vals : List Nat) : Prop :=
  ∃ cs i, s.sets[d.setIdx]? = some cs ∧ findWay cs.ways d.tag = some i ∧
    P.access cs.pol i = some cs.pol ∧ (cs.ways[i]?.map (·.vals)).getD [] = vals

section Accepted
variable (hP : PolicyOK P s.geo.assoc ok) (hI : PolicyIdem P ok) (hinv : Inv ok s) {bits : Nat}
  {a : Int} (hacc : Accepted bits a)
include hP hinv hacc

theorem read_spec (counted : Bool) :
    Sim ok (s.read P bits a counted) (refRead P (erase s) a counted) ∧
    (PolicyIdem P ok → ∃ vals,
      Touched P (s.read P bits a counted).sys (decode s.geo.idxBits s.geo.blkBits a) vals ∧
      (s.read P bits a counted).res = fromBlock bits (decode s.geo.idxBits s.geo.blkBits a) vals) := by
  obtain ⟨cs, hs, hcs⟩ := hinv.getSet a
  cases hf : findWay cs.ways (decode s.geo.idxBits s.geo.blkBits a).tag with
  | some i =>
    obtain ⟨_, ⟨p, hp, hokp⟩, _⟩ := hit_way hP hcs hf
    rw [C03.read_eq bits a counted (C03.readBlockSys_hit (readBlock_hit hs hf hp)),
      refRead_erase (s := s) a counted (lookupSets_hit true hs hf hp) s.mem]
    have hU := hinv.update (decode s.geo.idxBits s.geo.blkBits a).setIdx (hcs.withPol hokp)
      hinv.cfg
    refine ⟨⟨rfl, rfl, ?_, fromBlock_ok hacc _ _ _⟩, fun hid =>
      ⟨_, ⟨{ cs with pol := p }, i, ?_, hf, hid cs.pol p i hcs.pol hp, rfl⟩, rfl⟩⟩
    · cases counted
      · exact hU s.hits s.accesses s.lastHit
      · exact hU _ _ _
    · cases counted <;> exact getElem?_set_of_some hs
  | none =>
    obtain ⟨ws, hws, hlen, hb1, hb2⟩ := fetch_block hinv hacc
    obtain ⟨v, old, p, hv, ho, hp, hokp, hold⟩ := victim_way hP hcs
    obtain ⟨m', hc', hback⟩ := writeDisplaced_ok hinv.cfg hold
    have hvl : v < cs.ways.length := lt_of_getElem? ho
    rw [C03.read_eq bits a counted (C03.readBlockSys_miss (readBlock_miss hs hf) hws
        (writeBlock_miss ws hs hf hv ho hp) hback),
      refRead_erase (s := s) a counted (lookupSets_miss_alloc ws hs hf hv hp)
        (if s.wt = true then s.mem else m')]
    have hU := hinv.update (decode s.geo.idxBits s.geo.blkBits a).setIdx
      (hcs.withWay hokp v (WayOK_newWay hb1 hb2 (Nat.le_of_eq hlen)))
      (show (if s.wt = true then s.mem else m').cfg = _ by split; (exact hinv.cfg); (exact hc'))
    refine ⟨⟨rfl, rfl, ?_, fromBlock_ok hacc _ _ _⟩, fun hid =>
      ⟨ws, ⟨{ ways := cs.ways.set v (newWay _ ws), pol := p }, v, ?_,
        findWay_set ws hvl (fun j _ => findWay_none hf j), hid cs.pol p v hcs.pol hp, ?_⟩, rfl⟩⟩
    · cases counted
      · exact hU s.hits s.accesses s.lastHit
      · exact hU _ _ _
    · cases counted <;> exact getElem?_set_of_some hs
    · simp [List.getElem?_set_self hvl, newWay]

include hI

theorem writeWB_spec (hwt : s.wt = false) (v : Nat) :
    Sim ok (s.writeWB P bits a v) (refWrite P (erase s) a) ∧ (s.writeWB P bits a v).res = .ok 0 ∧
    ∃ vals, Touched P (s.writeWB P bits a v).sys (decode s.geo.idxBits s.geo.blkBits a) vals := by
  obtain ⟨cs, hs, hcs⟩ := hinv.getSet a
  obtain ⟨_, _, _, hb1, hb2⟩ := fetch_block hinv hacc
  cases hf : findWay cs.ways (decode s.geo.idxBits s.geo.blkBits a).tag with
  | some i =>
    obtain ⟨hil, ⟨p, hp, hokp⟩, hwl⟩ := hit_way hP hcs hf
    have hp2 := hI cs.pol p i hcs.pol hp
    obtain ⟨b', hb', hbl⟩ := intoBlock_ok hacc s.geo.idxBits s.geo.blkBits
      ((cs.ways[i]?.map (·.vals)).getD []) v
    rw [C03.writeWB_hit s bits a v _ _ (readBlock_hit hs hf hp),
      C03.wbFinish_eq (m' := s.mem) hb' (writeBlock_rehit b' hs hf hp2) rfl,
      refWrite_erase (s := s) a (lookupSets_hit_rewrite (!s.wt) b' hs hf hp) s.mem]
    refine ⟨⟨rfl, rfl, ?_, ⟨0, rfl⟩⟩, rfl, _, _, i, getElem?_set_of_some hs,
      findWay_set b' hil (findWay_before hf), hp2, rfl⟩
    exact hinv.update (decode s.geo.idxBits s.geo.blkBits a).setIdx
      (hcs.withWay hokp i (WayOK_newWay hb1 hb2 (hbl ▸ hwl))) hinv.cfg _ _ _
  | none =>
    obtain ⟨ws, hws, hlen, _, _⟩ := fetch_block hinv hacc
    obtain ⟨v', old, p, hv, ho, hp, hokp, hold⟩ := victim_way hP hcs
    obtain ⟨m', hc', hback⟩ := writeDisplaced_ok hinv.cfg hold
    have hvl : v' < cs.ways.length := lt_of_getElem? ho
    obtain ⟨b', hb', hbl⟩ := intoBlock_ok hacc s.geo.idxBits s.geo.blkBits ws v
    have hlk := lookupSets_miss_alloc (P := P) b' hs hf hv hp
    rw [show true = !s.wt by rw [hwt]; rfl] at hlk
    rw [C03.writeWB_miss s bits a v _ ws (readBlock_miss hs hf) hws,
      C03.wbFinish_eq hb' (writeBlock_miss b' hs hf hv ho hp) hback,
      refWrite_erase (s := s) a hlk m']
    refine ⟨⟨rfl, rfl, ?_, ⟨0, rfl⟩⟩, rfl, _, _, v', getElem?_set_of_some hs,
      findWay_set b' hvl (fun j _ => findWay_none hf j), hI cs.pol p v' hcs.pol hp, rfl⟩
    exact hinv.update (decode s.geo.idxBits s.geo.blkBits a).setIdx
      (hcs.withWay hokp v' (WayOK_newWay hb1 hb2 (by rw [hbl, hlen]; exact Nat.le_refl _))) hc' _ _ _

theorem writeWT_spec (hwt : s.wt = true) (v : Nat) :
    Sim ok (s.writeWT P bits a v) (refWrite P (erase s) a) ∧ (s.writeWT P bits a v).res = .ok 0 ∧
    ((s.writeWT P bits a v).sys.lastHit = true →
      ∃ vals, Touched P (s.writeWT P bits a v).sys (decode s.geo.idxBits s.geo.blkBits a) vals) := by
  obtain ⟨cs, hs, hcs⟩ := hinv.getSet a
  obtain ⟨m', hm', hc'⟩ := memWrite_accepted hacc s.mem hinv.cfg v
  cases hf : findWay cs.ways (decode s.geo.idxBits s.geo.blkBits a).tag with
  | some i =>
    obtain ⟨hil, ⟨p, hp, hokp⟩, hwl⟩ := hit_way hP hcs hf
    have hp2 := hI cs.pol p i hcs.pol hp
    obtain ⟨b', hb', hbl⟩ := intoBlock_ok hacc s.geo.idxBits s.geo.blkBits
      ((cs.ways[i]?.map (·.vals)).getD []) v
    have hb'' : intoBlock bits (C03.dec s a) ((cs.ways[i]?.map (·.vals)).getD []) v = .ok b' := hb'
    rw [C03.writeWT_hit s bits a v _ _ (readBlock_hit hs hf hp), hb'']
    simp only
    rw [writeBlock_rehit (P := P) b' hs hf hp2]
    simp only
    rw [C03.wtStore_eq (s2 := { C03.countAccess s _ true with sets := _ }) hm',
      refWrite_erase (s := s) a (lookupSets_hit_rewrite (!s.wt) b' hs hf hp) m']
    refine ⟨⟨rfl, rfl, ?_, ⟨0, rfl⟩⟩, rfl, fun _ => ⟨_, _, i, getElem?_set_of_some hs,
      findWay_set b' hil (findWay_before hf), hp2, rfl⟩⟩
    obtain ⟨_, _, _, hb1, hb2⟩ := fetch_block hinv hacc
    exact hinv.update (decode s.geo.idxBits s.geo.blkBits a).setIdx
      (hcs.withWay hokp i (WayOK_newWay hb1 hb2 (hbl ▸ hwl))) hc' _ _ _
  | none =>
    have hlk : lookupSets P (s.sets.map eraseSet) (decode s.geo.idxBits s.geo.blkBits a) (!s.wt)
        = (s.sets.map eraseSet, false) := by
      rw [hwt]; exact lookupSets_miss_noalloc hs hf
    rw [C03.writeWT_miss s bits a v _ (readBlock_miss hs hf),
      C03.laneErr_ok bits (C03.dec s a) hacc.1 hacc.2.1]
    simp only
    rw [C03.wtStore_eq (s2 := C03.countAccess s s.sets false) hm', refWrite_erase (s := s) a hlk m']
    exact ⟨⟨rfl, rfl, (hinv.withMem hc').counters _ _ _, ⟨0, rfl⟩⟩, rfl, fun h => by cases h⟩

theorem write_spec (v : Nat) :
    Sim ok (s.write P bits a v false) (refWrite P (erase s) a) ∧
    (s.write P bits a v false).res = .ok 0 ∧
    (s.wt = false ∨ (s.write P bits a v false).sys.lastHit = true →
      ∃ vals, Touched P (s.write P bits a v false).sys (decode s.geo.idxBits s.geo.blkBits a) vals) := by
  rw [C03.write_eq]
  cases hwt : s.wt
  · obtain ⟨h1, h2, h3⟩ := writeWB_spec hP hI hinv hacc hwt v
    exact ⟨h1, h2, fun _ => h3⟩
  · obtain ⟨h1, h2, h3⟩ := writeWT_spec hP hI hinv hacc hwt v
    exact ⟨h1, h2, fun h => h3 (h.resolve_left (by simp))⟩

end Accepted

theorem write_direct_spec (s : DSys σ) (bits : Nat) (a : Int) (v : Nat) :
    ∃ m', (s.write P bits a v true).sys = { s with mem := m' } ∧ m'.cfg = s.mem.cfg ∧
      (s.write P bits a v true).extra = 0 :=
  ⟨_, (C03.writeDirect_sys s bits a v).1, C18.applyOp_cfg _ _, (C03.writeDirect_sys s bits a v).2⟩

end

/-! ### The reference alone -/

section Ref
variable {σ : Type} (P : PolicyOps σ) (c : TagCache σ) (op : Op)

theorem refOp_frame :
    (refOp P c op).cache.geo = c.geo ∧ (refOp P c op).cache.penalty = c.penalty ∧
    (refOp P c op).cache.wt = c.wt ∧
    (refOp P c op).cache.accesses = c.accesses + (if op.counted then 1 else 0) := by
  cases op with
  | read b a counted => cases counted <;> exact ⟨rfl, rfl, rfl, rfl⟩
  | write b a v direct => cases direct <;> exact ⟨rfl, rfl, rfl, rfl⟩

theorem refOp_account :
    (refOp P c op).cache.hits + (if (refOp P c op).miss then 1 else 0)
      = c.hits + (if op.counted then 1 else 0) ∧
    (refOp P c op).extra = (if (refOp P c op).miss then c.penalty else 0) ∧
    (op.counted = true → (refOp P c op).cache.lastHit = !(refOp P c op).miss) := by
  cases op with
  | read b a counted =>
    cases counted
    · exact ⟨rfl, rfl, fun h => by cases h⟩
    · simp only [refOp, refRead, TagCache.count, Op.counted]
      cases (lookupSets P c.sets (decode c.geo.idxBits c.geo.blkBits a) true).2 <;> simp
  | write b a v direct =>
    cases direct
    · rw [show refOp P c (.write b a v false) = refWrite P c a from rfl]
      simp only [refWrite, TagCache.count, Op.counted]
      by_cases hh : (lookupSets P c.sets (decode c.geo.idxBits c.geo.blkBits a) (!c.wt)).2 = true <;>
        simp [hh]
    · exact ⟨rfl, rfl, fun h => by cases h⟩

theorem refOp_uncounted (h : op.counted = false) :
    (refOp P c op).cache.hits = c.hits ∧ (refOp P c op).cache.accesses = c.accesses ∧
    (refOp P c op).cache.lastHit = c.lastHit ∧ (refOp P c op).extra = 0 ∧
    (refOp P c op).miss = false := by
  cases op with
  | read b a counted =>
    cases counted
    · exact ⟨rfl, rfl, rfl, rfl, rfl⟩
    · cases h
  | write b a v direct =>
    cases direct
    · cases h
    · exact ⟨rfl, rfl, rfl, rfl, rfl⟩

variable (ops : List Op)

theorem refRun_penalty : (refRun P c ops).1.penalty = c.penalty := by
  induction ops generalizing c with
  | nil => rfl
  | cons op ops ih => simp only [refRun]; rw [ih, (refOp_frame P c op).2.1]

theorem refRun_geo : (refRun P c ops).1.geo = c.geo := by
  induction ops generalizing c with
  | nil => rfl
  | cons op ops ih => simp only [refRun]; rw [ih, (refOp_frame P c op).1]

theorem refRun_wt : (refRun P c ops).1.wt = c.wt := by
  induction ops generalizing c with
  | nil => rfl
  | cons op ops ih => simp only [refRun]; rw [ih, (refOp_frame P c op).2.2.1]

theorem refRun_extra : (refRun P c ops).2.1 = c.penalty * (refRun P c ops).2.2 := by
  induction ops generalizing c with
  | nil => rfl
  | cons op ops ih =>
    simp only [refRun]
    rw [ih, (refOp_frame P c op).2.1, (refOp_account P c op).2.1, Nat.mul_add]
    cases (refOp P c op).miss <;> simp

theorem refRun_accesses :
    (refRun P c ops).1.accesses = c.accesses + (ops.filter Op.counted).length := by
  induction ops generalizing c with
  | nil => rfl
  | cons op ops ih =>
    simp only [refRun]
    rw [ih, (refOp_frame P c op).2.2.2, List.filter_cons]
    cases op.counted <;> simp <;> omega

theorem refRun_hits_misses :
    (refRun P c ops).1.hits + (refRun P c ops).2.2 = c.hits + (ops.filter Op.counted).length := by
  induction ops generalizing c with
  | nil => rfl
  | cons op ops ih =>
    simp only [refRun]
    have h1 := ih (refOp P c op).cache
    have h2 := (refOp_account P c op).1
    rw [List.filter_cons]
    cases hc : op.counted <;> simp [hc] at h2 ⊢ <;> omega

end Ref

/-! ### One step of the model against one step of the reference -/

section Step
variable {σ : Type} {P : PolicyOps σ} {ok : σ → Prop} {s : DSys σ}

/-- Any operation of a history against the reference's step.  (No claim that it succeeded: direct
    writes may be rejected by the lower memory; they do not take part in the accounting either way.) -/
theorem applyOp_sim (hP : PolicyOK P s.geo.assoc ok) (hI : PolicyIdem P ok) (hinv : Inv ok s)
    {op : Op} (hop : op.ok) :
    erase (applyOp P s op).sys = (refOp P (erase s) op).cache ∧
    (applyOp P s op).extra = (refOp P (erase s) op).extra ∧ Inv ok (applyOp P s op).sys := by
  cases op with
  | read b a counted =>
    have h := (read_spec hP hinv hop counted).1
    exact ⟨h.erase_eq, h.extra_eq, h.inv⟩
  | write b a v direct =>
    cases direct
    · have hacc : Accepted b a := by
        rcases hop with h | h
        · cases h
        · exact h
      have h := (write_spec hP hI hinv hacc v).1
      exact ⟨h.erase_eq, h.extra_eq, h.inv⟩
    · obtain ⟨m', h1, h2, h3⟩ := write_direct_spec (P := P) s b a v
      show erase (s.write P b a v true).sys = erase s ∧ (s.write P b a v true).extra = 0 ∧
        Inv ok (s.write P b a v true).sys
      rw [h1, h3]
      exact ⟨rfl, rfl, hinv.withMem (h2.trans hinv.cfg)⟩

theorem geo_of_erase_eq {s' : DSys σ} (op : Op) (h : erase s' = (refOp P (erase s) op).cache) :
    s'.geo = s.geo :=
  (congrArg (·.geo) h).trans (refOp_frame P (erase s) op).1

theorem run_sim (hP : PolicyOK P s.geo.assoc ok) (hI : PolicyIdem P ok) (hinv : Inv ok s)
    (ops : List Op) (hops : ∀ op ∈ ops, op.ok) :
    erase (run P s ops).1 = (refRun P (erase s) ops).1 ∧
    (run P s ops).2 = (refRun P (erase s) ops).2.1 ∧
    Inv ok (run P s ops).1 := by
  induction ops generalizing s with
  | nil => exact ⟨rfl, rfl, hinv⟩
  | cons op ops ih =>
    have hstep := applyOp_sim hP hI hinv (hops op (by simp))
    have hP' : PolicyOK P (applyOp P s op).sys.geo.assoc ok := by
      rw [geo_of_erase_eq op hstep.1]; exact hP
    obtain ⟨h1, h2, h3⟩ := ih hP' hstep.2.2 (fun o ho => hops o (by simp [ho]))
    simp only [run, refRun]
    rw [← hstep.1, ← hstep.2.1, h1, h2]
    exact ⟨rfl, rfl, h3⟩

end Step

end ArchSim.Lemmas.C09
