/-
Progress: a `rank` bounded by 4 decreases in every cycle that does not retire an instruction, so
`5 * instrs + (4 - rank)` grows in every cycle: `n` cycles of a pipeline that is not done retire at
least `(n - 4) / 5` instructions, while the sequential machine retires at most one per step.
-/
import ArchSim.Lemmas.C02Run

namespace ArchSim.Pipe
open ArchSim ArchSim.Rv ArchSim.Lemmas.C02Split

/-- Cycles until MEM/WB is occupied again when the inputs of MEM and WB are empty: 2 from ID/EX (EX,
    MEM), 3 from IF/ID, 4 from the fetch; an ID stall re-decodes after its remaining cycles (4 with two
    left, 3 with one); an EX stall with nothing ahead runs its ECALL in this cycle (2). -/
def idleRank (p : PSt) : Nat :=
  match p.stalled with
  | some st => if st.k = 2 then 2 else if st.rem = 2 then 4 else 3
  | none => if p.l1.isSome then 2 else if p.l0.isSome then 3 else 4

/-- Number of cycles until the next retirement (valid on `PInv` states that are not done). -/
def rank (p : PSt) : Nat :=
  if p.l3.isSome then 0 else if (memInput p).isSome then 1 else idleRank p

theorem idleRank_bounds (p : PSt) : 2 ≤ idleRank p ∧ idleRank p ≤ 4 := by
  unfold idleRank
  split <;> split <;> (try split) <;> omega

theorem rank_le (p : PSt) : rank p ≤ 4 := by
  have := (idleRank_bounds p).2
  unfold rank
  split
  · omega
  · split <;> omega

theorem step_instrs (p : PSt) (hf : (step p).fault = none) :
    (step p).p.st.instrs = p.st.instrs + (if p.l3.isSome then 1 else 0) := by
  obtain ⟨hex, hme⟩ := (step_fault_none_iff p).1 hf
  rw [step_p p hex hme, nextP, (finishStep_sim _ _ _ _ _ _ _).instrs]
  unfold memOut exOut wbOut
  rw [memStage_instrs, exStage_instrs, wbStage_instrs, ← (ifOut_sim p).instrs]

theorem wbOut_flush_of_l3_none (p : PSt) (h3 : p.l3 = none) : latchFlush (wbOut p).2 = none := by
  unfold wbOut; rw [h3]; rfl

theorem step_l3 (p : PSt) (hex : (exOut p).fault = none) (hme : (memOut p).fault = none)
    (h4 : latchFlush (wbOut p).2 = none) : (step p).p.l3 = (memOut p).latch := by
  rw [step_nofault p hex hme]
  dsimp only
  cases h3 : latchFlush (memOut p).latch with
  | some a => rw [finishStep_flush3 _ _ _ _ _ _ _ a h4 h3]
  | none =>
    cases h2 : latchFlush (exOut p).latch with
    | some a => rw [finishStep_flush2 _ _ _ _ _ _ _ a h4 h3 h2]
    | none => rw [finishStep_noflush _ _ _ _ _ _ _ h4 h3 h2]

theorem rank_eq_zero (p : PSt) : rank p = 0 ↔ p.l3.isSome = true := by
  have := (idleRank_bounds p).1
  unfold rank
  cases p.l3.isSome <;> cases (memInput p).isSome <;> simp <;> omega

theorem rank_step_mem (p : PSt) (hf : (step p).fault = none) (h3 : p.l3 = none)
    (hm : (memInput p).isSome = true) : rank (step p).p = 0 := by
  obtain ⟨hex, hme⟩ := (step_fault_none_iff p).1 hf
  apply (rank_eq_zero _).2
  rw [step_l3 p hex hme (wbOut_flush_of_l3_none p h3)]
  unfold memOut at hme ⊢
  rw [memStage_latch_isSome _ _ hme, hm]

theorem rank_le_one (p : PSt) (h : (memInput p).isSome = true) : rank p ≤ 1 := by
  unfold rank; rw [h]; split <;> simp

theorem rank_step_ex (p : PSt) (hI : PInv p) (hf : (step p).fault = none) (h3 : p.l3 = none)
    (hm : memInput p = none) (hx : (exInput p).isSome = true) : rank (step p).p ≤ 1 := by
  obtain ⟨hex, hme⟩ := (step_fault_none_iff p).1 hf
  have h4 := wbOut_flush_of_l3_none p h3
  have hn3 : (memOut p).latch = none := (memOut_latch_eq_none p hme).2 hm
  have hn2 : (exOut p).latch.isSome = true := by
    unfold exOut at hex ⊢; rw [exStage_latch_isSome _ _ _ _ hex, hx]
  obtain ⟨d, hd⟩ := Option.isSome_iff_exists.1 hx
  have hns := exOut_nostall_of p hex d hd ((ecall_runs_iff p hI d hd).2 ⟨hm, h3⟩)
  apply rank_le_one
  rw [step_nofault p hex hme]
  dsimp only
  have h3' : latchFlush (memOut p).latch = none := by rw [hn3]; rfl
  cases h2 : latchFlush (exOut p).latch with
  | some a =>
    rw [finishStep_flush2 _ _ _ _ _ _ _ a h4 h3' h2, (exFlush_drained p hI hex a h2).2.2]
    simpa [memInput] using hn2
  | none =>
    rw [finishStep_noflush _ _ _ _ _ _ _ h4 h3' h2]
    rcases Option.eq_none_or_eq_some p.stalled with hs | ⟨st, hs⟩
    · rw [hs, pickStall_none, hns]
      cases latchStall (idOut p)
      · simpa [memInput] using hn2
      · simpa [memInput, nextStall_none_some] using hn2
    · have hsh := hI.shape
      unfold Shape at hsh; rw [hs] at hsh
      rcases hsh with ⟨hk, _⟩ | ⟨hk, hrem, _⟩
      · simp [exInput, hs, hk] at hd
      · have hr : st.rem = 1 := by
          rcases hrem with ⟨_, h⟩ | ⟨h, _⟩
          · rw [h3] at h; cases h
          · exact h
        rw [hs, pickStall_k2 st hk, nextStall_some_none]
        simpa [memInput, hr] using hn2

theorem rank_step_idle (p : PSt) (hI : PInv p) (hf : (step p).fault = none) (hd : isDone p = false)
    (h3 : p.l3 = none) (hm : memInput p = none) (hx : exInput p = none) :
    rank (step p).p + 1 ≤ rank p := by
  obtain ⟨hex, hme⟩ := (step_fault_none_iff p).1 hf
  have h4 := wbOut_flush_of_l3_none p h3
  have hn3 : (memOut p).latch = none := (memOut_latch_eq_none p hme).2 hm
  have hn2 : (exOut p).latch = none := exOut_latch_of_none p hx
  have hrp : rank p = idleRank p := by unfold rank; rw [h3, hm]; rfl
  rw [step_nofault p hex hme]
  dsimp only
  rw [finishStep_noflush _ _ _ _ _ _ _ h4 (by rw [hn3]; rfl) (by rw [hn2]; rfl), hn3, hn2, hrp]
  unfold idleRank
  have hsh := hI.shape
  unfold Shape at hsh
  rcases Option.eq_none_or_eq_some p.stalled with hs | ⟨st, hs⟩
  · -- unstalled: `l1`, `l2` are empty
    have h1 : p.l1 = none := by simpa [exInput, hs] using hx
    have hn1s : latchStall (idOut p) = false := by
      have h2 : p.l2 = none := by simpa [memInput, hs] using hm
      unfold idOut
      cases hi : idInput p with
      | none => rfl
      | some f => rw [idStage_some, h1, h2]; exact idStall_none _ _
    rw [hs, pickStall_none, hn1s]
    simp only [latchStall_none, Bool.false_eq_true, if_false, nextStall_none_none, h1, Option.isSome_none]
    cases h0 : p.l0 with
    | some f =>
      have : (idOut p).isSome = true := by unfold idOut; rw [idStage_isSome]; simp [idInput, hs, h0]
      simp [rank, idleRank, memInput, this]
    | none =>
      -- not done: an instruction exists at pc and is fetched
      have hni : ¬ noInstr p.st := by
        intro hn
        have h2 : p.l2 = none := by simpa [memInput, hs] using hm
        unfold noInstr at hn
        simp [isDone, h0, h1, h2, h3, hn] at hd
      have hn0 : (ifOut p).2.isSome = true := by
        cases hq : (ifOut p).2 with
        | none => exact absurd ((ifOut_none_iff_noInstr p hI hs).1 hq) hni
        | some _ => rfl
      have hn1 : idOut p = none := by rw [idOut_eq_none]; simp [idInput, hs, h0]
      simp [rank, idleRank, memInput, hn1, hn0]
  · rw [hs] at hsh
    rcases hsh with ⟨hk, hrem, _, hp0, _⟩ | ⟨hk, _, ⟨e, hp1, _⟩, _⟩
    · have hn1 : (idOut p).isSome = true := by
        unfold idOut; rw [idStage_isSome]; simpa [idInput, hs] using hp0
      rw [hs, pickStall_k1 st hk]
      simp only [latchStall_none, Bool.false_eq_true, if_false, nextStall_some_none]
      rcases hrem with hr | ⟨hr, _⟩
      · simp [rank, idleRank, memInput, hr, hk]
      · simp [rank, idleRank, memInput, hr, hk, hn1]
    · simp [exInput, hs, hk, hp1] at hx

theorem rank_ge_two (p : PSt) (h3 : p.l3 = none) (hm : memInput p = none) : 2 ≤ rank p := by
  unfold rank; rw [h3, hm]
  exact (idleRank_bounds p).1

theorem rank_step (p : PSt) (hI : PInv p) (hf : (step p).fault = none) (hd : isDone p = false)
    (hr : rank p ≠ 0) : rank (step p).p + 1 ≤ rank p := by
  have h3 : p.l3 = none := by
    cases h : p.l3 with
    | none => rfl
    | some x => exact absurd ((rank_eq_zero p).2 (by rw [h]; rfl)) hr
  cases hm : memInput p with
  | some e =>
    have := rank_step_mem p hf h3 (by rw [hm]; rfl)
    omega
  | none =>
    have h2 := rank_ge_two p h3 hm
    cases hx : exInput p with
    | some d =>
      have := rank_step_ex p hI hf h3 hm (by rw [hx]; rfl)
      omega
    | none => exact rank_step_idle p hI hf hd h3 hm hx

/-- Five times the retired instructions, plus the cycles the next retirement is ahead of the
    slowest case: grows in every cycle of a pipeline that is not done. -/
def potential (p : PSt) : Nat := 5 * p.st.instrs + (4 - rank p)

theorem potential_step (p : PSt) (hI : PInv p) (hf : (step p).fault = none) (hd : isDone p = false) :
    potential p + 1 ≤ potential (step p).p := by
  have hi := step_instrs p hf
  have hle := rank_le p
  unfold potential
  by_cases h0 : rank p = 0
  · -- WB retires: five more, and the rank starts again at 4 at most
    rw [hi, (rank_eq_zero p).1 h0]; simp only [if_true]; omega
  · have hdec := rank_step p hI hf hd h0
    have h3 : p.l3.isSome = false := by
      cases h : p.l3.isSome with
      | false => rfl
      | true => exact absurd ((rank_eq_zero p).2 h) h0
    rw [hi, h3]; simp only [Bool.false_eq_true, if_false]; omega

theorem potential_run (p0 : PSt) (hI : PInv p0) : ∀ n, runOK n p0 →
    (∀ m, m < n → isDone (pipeRun m p0) = false) → potential p0 + n ≤ potential (pipeRun n p0)
  | 0, _, _ => Nat.le_refl _
  | n + 1, hr, hnd => by
    obtain ⟨hr', hf⟩ := runOK_succ hr
    have ih := potential_run p0 hI n hr' (fun m hm => hnd m (Nat.lt_succ_of_lt hm))
    have := potential_step _ (PInv_run p0 hI n hr') hf (hnd n (Nat.lt_succ_self n))
    show _ ≤ potential (step (pipeRun n p0)).p
    omega

theorem instrs_run_ge (p0 : PSt) (hI : PInv p0) (n : Nat) (hr : runOK n p0)
    (hnd : ∀ m, m < n → isDone (pipeRun m p0) = false) :
    5 * p0.st.instrs + n ≤ 5 * (pipeRun n p0).st.instrs + 4 := by
  have := potential_run p0 hI n hr hnd
  unfold potential at this
  omega

/-! ### The sequential machine retires at most one instruction per step -/

theorem seqStep_instrs_le (s : St) (hs : FetchSound s.imem) : (seqStep s).instrs ≤ s.instrs + 1 := by
  cases hi : s.imem.instrAt s.pc with
  | none => rw [(seqStep_noinstr s hi).1.instrs]; omega
  | some i => rw [(seqStep_cID s i hi hs s (Sim.rfl' s)).1.instrs]; exact cEX_instrs_le s _

theorem seqRun_instrs_le (s : St) (h : ICoh s.imem) : ∀ k, (seqRun k s).instrs ≤ s.instrs + k
  | 0 => Nat.le_refl _
  | k + 1 => by
    have := seqStep_instrs_le (seqRun k s) (ICoh_seqRun s h k).fetchSound
    have := seqRun_instrs_le s h k
    show (seqStep (seqRun k s)).instrs ≤ _
    omega

end ArchSim.Pipe
