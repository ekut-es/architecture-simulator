/-
What the loader establishes for the C07 / C08 / C15 theorems: plain instructions from a decidable test on the operations,
the start state of a straight-line run, the latch invariant of C15 for the empty pipeline over ANY loaded state, a flat
data memory.
-/
import ArchSim.Lemmas.E2E2Pipe
import ArchSim.Lemmas.E2ECacheInit

namespace ArchSim.Lemmas.E2E2
open ArchSim ArchSim.Rv ArchSim.Asm ArchSim.Pipe ArchSim.Lemmas.C07 ArchSim.Lemmas.E2E

/-- All operations of the program are plain: register / immediate arithmetic, shifts, `lui`, `auipc` — no load,
    store, branch, jump, `ecall`, `ebreak`, `fence`, CSR instruction. -/
def PlainOps (prog : List Instr) : Prop := ∀ i ∈ prog, plainOp i.op = true

instance (prog : List Instr) : Decidable (PlainOps prog) := by unfold PlainOps; infer_instance

/-- In a loaded program a plain operation gives a plain instruction: the assembler stores a non-negative shift
    amount for `srai`. -/
theorem load_plain (s : St) (text : String)
    (hp : PlainOps (load s text).st.imem.prog) : ∀ i ∈ (load s text).st.imem.prog, PlainInstr i :=
  fun i hi => ⟨hp i hi, (load_objs s text i hi).instrOK.2⟩

theorem plainOps_supported {prog : List Instr} (hp : PlainOps prog) : AllSupported prog := by
  intro i hi
  have := hp i hi
  revert this
  cases i.op <;> decide

theorem lineStart_init (st : St) (hz : Bool) (hpc : st.pc = 0) (hx : st.exitCode = none)
    (him : st.imem = { prog := st.imem.prog, cache := none }) : LineStart st.imem.prog (PSt.init st hz) where
  stl := rfl
  pc := hpc
  imem := him
  exit := hx
  e0 := rfl
  e1 := rfl
  e2 := rfl
  e3 := rfl

theorem load_lineStart (s : St) (text : String) (hpc : s.pc = 0) (hx : s.exitCode = none)
    (hc : s.imem.cache = none) (hz : Bool) :
    LineStart (load s text).st.imem.prog (PSt.init (load s text).st hz) :=
  lineStart_init (load s text).st hz ((load_pc s text).trans hpc) ((load_exitCode s text).trans hx)
    (load_imem s text hc)

theorem load_isFlat (s : St) (text : String) (hs : ArchSim.Lemmas.C01.StOK s) : IsFlat (load s text).st.mem := by
  obtain ⟨m, hm, hc, _⟩ := hs.flat
  obtain ⟨h, hh⟩ := load_mem_flat s text m hm hc
  exact ⟨_, hh⟩

/-- The instruction cache of the state (if it has one) has an associativity that suits its policy: positive, and a
    power of two for PLRU — what the Python constructor asserts. Holds trivially without instruction cache. -/
def ICacheOK (s : St) : Prop := ∀ c, s.imem.cache = some c → ArchSim.Lemmas.C09.AssocOK c.isLru c.geo.assoc

theorem icacheOK_none {s : St} (h : s.imem.cache = none) : ICacheOK s := fun c hc => by rw [h] at hc; cases hc

theorem load_pipeOK (s : St) (text : String) (hc : ICacheOK s) (hz : Bool) :
    ArchSim.Lemmas.C15.PipeOK (PSt.init (load s text).st hz) :=
  ArchSim.Lemmas.C15.init_ok (ArchSim.Lemmas.C15.load_imemOK s text hc) hz

/-- Stated for a variable `st`: with a loaded state in its place the unifier would unfold the loader to see through
    `PSt.init`. -/
theorem pipeRun_init_prog (st : St) (hz : Bool) (n : Nat) :
    (pipeRun n (PSt.init st hz)).st.imem.prog = st.imem.prog :=
  pipeRun_prog _ n

theorem singleRun_cycles_plain (prog : List Instr) (hP : ProgWF prog) (s : St) (hS : SOK prog s) (n : Nat) :
    (singleRun n s).cycles = s.cycles + n := by
  induction n with
  | zero => rfl
  | succ n ih =>
    have hS' := SOK_run prog hP s hS n
    obtain ⟨m, hm, _⟩ := hS'.2.flat
    show (singleStep (singleRun n s)).st.cycles = _
    rw [singleStep_cycles, singleExtra_flat _ m hm (by rw [hS'.1]), ih]
    omega

end ArchSim.Lemmas.E2E2
