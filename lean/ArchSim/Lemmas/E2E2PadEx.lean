/-
Source-level padding, concrete texts — a text of simple lines with a RAW hazard and
its padding, and the counterexamples: a branch to a LABEL and a `jal` with a numeric (absolute) target, for which the
program of the padded text is NOT the padding of the program.
-/
import ArchSim.Lemmas.E2E2Pad
import ArchSim.Lemmas.E2EEx
import ArchSim.Lemmas.E2E2Ex

namespace ArchSim.Lemmas.E2E2.Ex
open ArchSim ArchSim.Rv ArchSim.Asm ArchSim.Lemmas.E2E ArchSim.Lemmas.E2E.Ex ArchSim.Lemmas.C08
open ArchSim.Lemmas.C04Spell (entryTexts)

/-- `lui t0, 4 ; lw a0, 0(t0) ; li a7, 93`: the `lw` reads `t0` written by the `lui` right before it -/
def hazText : String := "lui t0, 4\nlw a0, 0(t0)\nli a7, 93"

def hazProg : List Instr :=
  [{ op := .lui, rd := 5, imm := 4 }, { op := .lw, rd := 10, rs1 := 5, imm := 0 },
   { op := .addi, rd := 17, rs1 := 0, imm := 93 }]

theorem entryTexts_hazText :
    entryTexts hazText = ["lui t0, 4".toList, "lw a0, 0(t0)".toList, "li a7, 93".toList] := by decide +kernel

theorem hazText_lines : (entryTexts hazText).map lineInstr = hazProg.map some := by
  rw [entryTexts_hazText]
  simp only [List.map, lineInstr, parse_lui, parse_lw, parse_li_a7]
  decide

theorem hazText_simple : AllSimple hazText := (simple_of_map hazText_lines).1

theorem lineInstrs_hazText : lineInstrs hazText = hazProg := (simple_of_map hazText_lines).2

theorem padText_hazText :
    padText hazText = "lui t0, 4\nnop\nnop\nlw a0, 0(t0)\nnop\nnop\nli a7, 93\nnop\nnop" := by decide +kernel

theorem load_pad_hazText_st : (load freshSt (padText hazText)).st = progSt (pad hazProg) := by
  rw [load_simple _ _ (allSimple_padText _ hazText_simple), lineInstrs_padText _ hazText_simple, lineInstrs_hazText,
    if_neg (by decide)]
  rfl

theorem load_hazText_st : (load freshSt hazText).st = progSt hazProg := by
  rw [load_simple _ _ hazText_simple, lineInstrs_hazText, if_neg (by decide)]
  rfl

/-! ### counterexample 1: a branch to a label -/

/-- a branch over nothing to an in-line label -/
def brText : String := "beq zero, zero, end\nend: ecall"

theorem sanitize_brText : sanitize brText = [(1, "beq zero, zero, end".toList), (2, "end: ecall".toList)] := by
  decide +kernel

/-- `brText` loads; the label is resolved to the displacement 4. -/
theorem load_brText : (load freshSt brText).err = none ∧
    (load freshSt brText).st.imem.prog = [{ op := .beq, imm := 4 }, { op := .ecall }] := by
  rw [ArchSim.Lemmas.C05.load_factors, sanitize_brText]
  simp only [tokenize, parse_beq, parse_end]
  exact ⟨by rfl, by rfl⟩

theorem padText_brText : padText brText = "beq zero, zero, end\nnop\nnop\nend: ecall\nnop\nnop" := by
  decide +kernel

theorem sanitize_pad_brText : sanitize (padText brText) =
    [(1, "beq zero, zero, end".toList), (2, nopLine), (3, nopLine), (4, "end: ecall".toList), (5, nopLine),
     (6, nopLine)] := by
  -- the route of `E2E.Ex.sanitize_asmText` (character lists, so the kernel does not run the UTF-8 coder); at this
  -- length it is a choice: `decide +kernel` alone closes the goal too, as it does `sanitize_pad_jalText`
  rw [padText_brText]
  -- through `ToyAsm.sanitize`, the same function, which has the form `sanitizeL` on character lists
  refine (Lemmas.C15.toy_sanitize_eq _).symm.trans ((ToyAsm.sanitize_eq _).trans ?_)
  rw [String.toList_ofList, String.toList_ofList, String.toList_ofList]
  decide +kernel

/-- The padded text loads too, but the assembler re-resolves the label: the displacement is now 12. -/
theorem load_pad_brText : (load freshSt (padText brText)).err = none ∧
    (load freshSt (padText brText)).st.imem.prog =
      [{ op := .beq, imm := 12 }, nop, nop, { op := .ecall }, nop, nop] := by
  rw [ArchSim.Lemmas.C05.load_factors, sanitize_pad_brText]
  simp only [tokenize, parse_beq, parse_end, parse_nopLine]
  exact ⟨by rfl, by rfl⟩

/-! ### counterexample 2: `jal` with a numeric target (the number is an ABSOLUTE address) -/

open ArchSim.Lemmas.C04Spell in
theorem parse_ecall : parseLine "ecall".toList = some { lbl := none, item := .str "ecall" } :=
  parse_as (parseLine_render {} { op := .ecall }
    ((spellable_small _ (by decide) (by decide) (by decide) (by decide) (by decide) (by decide)).legible _)) (by decide +kernel)

open ArchSim.Lemmas.C04Spell in
theorem parse_jal : parseLine "jal x1, 8".toList = some { lbl := none, item := .grp (.jalImm 1 8) } :=
  parse_as (parseLine_render {} { op := .jal, rd := 1, aux := 8 }
    ((spellable_small _ (by decide) (by decide) (by decide) (by decide) (by decide) (by decide)).legible _)) (by decide +kernel)

def jalText : String := "ecall\njal x1, 8"

theorem sanitize_jalText : sanitize jalText = [(1, "ecall".toList), (2, "jal x1, 8".toList)] := by decide +kernel

/-- `jalText` loads; at address 4 the target 8 is the displacement 4. -/
theorem load_jalText : (load freshSt jalText).err = none ∧
    (load freshSt jalText).st.imem.prog = [{ op := .ecall }, { op := .jal, rd := 1, imm := 4, aux := 8 }] := by
  rw [ArchSim.Lemmas.C05.load_factors, sanitize_jalText]
  simp only [tokenize, parse_ecall, parse_jal]
  exact ⟨by rfl, by rfl⟩

theorem sanitize_pad_jalText : sanitize (padText jalText) =
    [(1, "ecall".toList), (2, nopLine), (3, nopLine), (4, "jal x1, 8".toList), (5, nopLine), (6, nopLine)] := by
  decide +kernel

/-- In the padded text the `jal` sits at address 12: the same target 8 is now the displacement -4. -/
theorem load_pad_jalText : (load freshSt (padText jalText)).err = none ∧
    (load freshSt (padText jalText)).st.imem.prog =
      [{ op := .ecall }, nop, nop, { op := .jal, rd := 1, imm := -4, aux := 8 }, nop, nop] := by
  rw [ArchSim.Lemmas.C05.load_factors, sanitize_pad_jalText]
  simp only [tokenize, parse_ecall, parse_jal, parse_nopLine]
  exact ⟨by rfl, by rfl⟩

end ArchSim.Lemmas.E2E2.Ex
