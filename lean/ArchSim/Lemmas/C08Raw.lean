/-
The neighbour invariant `NInv`: the instructions in the IF/ID, ID/EX and EX/MEM latches (under a stall: the preserved
latches) are consecutively fetched program instructions, so the two latches below a decoding instruction hold its
fall-through neighbours. Hence in a hazard-free program the decode condition `RawFree` of the refinement proof holds in
every reachable state, whatever the hazard-detection flag. Namespace `Pipe`, like the invariant `PInv` it extends.
-/
import ArchSim.Lemmas.C02Conv
import ArchSim.Lemmas.C08Pad
import ArchSim.Lemmas.C07Finish

namespace ArchSim.Pipe
open ArchSim ArchSim.Rv ArchSim.Lemmas.C07 ArchSim.Lemmas.C08 ArchSim.Lemmas.C02Split

/-- The latch holds the program instruction stored at its address. -/
def AddrOK (prog : List Instr) (l : Option Latch) : Prop :=
  ∀ x, l = some x → 0 ≤ x.addr ∧ x.addr % 4 = 0 ∧ prog[(x.addr / 4).toNat]? = some x.instr

/-- `b` directly follows `a` in fetch order. -/
def Follows (a b : Option Latch) : Prop := ∀ x y, a = some x → b = some y → x.addr + 4 = y.addr

/-- The youngest latch was fetched just before the current pc. -/
def AtPc (l : Option Latch) (pc : Int) : Prop := ∀ x, l = some x → x.addr + 4 = pc

@[simp] theorem AddrOK_none (prog : List Instr) : AddrOK prog none := by intro x h; cases h
@[simp] theorem Follows_none_left (b : Option Latch) : Follows none b := by intro x y h; cases h
@[simp] theorem Follows_none_right (a : Option Latch) : Follows a none := by intro x y _ h; cases h
@[simp] theorem AtPc_none (pc : Int) : AtPc none pc := by intro x h; cases h

/-- Consecutiveness of the youngest three entries, by stall mode. Under a stall only the preserved latches are
    constrained (`p1` only for an EX stall): they are what ID and EX read while stalled, EX gets a bubble under an ID
    stall, and the decode condition `RawFree` speaks of unstalled cycles only. -/
def Consec (p : PSt) : Prop :=
  match p.stalled with
  | none => AtPc p.l0 p.st.pc ∧ Follows p.l1 p.l0 ∧ Follows p.l2 p.l1
  | some st => AtPc p.l0 p.st.pc ∧ Follows st.p0 p.l0 ∧ (st.k = 2 → Follows st.p1 st.p0)

/-- The neighbour invariant: the registers decode looks at hold the program instruction stored at their address, and
    they were fetched one after the other. -/
structure NInv (p : PSt) : Prop where
  a0 : AddrOK p.st.imem.prog p.l0
  a1 : AddrOK p.st.imem.prog p.l1
  a2 : AddrOK p.st.imem.prog p.l2
  aS : ∀ st, p.stalled = some st → AddrOK p.st.imem.prog st.p0 ∧ AddrOK p.st.imem.prog st.p1
  consec : Consec p

theorem NInv_init (st : St) (hz : Bool) : NInv (PSt.init st hz) := by
  constructor <;> simp [PSt.init, Consec]

theorem SameAddr.follows_right {a l l' : Option Latch} (h : SameAddr l l') (hf : Follows a l) : Follows a l' := by
  intro x y' hx hy'
  obtain ⟨y, hy, e1, _⟩ := h y' hy'
  rw [e1]; exact hf x y hx hy

theorem SameAddr.follows_left {b l l' : Option Latch} (h : SameAddr l l') (hf : Follows l b) : Follows l' b := by
  intro x' y hx' hy
  obtain ⟨x, hx, e1, _⟩ := h x' hx'
  rw [e1]; exact hf x y hx hy

theorem SameAddr.atPc {l l' : Option Latch} {pc : Int} (h : SameAddr l l') (hf : AtPc l pc) : AtPc l' pc := by
  intro x' hx'
  obtain ⟨x, hx, e1, _⟩ := h x' hx'
  rw [e1]; exact hf x hx

theorem follows_ex_id (p : PSt) (hI : PInv p) (hN : NInv p) : Follows (exInput p) (idInput p) := by
  have hc := hN.consec
  have hsh := hI.shape
  unfold Consec at hc; unfold Shape at hsh
  unfold exInput idInput
  rcases Option.eq_none_or_eq_some p.stalled with hs | ⟨st, hs⟩
  · rw [hs] at hc ⊢; exact hc.2.1
  · rw [hs] at hc hsh ⊢
    dsimp only
    rcases hsh with ⟨hk, _⟩ | ⟨hk, _⟩
    · rw [if_pos hk]; exact Follows_none_left _
    · rw [if_neg (by omega)]; exact hc.2.2 hk

theorem ifOut_addrOK (p : PSt) (hI : PInv p) (hN : NInv p) : AddrOK p.st.imem.prog (ifOut p).2 := by
  rcases Option.eq_none_or_eq_some p.stalled with hs | ⟨st, hs⟩
  · cases hi : p.st.imem.instrAt p.st.pc with
    | none => rw [ifOut_noinstr p hs hi]; exact AddrOK_none _
    | some i =>
      rw [ifOut_instr p hs i hi hI.icoh.fetchSound]
      intro x hx; cases hx
      obtain ⟨h0, h4, _, hget, _⟩ := IMem.instrAt_some hi
      exact ⟨h0, h4, hget⟩
  · rw [ifOut_stalled p st hs]; exact hN.a0

theorem ifOut_consec (p : PSt) (hI : PInv p) (hN : NInv p) :
    AtPc (ifOut p).2 (ifOut p).1.pc ∧ Follows (idInput p) (ifOut p).2 := by
  have hc := hN.consec
  unfold Consec at hc
  rcases Option.eq_none_or_eq_some p.stalled with hs | ⟨st, hs⟩
  · rw [hs] at hc
    have hid : idInput p = p.l0 := by unfold idInput; rw [hs]
    rw [hid]
    cases hi : p.st.imem.instrAt p.st.pc with
    | none => rw [ifOut_noinstr p hs hi]; exact ⟨AtPc_none _, Follows_none_right _⟩
    | some i =>
      rw [ifOut_instr p hs i hi hI.icoh.fetchSound]
      refine ⟨?_, ?_⟩
      · intro x hx; cases hx; rfl
      · intro x y hx hy; cases hy; exact hc.1 x hx
  · rw [hs] at hc
    rw [ifOut_stalled p st hs]
    refine ⟨hc.1, ?_⟩
    unfold idInput; rw [hs]; exact hc.2.1

theorem pick_none_stalled (p : PSt) (hI : PInv p) (st : Stall) (hs : p.stalled = some st) :
    pickStall p.stalled (idOut p) (exOut p).latch = none := by
  have hsh := hI.shape
  unfold Shape at hsh; rw [hs] at hsh
  rw [hs]
  rcases hsh with ⟨hk, _⟩ | ⟨hk, _⟩
  · have hei : exInput p = none := by simp [exInput, hs, hk]
    rw [pickStall_k1 st hk, exOut_latch_of_none p hei]; rfl
  · exact pickStall_k2 st hk _ _

theorem Consec_noflush (p : PSt) (hI : PInv p) (hN : NInv p)
    (s' : St) (n3 n4 : Option Latch) (hpc : s'.pc = (ifOut p).1.pc) :
    Consec { p with st := s', l0 := (ifOut p).2, l1 := idOut p, l2 := (exOut p).latch, l3 := n3, l4 := n4,
                    stalled := nextStall p.stalled (pickStall p.stalled (idOut p) (exOut p).latch) p.l0 p.l1 } := by
  obtain ⟨y1, y2⟩ := ifOut_consec p hI hN
  have f12 := follows_ex_id p hI hN
  unfold Consec
  dsimp only
  rw [hpc]
  cases hns : nextStall p.stalled (pickStall p.stalled (idOut p) (exOut p).latch) p.l0 p.l1 with
  | none =>
    -- each new register has the address of the stage input it came from (`SameAddr`), so `Follows` transfers;
    -- `AtPc` of the fetched register is `y1`
    exact ⟨y1, (sameAddr_idStage _ _ _ _ _).follows_left y2,
      (sameAddr_exStage _ _ _ _).follows_left ((sameAddr_idStage _ _ _ _ _).follows_right f12)⟩
  | some st' =>
    dsimp only
    rcases nextStall_parts _ _ _ _ _ hns with ⟨hold, e0, _, e2, _⟩ | ⟨st, hold, e0, e1, ek, _⟩
    -- a stall picked up in this cycle preserves `setFlag p.l0` (and `setFlag p.l1`), which keep their addresses
    · have hid : idInput p = p.l0 := by simp [idInput, hold]
      have hei : exInput p = p.l1 := by simp [exInput, hold]
      rw [hid] at y2 f12; rw [hei] at f12
      refine ⟨y1, by rw [e0]; exact (sameAddr_setFlag _).follows_left y2, fun hk => ?_⟩
      rw [e0, e2 hk]
      exact (sameAddr_setFlag _).follows_left ((sameAddr_setFlag _).follows_right f12)
    -- a continuing stall keeps `p0`, `p1` and its `k`: a stalled pipeline picks nothing up (`pick_none_stalled`)
    · have hid : idInput p = st.p0 := by simp [idInput, hold]
      rw [hid] at y2
      refine ⟨y1, by rw [e0]; exact y2, fun hk => ?_⟩
      rw [e0, e1]
      have hc := hN.consec
      unfold Consec at hc; rw [hold] at hc
      apply hc.2.2
      rw [← ek (pick_none_stalled p hI st hold)]; exact hk

theorem NInv_step (p : PSt) (hI : PInv p) (hN : NInv p) (hf : (step p).fault = none) : NInv (step p).p := by
  -- the registers hold program instructions: they come from those of `p` and from IF
  have hF : FrontP (fun a i => 0 ≤ a ∧ a % 4 = 0 ∧ p.st.imem.prog[(a / 4).toNat]? = some i) (step p).p :=
    FrontP.step ⟨hN.a0, hN.a1, hN.a2, hN.aS⟩ (ifOut_addrOK p hI hN)
  have hprog := step_prog p
  refine ⟨by rw [hprog]; exact hF.l0, by rw [hprog]; exact hF.l1, by rw [hprog]; exact hF.l2,
    by rw [hprog]; exact hF.stl, ?_⟩
  -- consecutiveness: nothing to show after a flush
  obtain ⟨hex, hme⟩ := (step_fault_none_iff p).1 hf
  rw [step_nofault p hex hme]
  dsimp only
  cases h4 : latchFlush (wbOut p).2 with
  | some a => rw [finishStep_flush4 _ _ _ _ _ _ _ a h4]; simp [Consec]
  | none =>
    cases h3 : latchFlush (memOut p).latch with
    | some a => rw [finishStep_flush3 _ _ _ _ _ _ _ a h4 h3]; simp [Consec]
    | none =>
      cases h2 : latchFlush (exOut p).latch with
      | some a =>
        rw [finishStep_flush2 _ _ _ _ _ _ _ a h4 h3 h2, (exFlush_drained p hI hex a h2).2.2]; simp [Consec]
      | none =>
        rw [finishStep_noflush _ _ _ _ _ _ _ h4 h3 h2]
        exact Consec_noflush p hI hN _ _ _ (by simp [stallBump_pc, memOut_pc])

theorem NInv_run (p : PSt) (hI : PInv p) (hN : NInv p) : ∀ n, runOK n p → NInv (pipeRun n p)
  | 0, _ => hN
  | n + 1, h =>
    NInv_step _ (PInv_run p hI n (runOK_succ h).1) (NInv_run p hI hN n (runOK_succ h).1) (runOK_succ h).2

theorem neighbour_index (prog : List Instr) (x f : Latch) (d : Nat) (hd : 1 ≤ d ∧ d ≤ 2)
    (hx : 0 ≤ x.addr) (hi : prog[(x.addr / 4).toNat]? = some x.instr) (h : x.addr + 4 * d = f.addr) :
    ∃ b, b < (f.addr / 4).toNat ∧ (f.addr / 4).toNat ≤ b + 2 ∧ prog[b]? = some x.instr := by
  have e : (f.addr / 4).toNat = (x.addr / 4).toNat + d := by
    rw [← h, Int.add_mul_ediv_left _ _ (by decide),
      Int.toNat_add (Int.ediv_nonneg hx (by decide)) (Int.natCast_nonneg d)]
    rfl
  rw [e]
  exact ⟨_, Nat.lt_add_of_pos_right hd.1, Nat.add_le_add_left hd.2 _, hi⟩

theorem rawFree_of_hazardFree (p : PSt) (hI : PInv p) (hN : NInv p) (hfree : HazardFree p.st.imem.prog) :
    RawFree p := by
  intro hs _ f h0 r hr
  have hc := hN.consec
  have hsh := hI.shape
  unfold Consec at hc; unfold Shape at hsh
  rw [hs] at hc hsh
  obtain ⟨_, c1, c2⟩ := hc
  obtain ⟨_, i2, _⟩ := hsh
  have hf := hN.a0 f h0
  have key : ∀ l : Option Latch, WregOK l →
      Neighbour p.st.imem.prog (f.addr / 4).toNat l → ¬ writes l r := by
    intro l hw hl
    have := hazardWith_neighbour p.st.imem.prog hfree (f.addr / 4).toNat f.instr hf.2.2
      (wbOut p).1.regs l hl
    exact not_writes_of_no_hazard _ l hw this r hr
  refine ⟨key p.l1 hI.w1 ?_, key p.l2 hI.w2 ?_⟩
  · intro x hx
    exact neighbour_index _ x f 1 ⟨Nat.le_refl 1, by decide⟩ (hN.a1 x hx).1 (hN.a1 x hx).2.2 (c1 x f hx h0)
  · intro y hy
    -- `l2` non-empty and `l0` non-empty force `l1` non-empty
    cases h1 : p.l1 with
    | none => rw [i2 (by rw [h0]; rfl) h1] at hy; cases hy
    | some x =>
      exact neighbour_index _ y f 2 ⟨by decide, Nat.le_refl 2⟩ (hN.a2 y hy).1 (hN.a2 y hy).2.2
        (by rw [← c1 x f h1 h0, ← c2 y x hy h1]; exact (Int.add_assoc y.addr 4 4).symm)

theorem rawFree_run_of_hazardFree (st : St) (hz : Bool) (hp : ProgOK st.imem) (hc : ICoh st.imem)
    (hfree : HazardFree st.imem.prog) (n : Nat) (hr : runOK n (PSt.init st hz)) :
    ∀ m, m < n → RawFree (pipeRun m (PSt.init st hz)) := by
  intro m hm
  have hrm : runOK m (PSt.init st hz) := fun j hj => hr j (Nat.lt_trans hj hm)
  have hI := PInv_run _ (PInv_init st hz hp hc) m hrm
  have hN := NInv_run _ (PInv_init st hz hp hc) (NInv_init st hz) m hrm
  apply rawFree_of_hazardFree _ hI hN
  rw [pipeRun_prog]; exact hfree

end ArchSim.Pipe
