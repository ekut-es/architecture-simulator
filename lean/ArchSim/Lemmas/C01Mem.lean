/-
Loads and stores.  The reference semantics is written as a sequence of `loadByte`s / `storeByte`s, one per cell, so
the correspondence is established cell by cell and not through the closed forms of C18, which speak of the whole
access.  `αVal`, `αWrite` abstract the outcome of an access as the flat memory itself reports it (an `AddrErr`, before
`liftMem`), where every error has a counterpart.
-/
import ArchSim.Lemmas.C01Exec

namespace ArchSim.Lemmas.C01
open ArchSim ArchSim.Rv ArchSim.Spec.RvSpec ArchSim.Mem ArchSim.Cache

/-! ### the model's read on the flat RISC-V memory, cell by cell -/

theorem readCell_riscv (m : Mem) (hc : m.cfg = riscvCfg) (A : Int) :
    readCell m A = if 16384 ≤ A % 4294967296 then .ok (m.cells (A % 4294967296))
      else .error ⟨A % 4294967296⟩ := by
  simp only [readCell, hc, C18.riscv_wrap, C18.riscv_inRange]
  have : A % 4294967296 < 4294967296 := by omega
  by_cases h : 16384 ≤ A % 4294967296 <;> simp [h, this]

theorem read_flat_riscv (m : Mem) (hc : m.cfg = riscvCfg) (bits : Nat) (hb : 8 ≤ bits) (A : Int) (c : Bool) :
    (MemSys.flat m).read bits A c =
      { mem := .flat m, extra := 0, res := liftMem ((readN m A (bits / 8)).map (· % 2 ^ bits)) } := by
  rw [MemSys.read, C18.read_of_le m bits A (by rw [hc]; exact hb), hc, C18.riscv_cellsOf]

theorem readCell_lt (m : Mem) (hc : m.cfg = riscvCfg) (hw : C18.WF m) (a : Int) (v : Nat)
    (h : readCell m a = .ok v) : v < 256 := by
  rw [readCell] at h
  split at h <;> cases h
  have := hw.cells_lt (wrapAddr m.cfg a)
  rw [hc] at this ⊢
  exact this

/-! ### addresses -/

theorem addr_eq (A : Int) (k : Nat) :
    BitVec.ofInt 32 A + BitVec.ofNat 32 k = BitVec.ofInt 32 ((A + k) % 4294967296) := by
  rw [ofInt_emod, BitVec.ofInt_add, BitVec.ofInt_natCast]

theorem addr_toNat (A : Int) (k : Nat) :
    ((BitVec.ofInt 32 A + BitVec.ofNat 32 k).toNat : Int) = (A + k) % 4294967296 := by
  rw [addr_eq, BitVec.toNat_ofInt]
  omega

theorem addr_succ (A : Int) (k : Nat) :
    BitVec.ofInt 32 A + BitVec.ofNat 32 k + 1 = BitVec.ofInt 32 A + BitVec.ofNat 32 (k + 1) := by
  rw [BitVec.add_assoc, BitVec.ofNat_add]; rfl

theorem addr_base (a : Nat) (imm : Int) : W a + BitVec.ofInt 32 imm = BitVec.ofInt 32 ((a : Int) + imm) := by
  rw [BitVec.ofInt_add, BitVec.ofInt_natCast]

theorem addr_store (a : Nat) (imm : Int) :
    W a + BitVec.ofInt 32 imm = BitVec.ofInt 32 (((a + wrapU imm) % 4294967296 : Nat) : Int) := by
  rw [BitVec.ofInt_natCast, ← W_wrapU, ← BitVec.ofNat_add]
  exact (ofNat_mod_pow 32 _).symm

/-! ### loads -/

/-- Abstraction of the result of a `bits`-bit read of the flat memory, as the memory itself reports it (before
    `liftMem`): an address error is an access fault at that address. -/
def αVal (bits : Nat) : Except AddrErr Nat → Except SpecFault (BitVec bits)
  | .ok v => .ok (BitVec.ofNat bits v)
  | .error e => .error (.access (BitVec.ofInt 32 e.address))

theorem αMem_flat (m : Mem) (w : Word) : αMem (.flat m) w = BitVec.ofNat 8 (m.cells (w.toNat : Int)) := rfl

theorem α_mem_cycles (s : St) (m : Mem) (hm : s.mem = .flat m) (c : Nat) :
    α { s with mem := .flat m, cycles := c } = α s := by
  simp only [α, hm]

theorem loadByte_α (s : St) (m : Mem) (hm : s.mem = .flat m) (hc : m.cfg = riscvCfg) (A : Int) (k : Nat) :
    (α s).loadByte (BitVec.ofInt 32 A + BitVec.ofNat 32 k) = αVal 8 (readCell m (A + k)) := by
  have h1 := addr_toNat A k
  simp only [SpecSt.loadByte, mapped, dataBase, readCell_riscv m hc, α, hm, αMem_flat, h1]
  by_cases h : 16384 ≤ (A + (k : Int)) % 4294967296
  · have : 16384 ≤ (BitVec.ofInt 32 A + BitVec.ofNat 32 k).toNat := by omega
    simp only [h, this, if_true, αVal]
  · have : ¬ 16384 ≤ (BitVec.ofInt 32 A + BitVec.ofNat 32 k).toNat := by omega
    simp only [h, this, if_false, αVal]
    rw [addr_eq]

theorem loadByte_α0 (s : St) (m : Mem) (hm : s.mem = .flat m) (hc : m.cfg = riscvCfg) (A : Int) :
    (α s).loadByte (BitVec.ofInt 32 A) = αVal 8 (readCell m (A + (0 : Nat))) := by
  have := loadByte_α s m hm hc A 0
  rwa [show BitVec.ofInt 32 A + BitVec.ofNat 32 0 = BitVec.ofInt 32 A from BitVec.add_zero _] at this

theorem loadByte_rd (s : St) (m : Mem) (hm : s.mem = .flat m) (hc : m.cfg = riscvCfg) (A : Int) :
    (α s).loadByte (BitVec.ofInt 32 A) = αVal 8 (readN m A 1) := by
  simp only [readN, readNFrom, loadByte_α0 s m hm hc, Nat.zero_mul, Nat.pow_zero, Nat.mul_one, Nat.add_zero]
  cases h0 : readCell m (A + (0 : Nat)) <;> rfl

theorem loadHalf_rd (s : St) (m : Mem) (hm : s.mem = .flat m) (hc : m.cfg = riscvCfg) (hw : C18.WF m)
    (A : Int) : (α s).loadHalf (BitVec.ofInt 32 A) = αVal 16 (readN m A 2) := by
  simp only [readN, readNFrom, SpecSt.loadHalf, BitVec.ofNat_eq_ofNat, loadByte_α0 s m hm hc, loadByte_α s m hm hc,
    Nat.reduceAdd, Nat.reduceMul, Nat.reducePow, hc, riscvCfg]
  cases h0 : readCell m (A + (0 : Nat)) with
  | error e => rfl
  | ok v0 =>
    have hv0 := readCell_lt m hc hw _ _ h0
    cases h1 : readCell m (A + (1 : Nat)) with
    | error e => rfl
    | ok v1 =>
      simp only [αVal, bind, Except.bind, pure, Except.pure, half_of_bytes v0 v1 hv0]
      congr 2; omega

theorem loadWord_rd (s : St) (m : Mem) (hm : s.mem = .flat m) (hc : m.cfg = riscvCfg) (hw : C18.WF m)
    (A : Int) : (α s).loadWord (BitVec.ofInt 32 A) = αVal 32 (readN m A 4) := by
  simp only [readN, readNFrom, SpecSt.loadWord, BitVec.ofNat_eq_ofNat, loadByte_α0 s m hm hc, loadByte_α s m hm hc,
    Nat.reduceAdd, Nat.reduceMul, Nat.reducePow, hc, riscvCfg]
  cases h0 : readCell m (A + (0 : Nat)) with
  | error e => rfl
  | ok v0 =>
    have hv0 := readCell_lt m hc hw _ _ h0
    cases h1 : readCell m (A + (1 : Nat)) with
    | error e => rfl
    | ok v1 =>
      have hv1 := readCell_lt m hc hw _ _ h1
      cases h2 : readCell m (A + (2 : Nat)) with
      | error e => rfl
      | ok v2 =>
        have hv2 := readCell_lt m hc hw _ _ h2
        cases h3 : readCell m (A + (3 : Nat)) with
        | error e => rfl
        | ok v3 =>
          simp only [αVal, bind, Except.bind, pure, Except.pure, word_of_bytes v0 v1 v2 v3 hv0 hv1 hv2]
          congr 2; omega

/-- Abstract outcome of a load, given what the flat memory returned. -/
def loadOut (s : St) (i : Instr) : Except AddrErr Nat → Except SpecFault SpecSt
  | .error e => .error (.access (BitVec.ofInt 32 e.address))
  | .ok v => .ok { (α s).set i.rd (W (loadExt i.op v)) with pc := (α s).pc + 4 }

theorem execOne_load (i : Instr) (s : St) (m : Mem) (hm : s.mem = .flat m) (hc : m.cfg = riscvCfg)
    (hty : i.op.ty = .memI) (hrd : i.rd < 32) :
    αBeh (execOne i s) = some (loadOut s i
      ((readN m ((s.regs i.rs1 : Int) + i.imm) (accessBits i.op / 8)).map (· % 2 ^ accessBits i.op))) := by
  simp only [execOne, behavior_memI i s hty, hm, read_flat_riscv m hc _ (accessBits_ge i.op)]
  cases (readN m _ _).map (· % 2 ^ accessBits i.op) with
  | error e => rfl
  | ok v =>
    simp only [liftMem, αBeh, αOut, loadOut, α_pc, α_setReg _ _ _ hrd, α_mem_cycles s m hm]
    rw [show ∀ (t : St), (t.setReg i.rd (loadExt i.op v)).pc = t.pc from fun _ => rfl, pc_next]
    rfl

/-- A load, given what the memory returned: the model's `loadOut` is the reference `do let b ← …; wr (ext b)`
    when `ext` is what `loadExt` computes on `bits`-bit values. -/
theorem loadOut_bind (s : St) (i : Instr) (bits : Nat) (r : Except AddrErr Nat) (ext : BitVec bits → Word)
    (hext : ∀ v, W (loadExt i.op (v % 2 ^ bits)) = ext (BitVec.ofNat bits v)) :
    loadOut s i (r.map (· % 2 ^ bits)) =
      αVal bits r >>= fun b => .ok { (α s).set i.rd (ext b) with pc := (α s).pc + 4 } := by
  cases r with
  | error e => rfl
  | ok v => simp only [loadOut, Except.map, αVal, bind, Except.bind, hext]

/-! ### stores -/

theorem writeCell_riscv (m : Mem) (hc : m.cfg = riscvCfg) (A : Int) (v : Nat) :
    writeCell m A v = if 16384 ≤ A % 4294967296 then
        .ok { m with cells := fun x => if x = A % 4294967296 then v else m.cells x,
                     keys := if A % 4294967296 ∈ m.keys then m.keys else m.keys ++ [A % 4294967296] }
      else .error ⟨A % 4294967296⟩ := by
  simp only [writeCell, hc, C18.riscv_wrap, C18.riscv_inRange]
  have : A % 4294967296 < 4294967296 := by omega
  by_cases h : 16384 ≤ A % 4294967296 <;> simp [h, this]

theorem write_flat_riscv (m : Mem) (hc : m.cfg = riscvCfg) (bits : Nat) (hb : 8 ≤ bits) (A : Int) (v : Nat) (d : Bool) :
    (MemSys.flat m).write bits A v d =
      match writeN m A (bits / 8) v with
      | (m', some e) => { mem := .flat m', res := .error (.addr e.address), extra := 0 }
      | (m', none) => { mem := .flat m', res := .ok 0, extra := 0 } := by
  simp only [MemSys.write, Mem.write, hc, cellsOf, riscvCfg]
  rw [if_neg (by omega)]
  rcases writeN m A (bits / 8) v with ⟨m', _ | e⟩ <;> rfl

theorem ofNat8_mod (v : Nat) : BitVec.ofNat 8 (v % 256) = BitVec.ofNat 8 v := ofNat_mod_pow 8 v

theorem word_eq_iff (w : Word) (B : Int) (hB : 0 ≤ B ∧ B < 4294967296) :
    w = BitVec.ofInt 32 B ↔ (w.toNat : Int) = B := by
  constructor
  · rintro rfl; simp only [BitVec.toNat_ofInt]; omega
  · intro h; apply BitVec.eq_of_toNat_eq; simp only [BitVec.toNat_ofInt]; omega

theorem writeCell_α (s : St) (m : Mem) (hc : m.cfg = riscvCfg) (A : Int) (k v : Nat) :
    match writeCell m (A + k) (v % 256) with
    | .ok m' => mapped (BitVec.ofInt 32 A + BitVec.ofNat 32 k) ∧
        (α { s with mem := .flat m }).putByte (BitVec.ofInt 32 A + BitVec.ofNat 32 k) (BitVec.ofNat 8 v) =
          α { s with mem := .flat m' }
    | .error e => ¬ mapped (BitVec.ofInt 32 A + BitVec.ofNat 32 k) ∧
        BitVec.ofInt 32 e.address = BitVec.ofInt 32 A + BitVec.ofNat 32 k := by
  have h1 := addr_toNat A k
  simp only [mapped, dataBase, writeCell_riscv m hc]
  by_cases h : 16384 ≤ (A + (k : Int)) % 4294967296
  · simp only [h, if_true, SpecSt.putByte, α]
    refine ⟨by omega, ?_⟩
    congr 1
    funext w
    simp only [αMem, MemSys.backing]
    rw [addr_eq]
    have hiff := word_eq_iff w ((A + (k : Int)) % 4294967296) (by omega)
    by_cases hw : (w.toNat : Int) = (A + (k : Int)) % 4294967296
    · rw [if_pos (hiff.mpr hw), if_pos hw]
      exact (ofNat8_mod v).symm
    · rw [if_neg (fun e => hw (hiff.mp e)), if_neg hw]
  · simp only [h, if_false]
    exact ⟨by omega, (addr_eq A k).symm⟩

def αWrite (s : St) : Mem × Option AddrErr → Except SpecFault SpecSt
  | (m', none) => .ok (α { s with mem := .flat m' })
  | (_, some e) => .error (.access (BitVec.ofInt 32 e.address))

theorem execOne_store (i : Instr) (s : St) (m : Mem) (hm : s.mem = .flat m) (hc : m.cfg = riscvCfg)
    (hty : i.op.ty = .s) :
    αBeh (execOne i s) = some (αWrite s
      (writeN m (((s.regs i.rs1 + wrapU i.imm) % 4294967296 : Nat) : Int) (accessBits i.op / 8)
        (s.regs i.rs2 % 2 ^ accessBits i.op)) >>= fun s' => pure { s' with pc := (α s).pc + 4 }) := by
  simp only [execOne, behavior_s i s hty, hm, write_flat_riscv m hc _ (accessBits_ge i.op)]
  rcases writeN m _ _ _ with ⟨m', _ | e⟩
  · simp only [αBeh, αOut, αWrite, α, pc_next]
    rfl
  · simp only [αBeh, αOut, αWrite, αFault, Option.map]
    rfl

/-- Sequential byte stores at ascending addresses (proof device: `storeHalf`/`storeWord` are
    instances). -/
def storeSeq (σ : SpecSt) (a : Word) : List Byte → Except SpecFault SpecSt
  | [] => .ok σ
  | b :: bs =>
    match σ.storeByte a b with
    | .error f => .error f
    | .ok σ' => storeSeq σ' (a + 1) bs

/-- The little-endian bytes the model's `writeNFrom` stores. -/
def bytesFrom : Nat → Nat → List Byte
  | _, 0 => []
  | v, n + 1 => BitVec.ofNat 8 v :: bytesFrom (v / 256) n

/-- One induction for both loops of the reference — `storeSeq`, which reports the fault, and `storeWhileMapped`,
    the partial store of `atFault` — because both follow `writeNFrom`'s recursion; `k` counts the cells already
    written, as `i` in `C18.writeNFrom_eq`. -/
theorem store_writeNFrom (s : St) (A : Int) (n : Nat) :
    ∀ (m : Mem) (k v : Nat), m.cfg = riscvCfg →
      storeSeq (α { s with mem := .flat m }) (BitVec.ofInt 32 A + BitVec.ofNat 32 k) (bytesFrom v n) =
        αWrite s (writeNFrom m A n k v) ∧
      (α { s with mem := .flat m }).storeWhileMapped (BitVec.ofInt 32 A + BitVec.ofNat 32 k) (bytesFrom v n) =
        α { s with mem := .flat (writeNFrom m A n k v).1 } := by
  induction n with
  | zero => intro m k v _; exact ⟨rfl, rfl⟩
  | succ n ih =>
    intro m k v hc
    have hstep := writeCell_α s m hc A k v
    simp only [bytesFrom, storeSeq, SpecSt.storeByte, SpecSt.storeWhileMapped, writeNFrom, hc, riscvCfg,
      Nat.reducePow]
    cases h : writeCell m (A + (k : Int)) (v % 256) with
    | error e =>
      simp only [h] at hstep
      simp only [if_neg hstep.1, αWrite, hstep.2, and_self]
    | ok m' =>
      simp only [h] at hstep
      simp only [if_pos hstep.1, hstep.2, addr_succ]
      exact ih m' (k + 1) (v / 256) (by rw [C18.writeCell_cfg m m' _ _ h, hc])

theorem storeSeq_writeN (s : St) (m : Mem) (hm : s.mem = .flat m) (hc : m.cfg = riscvCfg) (A : Int)
    (n v : Nat) : storeSeq (α s) (BitVec.ofInt 32 A) (bytesFrom v n) = αWrite s (writeN m A n v) := by
  have := (store_writeNFrom s A n m 0 v hc).1
  rw [show BitVec.ofInt 32 A + BitVec.ofNat 32 0 = BitVec.ofInt 32 A from BitVec.add_zero _,
    α_mem_cycles s m hm s.cycles] at this
  exact this

theorem storeByte_eq (σ : SpecSt) (a : Word) (b : Byte) : σ.storeByte a b = storeSeq σ a [b] := by
  simp only [storeSeq]
  cases σ.storeByte a b <;> rfl

theorem storeHalf_eq (σ : SpecSt) (a v : Word) :
    σ.storeHalf a v = storeSeq σ a [byteOf v 0, byteOf v 1] := by
  simp only [SpecSt.storeHalf, storeSeq, bind, Except.bind]
  cases σ.storeByte a (byteOf v 0) with
  | error f => rfl
  | ok σ1 => simp only []; cases σ1.storeByte (a + 1) (byteOf v 1) <;> rfl

theorem storeWord_eq (σ : SpecSt) (a v : Word) :
    σ.storeWord a v = storeSeq σ a [byteOf v 0, byteOf v 1, byteOf v 2, byteOf v 3] := by
  simp only [SpecSt.storeWord, storeSeq, bind, Except.bind]
  cases σ.storeByte a (byteOf v 0) with
  | error f => rfl
  | ok σ1 =>
    simp only []
    cases σ1.storeByte (a + 1) (byteOf v 1) with
    | error f => rfl
    | ok σ2 =>
      simp only []
      rw [show a + 1 + 1 = a + 2 by rw [BitVec.add_assoc]; rfl]
      cases σ2.storeByte (a + 2) (byteOf v 2) with
      | error f => rfl
      | ok σ3 =>
        simp only []
        rw [show a + 2 + 1 = a + 3 by rw [BitVec.add_assoc]; rfl]
        cases σ3.storeByte (a + 3) (byteOf v 3) <;> rfl

theorem ofNat8_eq (x y : Nat) (h : x % 256 = y % 256) : BitVec.ofNat 8 x = BitVec.ofNat 8 y := by
  apply BitVec.eq_of_toNat_eq; simp only [BitVec.toNat_ofNat]; omega

theorem bytesFrom_mod (n : Nat) : ∀ (v m : Nat), 8 * n ≤ m → bytesFrom (v % 2 ^ m) n = bytesFrom v n := by
  induction n with
  | zero => intro v m _; rfl
  | succ n ih =>
    intro v m h
    obtain ⟨m', rfl⟩ : ∃ m', m = m' + 8 := ⟨m - 8, by omega⟩
    have h1 : v % 2 ^ (m' + 8) / 256 = v / 256 % 2 ^ m' := by
      rw [Nat.pow_add, Nat.mul_comm, show 2 ^ 8 = 256 from rfl, Nat.mod_mul_right_div_self]
    have h2 : BitVec.ofNat 8 (v % 2 ^ (m' + 8)) = BitVec.ofNat 8 v :=
      ofNat8_eq _ _ (Nat.mod_mod_of_dvd _ ⟨2 ^ m', by rw [Nat.pow_add, Nat.mul_comm]⟩)
    simp only [bytesFrom, h1, h2, ih _ _ (show 8 * n ≤ m' by omega)]

/-! The bytes of `rs2` the reference stores are those the model stores after masking `rs2` to the access width:
both are the low bytes of the 32-bit value. -/

theorem bytes_byte (b : Nat) : [byteOf (W b) 0] = bytesFrom (b % 2 ^ 8) 1 := by
  rw [bytesFrom_mod 1 b 8 (by omega), ← bytesFrom_mod 1 b 32 (by omega)]
  simp only [bytesFrom, byteOf_W, Nat.reduceMul, Nat.reducePow, Nat.div_one, ofNat8_mod]

theorem bytes_half (b : Nat) : [byteOf (W b) 0, byteOf (W b) 1] = bytesFrom (b % 2 ^ 16) 2 := by
  rw [bytesFrom_mod 2 b 16 (by omega), ← bytesFrom_mod 2 b 32 (by omega)]
  simp only [bytesFrom, byteOf_W, Nat.reduceMul, Nat.reducePow, Nat.div_one, ofNat8_mod]

theorem bytes_word (b : Nat) :
    [byteOf (W b) 0, byteOf (W b) 1, byteOf (W b) 2, byteOf (W b) 3] = bytesFrom (b % 2 ^ 32) 4 := by
  simp only [bytesFrom, byteOf_W, Nat.div_div_eq_div_mul, Nat.reduceMul, Nat.reducePow, Nat.div_one, ofNat8_mod]

/-! ### a store that stops at an unmapped cell -/

theorem storeWhile_writeN (s : St) (m : Mem) (hm : s.mem = .flat m) (hc : m.cfg = riscvCfg) (A : Int)
    (n v : Nat) :
    (α s).storeWhileMapped (BitVec.ofInt 32 A) (bytesFrom v n) = α { s with mem := .flat (writeN m A n v).1 } := by
  have := (store_writeNFrom s A n m 0 v hc).2
  rw [show BitVec.ofInt 32 A + BitVec.ofNat 32 0 = BitVec.ofInt 32 A from BitVec.add_zero _,
    α_mem_cycles s m hm s.cycles] at this
  exact this

theorem behavior_store_st (i : Instr) (s : St) (m : Mem) (hm : s.mem = .flat m) (hc : m.cfg = riscvCfg)
    (hty : i.op.ty = .s) :
    α (behavior i s).st =
      α { s with mem := MemSys.flat (Prod.fst (writeN m (((s.regs i.rs1 + wrapU i.imm) % 4294967296 : Nat) : Int)
        (accessBits i.op / 8) (s.regs i.rs2 % 2 ^ accessBits i.op))) } := by
  simp only [behavior_s i s hty, hm, write_flat_riscv m hc _ (accessBits_ge i.op)]
  rcases writeN m _ _ _ with ⟨m', _ | e⟩ <;> rfl

end ArchSim.Lemmas.C01
