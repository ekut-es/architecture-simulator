/-
C02 (data path): arithmetic of the two implementations. `alu_compute` on register operands `< 2^32` yields a Python
int whose `UInt32` wrap (done by `write_back`) is the value `behavior()` writes; `Instr.WF` is the well-formed
instruction of the supported set.
-/
import ArchSim.Model.Pipe
import ArchSim.Lemmas.C01Inv

namespace ArchSim.Rv

/-- Range of the immediate a constructor stores, per instruction type. -/
def immRange (op : Op) (imm : Int) : Prop :=
  match op.ty with
  | .i | .memI | .s => -2048 ≤ imm ∧ imm < 2048
  | .shiftI => 0 ≤ imm ∧ imm < 32
  | .b => -4096 ≤ imm ∧ imm < 4096
  | .u => -524288 ≤ imm ∧ imm < 524288
  | .j => -1048576 ≤ imm ∧ imm < 1048576
  | _ => True

instance (op : Op) (imm : Int) : Decidable (immRange op imm) := by
  unfold immRange; split <;> infer_instance

/-- The supported set: everything except the CSR forms, `fence` and `ebreak`. -/
def Op.supported (op : Op) : Bool :=
  match op.ty with
  | .csr | .csri | .fence => false
  | _ => op != .ebreak

/-- A well-formed instruction object of the supported set: register numbers below 32, the stored
    immediate in the range its constructor produces, and `ecall` with the fields its constructor
    forces (`rd = rs1 = 0`, `imm = 0`). -/
def Instr.WF (i : Instr) : Prop :=
  i.op.supported = true ∧ i.rd < 32 ∧ i.rs1 < 32 ∧ i.rs2 < 32 ∧ immRange i.op i.imm ∧
  (i.op = .ecall → i.rd = 0 ∧ i.rs1 = 0 ∧ i.imm = 0)

instance (i : Instr) : Decidable i.WF := by unfold Instr.WF; infer_instance

end ArchSim.Rv

namespace ArchSim.Lemmas.C02Split
open ArchSim ArchSim.Rv
open ArchSim.Lemmas.C01 (aluRR_lt aluRI_lt sext16_wrapU)

/-- What every constructor stores is in `immRange` (so `WF` is what assembled programs satisfy); `immRange` is
    `C01.ImmOK` under another name. -/
theorem immRange_storedImm (op : Op) (raw : Int) : immRange op (storedImm op raw) :=
  C01.storedImm_ok op raw

/-! ### `fixedint` wraps: values move by multiples of 2^32 only -/

theorem wrapS_natCast (n : Nat) (h : n < 4294967296) : wrapS (n : Int) = toS n := by
  simp only [wrapS, wrapU_natCast n h]

theorem toS_eq_zero (n : Nat) (h : n < 4294967296) : toS n = 0 ↔ n = 0 := by unfold toS; split <;> omega

/-- The `jalr` target of `behavior()` (signed operands) and of `alu_compute` (the raw sum). -/
theorem jalr_target (a : Nat) (imm : Int) (h1 : -2048 ≤ imm) (h2 : imm < 2048) :
    wrapU (toS a + sextBits 16 (wrapU imm)) = wrapU ((a : Int) + imm) := by
  rw [sext16_wrapU imm ⟨h1, h2⟩, wrapU_toS_add]

/-- The store address of the split path (unwrapped sum) and of `behavior()` differ by a multiple of 2^32. -/
theorem store_alias (a : Nat) (imm : Int) : ∃ k : Int, (a : Int) + imm = ((a + wrapU imm) % 4294967296 : Nat) + k * 4294967296 := by
  refine ⟨((a : Int) + imm - ((a + wrapU imm) % 4294967296 : Nat)) / 4294967296, ?_⟩
  unfold wrapU
  omega

/-- R-type. `alu_compute` leaves seven results as unwrapped Python ints (one goal each, in the order of
    its `match`); all other ops return `aluRR` itself, a `UInt32`. -/
theorem aluCompute_r (i : Instr) (a b : Nat) (hty : i.op.ty = .r) (ha : a < 4294967296) (hb : b < 4294967296) :
    ∃ v, aluCompute i (some (a : Int)) (some (b : Int)) = some (none, some v) ∧ wrapU v = aluRR i.op a b := by
  simp only [aluCompute, hty, wrapU_natCast a ha, wrapU_natCast b hb]
  split <;> refine ⟨_, rfl, ?_⟩
  all_goals rename_i hop
  · rw [hop]; rfl
  · rw [hop]
    show wrapU (((a * b : Nat) : Int) / ((4294967296 : Nat) : Int)) = _
    rw [← Int.natCast_ediv]
    exact wrapU_natCast _ (Nat.div_lt_of_lt_mul (Nat.mul_lt_mul'' ha hb))
  · rw [hop]; rfl
  · rw [hop]; simp only [aluRR]
    by_cases hb0 : b = 0
    · subst hb0; rfl
    · rw [if_neg (mt (toS_eq_zero b hb).mp hb0), if_neg hb0]
  · rw [hop]; simp only [aluRR]
    by_cases hb0 : b = 0
    · subst hb0; rfl
    · rw [if_neg hb0, if_neg hb0]
      exact wrapU_natCast _ (Nat.lt_of_le_of_lt (Nat.div_le_self _ _) ha)
  · rw [hop]; simp only [aluRR]
    by_cases hb0 : b = 0
    · subst hb0; exact wrapU_toS a ha
    · rw [if_neg (mt (toS_eq_zero b hb).mp hb0), if_neg hb0]
  · rw [hop]; rfl
  · exact wrapU_natCast _ (aluRR_lt _ a b ha hb)

/-- The I-type ALU ops proper: `slti` compares as Python ints, the others return `aluRI` itself. -/
theorem aluCompute_i (i : Instr) (a : Nat) (imm : Int) (hty : i.op.ty = .i) (hj : i.op ≠ .jalr)
    (he : i.op ≠ .ecall) (hb : i.op ≠ .ebreak) (ha : a < 4294967296) :
    ∃ v, aluCompute i (some (a : Int)) (some imm) = some (none, some v) ∧ wrapU v = aluRI i.op a imm := by
  simp only [aluCompute, hty, hj, he, hb, if_false, wrapU_natCast a ha, wrapS_natCast a ha]
  split <;> refine ⟨_, rfl, ?_⟩
  · rename_i hop
    rw [hop]; simp only [aluRI]
    split <;> rfl
  · exact wrapU_natCast _ (aluRI_lt _ a imm ha)

theorem aluCompute_shift (i : Instr) (a : Nat) (hty : i.op.ty = .shiftI) (ha : a < 4294967296)
    (h0 : 0 ≤ i.imm) (h1 : i.imm < 32) :
    ∃ v, aluCompute i (some (a : Int)) (some i.imm) = some (none, some v) ∧ wrapU v = aluRI i.op a i.imm := by
  simp only [aluCompute, hty, wrapU_natCast a ha]
  rcases ty_shiftI i.op hty with hop | hop | hop <;> simp only [hop]
  · exact ⟨_, rfl, wrapU_natCast _ (aluRI_lt .slli a _ ha)⟩
  · exact ⟨_, rfl, wrapU_natCast _ (aluRI_lt .srli a _ ha)⟩
  · rw [if_neg (Int.not_lt.mpr h0)]
    refine ⟨_, rfl, ?_⟩
    have : i.imm % 65536 = i.imm := by omega
    simp only [aluRI, this]

theorem natCast_beq (a b : Nat) : ((a : Int) == (b : Int)) = (a == b) :=
  Bool.eq_iff_iff.mpr (by simp only [beq_iff_eq, Int.natCast_inj])

theorem aluCompute_b (i : Instr) (a b : Nat) (hty : i.op.ty = .b) (ha : a < 4294967296) (hb : b < 4294967296) :
    aluCompute i (some (a : Int)) (some (b : Int)) = some (some (branchCond i.op a b), none) := by
  simp only [aluCompute, hty, wrapS_natCast a ha, wrapS_natCast b hb]
  rcases ty_b i.op hty with hop | hop | hop | hop | hop | hop <;>
    simp only [hop, branchCond, natCast_beq, bne, Int.ofNat_lt, Int.ofNat_le, ge_iff_le]

end ArchSim.Lemmas.C02Split
