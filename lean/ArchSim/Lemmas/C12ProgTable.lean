/-
C12, the memory table: the word table `reprEntries m 32` of a well-formed RISC-V memory in closed form — it never
fails, its keys are the word-aligned addresses of the stored cells in insertion order (what `wordwise_repr` iterates
over), the value listed at `a` is the word at `a`.  Outside resident blocks the backing memory holds the logical contents.
-/
import ArchSim.Lemmas.C03Hist

namespace ArchSim.Lemmas.C12
open ArchSim ArchSim.Cache ArchSim.Spec.CacheAbs ArchSim.Lemmas.C03

variable {σ : Type}

theorem not_resident_iff (s : DSys σ) (a : Int) :
    resident s a = false ↔ lookup s.sets (dec s a).setIdx (dec s a).tag = none := by
  unfold resident
  cases lookup s.sets (dec s a).setIdx (dec s a).tag <;> simp

theorem backing_of_not_resident (s : DSys σ) (a : Int) (h : resident s a = false) :
    s.mem.cells ((wrap32 a : Nat) : Int) = logical s a :=
  (logical_of_none ((not_resident_iff s a).mp h)).symm

end ArchSim.Lemmas.C12

namespace ArchSim.Lemmas.C12Prog
open ArchSim ArchSim.Cache ArchSim.Mem ArchSim.Spec.ByteStore ArchSim.Lemmas.C18 ArchSim.Spec.CacheAbs
open ArchSim.Lemmas.C03 ArchSim.Lemmas.C12

/-- Every stored cell of `m` is a stored cell of `m'`. -/
def KeysSub (m m' : Mem) : Prop := ∀ x, x ∈ m.keys → x ∈ m'.keys

theorem KeysSub.refl (m : Mem) : KeysSub m m := fun _ h => h

theorem KeysSub.trans {a b c : Mem} (h1 : KeysSub a b) (h2 : KeysSub b c) : KeysSub a c :=
  fun x h => h2 x (h1 x h)

theorem mem_reprKeys {m : Mem} (hm : MemOK m) (a : Int) :
    a ∈ reprKeys m 32 ↔
      16384 ≤ wrap32 a ∧ wrap32 a + 4 ≤ 4294967296 ∧ wrap32 a % 4 = 0 ∧ ((wrap32 a : Nat) : Int) = a ∧
        ∃ i, i < 4 ∧ ((wrap32 a + i : Nat) : Int) ∈ m.keys := by
  have hk : cellsOf m.cfg 32 = 4 := by rw [hm.cfg]; rfl
  rw [reprKeys_aligned_iff m 32 (by rw [hk]; decide), hk]
  constructor
  · rintro ⟨h4, i, hi, hy⟩
    have hr := hm.wf.keys_inRange _ hy
    rw [hm.cfg, riscv_inRange] at hr
    simp only [Bool.and_eq_true, decide_eq_true_eq] at hr
    -- an aligned address with one of its four cells in the data range lies in the data range itself
    have ha : 16384 ≤ a ∧ a + 4 ≤ 4294967296 := by omega
    have h0 : ((wrap32 a : Nat) : Int) = a := by
      rw [wrap32_cast]; exact Int.emod_eq_of_lt (by omega) (by omega)
    clear hr
    refine ⟨by omega, by omega, by omega, h0, i, hi, ?_⟩
    rwa [Int.natCast_add, h0]
  · rintro ⟨_, _, h3, h4, i, hi, hy⟩
    rw [Int.natCast_add, h4] at hy
    exact ⟨by omega, i, hi, hy⟩

theorem table_eq {m : Mem} (hm : MemOK m) :
    reprEntries m 32 = .ok ((reprKeys m 32).map (fun a => (a, memWord m (wrap32 a)))) := by
  rw [riscv_reprEntries_wf m hm.cfg hm.wf 32 (by simp)]
  refine congrArg Except.ok (List.map_congr_left (fun a ha => ?_))
  obtain ⟨_, r2, _, r4, _⟩ := (mem_reprKeys hm a).1 ha
  rw [memWord_eq_leSum]
  -- a key is its own `wrap32`, and its four cells do not wrap
  exact congrArg (a, ·) (leSum_congr riscvCfg 4 _ _ fun i hi => by rw [riscv_wrap]; congr 1; omega)

end ArchSim.Lemmas.C12Prog
