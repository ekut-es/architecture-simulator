/-
C02, composition of the two halves: the sequential reference `seqStep` (control half) is the
single-cycle step `Rv.singleStep` (data-path half, through `SOK.agree`) on every state `SOK` the
single-cycle simulator reaches from a well-formed program `ProgWF` on the flat RISC-V data memory,
so the theorems over runs hold against `singleRun`.
-/
import ArchSim.Lemmas.SeqSingle

namespace ArchSim.Pipe
open ArchSim ArchSim.Rv

/-- The program fits the instruction memory and consists of well-formed supported instructions
    (`Instr.WF`, the hypothesis of `split_agrees`; what `constructed_wf` shows for every instruction the
    Python constructors build). -/
structure ProgWF (prog : List Instr) : Prop where
  len : prog.length ≤ 4096
  wf : ∀ i, i ∈ prog → i.WF

/-- States of a single-cycle run: uncached instruction memory holding `prog`, and C01's `StOK` (flat
    RISC-V data memory with byte cells, 32-bit registers, `x0 = 0`, 32-bit pc). -/
def SOK (prog : List Instr) (s : St) : Prop :=
  s.imem = { prog := prog, cache := none } ∧ ArchSim.Lemmas.C01.StOK s

theorem ProgWF.toC01 {prog : List Instr} (h : ProgWF prog) : ArchSim.Lemmas.C01.ProgOK prog :=
  c01ProgOK_of_wf h.len h.wf

theorem ProgWF.toPipe {prog : List Instr} (h : ProgWF prog) (c : Option ICache) :
    ProgOK { prog := prog, cache := c } :=
  progOK_of_wf h.wf

/-- `k` single-cycle steps (`Pipeline.step()` in single-cycle mode, iterated). -/
def singleRun : Nat → St → St
  | 0, s => s
  | n + 1, s => (singleStep (singleRun n s)).st

theorem SOK.agree {prog : List Instr} {s : St} (hS : SOK prog s) (hlen : prog.length ≤ 4096)
    (hwf : ∀ i, i ∈ prog → i.WF) : AgreeStep s := by
  obtain ⟨m, hm, hcfg, _⟩ := hS.2.flat
  exact agreeStep_of_memOK s (by rw [hS.1]) (by rw [hS.1]; exact hlen) (by rw [hS.1]; exact hwf)
    hS.2.regs_lt (fun i _ => ArchSim.Lemmas.C02Split.memOK_flat i s m hm (by rw [hcfg]; rfl) (by rw [hcfg]; rfl))

theorem seq_eq_single (prog : List Instr) (hP : ProgWF prog) (s : St) (hS : SOK prog s) :
    seqFault s = (singleStep s).fault ∧ ((singleStep s).fault = none → seqStep s = (singleStep s).st) :=
  ⟨(hS.agree hP.len hP.wf).fault, (hS.agree hP.len hP.wf).seq⟩

theorem SOK_step (prog : List Instr) (hP : ArchSim.Lemmas.C01.ProgOK prog) (s : St) (hS : SOK prog s) :
    SOK prog (singleStep s).st :=
  ⟨(ArchSim.Lemmas.C02Split.singleStep_imem_nocache s (by rw [hS.1])).trans hS.1, ArchSim.Lemmas.C01.StOK_step prog hP s hS.1 hS.2⟩

theorem SOK_run (prog : List Instr) (hP : ProgWF prog) (s : St) (hS : SOK prog s) : ∀ k, SOK prog (singleRun k s)
  | 0 => hS
  | k + 1 => SOK_step prog hP.toC01 _ (SOK_run prog hP s hS k)

theorem SOK.follows {prog : List Instr} (hP : ProgWF prog) {s : St} (hS : SOK prog s) (k : Nat)
    (hnf : ∀ j, j < k → seqFault (seqRun j s) = none ∨ (singleStep (singleRun j s)).fault = none) :
    (∀ j, j ≤ k → seqRun j s = singleRun j s) ∧
      ∀ j, j < k → (singleStep (singleRun j s)).fault = none ∧ seqFault (seqRun j s) = none :=
  seqRun_follows singleRun (fun _ => rfl) (fun _ _ => rfl) s k (fun j _ _ => (SOK_run prog hP s hS j).agree hP.len hP.wf) hnf

/-- The address executed by a single-cycle step (none if there is no instruction or it faults). -/
def singleLog (s : St) : List Int :=
  match s.imem.instrAt s.pc with
  | none => []
  | some _ => match (singleStep s).fault with
    | none => [s.pc]
    | some _ => []

/-- Addresses of the instructions executed by the first `n` single-cycle steps, in order. -/
def singleTrace : Nat → St → List Int
  | 0, _ => []
  | n + 1, s => singleTrace n s ++ singleLog (singleRun n s)

theorem seqLog_eq_singleLog (prog : List Instr) (hP : ProgWF prog) (s : St) (hS : SOK prog s) :
    seqLog s = singleLog s := by
  unfold seqLog singleLog
  rw [(seq_eq_single prog hP s hS).1]
  cases s.imem.instrAt s.pc with
  | none => rfl
  | some _ => cases (singleStep s).fault <;> rfl

theorem seqTrace_eq_singleTrace (prog : List Instr) (hP : ProgWF prog) (s : St) (hS : SOK prog s) :
    ∀ k, (∀ j, j ≤ k → seqRun j s = singleRun j s) → seqTrace k s = singleTrace k s
  | 0, _ => rfl
  | k + 1, e => by
    show seqTrace k s ++ seqLog (seqRun k s) = singleTrace k s ++ singleLog (singleRun k s)
    rw [seqTrace_eq_singleTrace prog hP s hS k (fun j hj => e j (Nat.le_succ_of_le hj)), e k (Nat.le_succ k),
      seqLog_eq_singleLog prog hP _ (SOK_run prog hP s hS k)]

theorem SOK.progOK {prog : List Instr} {s : St} (hP : ProgWF prog) (hS : SOK prog s) : ProgOK s.imem := by
  rw [hS.1]; exact hP.toPipe none

theorem SOK.icoh {prog : List Instr} {s : St} (hP : ProgWF prog) (hS : SOK prog s) : ICoh s.imem := by
  rw [hS.1]; exact ICoh_nocache _ rfl hP.len

theorem final_state_single_raw (prog : List Instr) (hP : ProgWF prog) (st : St) (hS : SOK prog st)
    (hzf : Bool) (hx : st.exitCode = none) (n : Nat) (hr : runOK n (PSt.init st hzf))
    (hraw : ∀ m, m < n → RawFree (pipeRun m (PSt.init st hzf)))
    (hd : isDone (pipeRun n (PSt.init st hzf)) = true)
    (hprev : ∀ m, m < n → isDone (pipeRun m (PSt.init st hzf)) = false) :
    ∃ k, k ≤ n ∧
      (∀ j, j < k → (singleStep (singleRun j st)).fault = none ∧ singleDone (singleRun j st) = false) ∧
      singleDone (singleRun k st) = true ∧
      SimP (pipeRun n (PSt.init st hzf)).st (singleRun k st) ∧
      retireLog n (PSt.init st hzf) = singleTrace k st := by
  obtain ⟨k, hk, hsim, hdone, hfirst, hlog, hnf⟩ :=
    final_state_raw st hzf (hS.progOK hP) (hS.icoh hP) hx n hr hraw hd hprev
  obtain ⟨e, f⟩ := hS.follows hP k (fun j hj => .inl (hnf j hj))
  rw [e k (Nat.le_refl k)] at hdone hsim
  exact ⟨k, hk, fun j hj => ⟨(f j hj).1, by rw [← e j (Nat.le_of_lt hj)]; exact hfirst j hj⟩, hdone, hsim,
    hlog.trans (seqTrace_eq_singleTrace prog hP st hS k e)⟩

theorem terminates_single_raw (prog : List Instr) (hP : ProgWF prog) (st : St) (hS : SOK prog st)
    (hzf : Bool)
    (hraw : ∀ n, runOK n (PSt.init st hzf) → ∀ m, m < n → RawFree (pipeRun m (PSt.init st hzf)))
    (kstar : Nat) (hnf : ∀ j, j < kstar → (singleStep (singleRun j st)).fault = none)
    (hh : singleDone (singleRun kstar st) = true ∨ (singleStep (singleRun kstar st)).fault.isSome = true) :
    ∃ N, N ≤ 5 * (kstar + 2) ∧
      (¬ runOK N (PSt.init st hzf) ∨ isDone (pipeRun N (PSt.init st hzf)) = true) := by
  obtain ⟨e, _⟩ := hS.follows hP kstar (fun j hj => .inr (hnf j hj))
  apply terminates_raw st hzf (hS.progOK hP) (hS.icoh hP) hraw kstar
  rw [e kstar (Nat.le_refl _), ((SOK_run prog hP st hS kstar).agree hP.len hP.wf).fault]
  exact hh

theorem fault_agrees_single_raw (prog : List Instr) (hP : ProgWF prog) (st : St) (hS : SOK prog st)
    (hzf : Bool) (n : Nat) (hr : runOK n (PSt.init st hzf))
    (hraw : ∀ m, m < n → RawFree (pipeRun m (PSt.init st hzf))) (ft : PFault)
    (hft : (step (pipeRun n (PSt.init st hzf))).fault = some ft) :
    ∃ k, k ≤ n ∧ (∀ j, j < k → (singleStep (singleRun j st)).fault = none) ∧
      (singleStep (singleRun k st)).fault = some (ft.addr, ft.fault) ∧ (singleRun k st).pc = ft.addr ∧
      (step (pipeRun n (PSt.init st hzf))).p.st.regs = (singleRun k st).regs ∧
      (step (pipeRun n (PSt.init st hzf))).p.st.output = (singleRun k st).output := by
  obtain ⟨k, -, hk, hnf, hfk, hpc, hregs, hout⟩ :=
    fault_agrees_run_raw _ (PInv_init st hzf (hS.progOK hP) (hS.icoh hP)) (absF_init st hzf) n hr hraw ft hft
  rw [abs_init] at hnf hfk hpc hregs hout
  obtain ⟨e, f⟩ := hS.follows hP k (fun j hj => .inl (hnf j hj))
  rw [e k (Nat.le_refl k)] at hfk hpc hregs hout
  exact ⟨k, Nat.le_of_lt hk, fun j hj => (f j hj).1,
    by rw [← ((SOK_run prog hP st hS k).agree hP.len hP.wf).fault]; exact hfk, hpc, hregs, hout⟩

end ArchSim.Pipe
