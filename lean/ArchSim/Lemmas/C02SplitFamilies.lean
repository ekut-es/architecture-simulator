/-
C02 (data path): what "the two implementations agree" means (`Agree`; in general position — any address, any pc —
`AgreeAt`), and the instruction families that cannot fault. Two arguments carry them all, `agree_seq` (at most a register
is written) and `agree_jump` (the pc is redirected); each family supplies its ALU result, register file and control signals.
-/
import ArchSim.Lemmas.C02SplitStages
import ArchSim.Lemmas.C02SplitArith

namespace ArchSim.Lemmas.C02Split
open ArchSim ArchSim.Rv ArchSim.Pipe

/-- State after `cycles += 1` and a successful IF. -/
def sIF (s : St) : St := { s with cycles := s.cycles + 1, pc := s.pc + 4 }
/-- State of single-cycle mode when `behavior()` is called. -/
def sSingle (s : St) : St := { s with cycles := s.cycles + 1, instrs := s.instrs + 1 }

/-- The ID/EX register of instruction `i` at address `a` whose operands were read from `regs`
    (general position: any address, any register file). -/
def dAt (i : Instr) (a : Int) (regs : Nat → Nat) : Latch :=
  { instr := i, addr := a, pc4 := a + 4, rr := accessRegs i regs, wreg := writeReg i }

/-- Single-cycle mode about to run `behavior()` of the instruction at address `a` in state `t`
    (pc at the instruction, instruction already counted). -/
def sAt (t : St) (a : Int) : St := { t with pc := a, instrs := t.instrs + 1 }

theorem sAt_sIF (s : St) : sAt (sIF s) s.pc = sSingle s := rfl

theorem ifStage_eq (s : St) (i : Instr) (hic : s.imem.cache = none) (hi : s.imem.instrAt s.pc = some i)
    (h1 : s.pc < 16384) :
    ifStage { s with cycles := s.cycles + 1 } =
      (sIF s, some { instr := i, addr := s.pc, pc4 := s.pc + 4 }) := by
  simp [ifStage, hi, IMem.fetch_uncached hic hi h1, sIF]

theorem splitStep_eq (s : St) (i : Instr) (hic : s.imem.cache = none) (hi : s.imem.instrAt s.pc = some i)
    (h1 : s.pc < 16384) :
    splitStep s = completeIDEX (some (dAt i s.pc s.regs)) (sIF s) := by
  rw [splitStep_eq_complete, ifStage_eq s i hic hi h1]
  simp only [idStage_some, idLatch, idStall_off, dAt, sIF]

theorem singleStep_eq (s : St) (i : Instr) (hic : s.imem.cache = none) (hi : s.imem.instrAt s.pc = some i)
    (h1 : s.pc < 16384) :
    singleStep s = singleTail i (sSingle s) := by
  simp only [singleStep_unfold, hi, afterFetch, IMem.fetch_uncached hic hi h1, Nat.add_zero]
  rfl

theorem singleTail_nonLoad (i : Instr) (s2 : St) (h : i.op.ty ≠ .memI) :
    singleTail i s2 =
      match (behavior i s2).fault with
      | some ft => { st := (behavior i s2).st, fault := some (s2.pc, ft) }
      | none => { st := { (behavior i s2).st with pc := ((behavior i s2).st.pc + 4) % 4294967296 },
                  fault := none } := by
  simp only [singleTail, h, if_false]
  cases (behavior i s2).fault <;> rfl

/-! ### what a single-cycle step leaves alone, for every state -/

theorem singleTail_frame (i : Instr) (s : St) :
    (singleTail i s).st.imem = s.imem ∧ (singleTail i s).st.instrs = s.instrs ∧
    (singleTail i s).st.regs = (behavior i s).st.regs ∧
    ((singleTail i s).st.pc = s.pc ∨ ∃ x, (singleTail i s).st.pc = x % 4294967296) ∧
    ∀ a f, (singleTail i s).fault = some (a, f) →
      a = s.pc ∧ ((behavior i s).fault = some f ∨ i.op.ty = .memI ∧ ∃ e, f = .mem e) := by
  have hb := And.intro (behavior_imem i s) (behavior_instrs i s)
  unfold singleTail
  simp only
  cases hf : (behavior i s).fault with
  | some ft =>
    exact ⟨hb.1, hb.2, rfl, .inl (by rw [behavior_fault_st hf]), fun a f h => by cases h; exact ⟨rfl, .inl rfl⟩⟩
  | none =>
    simp only
    by_cases hty : i.op.ty = .memI
    · -- the display re-read of a load: `behavior` of a load leaves the pc alone
      have hpc := behavior_memI_pc i s hty
      rw [if_pos hty]
      cases memoryAccess i _ none (behavior i s).st.mem false with
      | none => exact ⟨hb.1, hb.2, rfl, .inl hpc, fun a f h => by cases h; exact ⟨rfl, .inr ⟨hty, _, rfl⟩⟩⟩
      | some o =>
        dsimp only
        cases o.res with
        | error e => exact ⟨hb.1, hb.2, rfl, .inl hpc, fun a f h => by cases h; exact ⟨rfl, .inr ⟨hty, _, rfl⟩⟩⟩
        | ok v => exact ⟨hb.1, hb.2, rfl, .inr ⟨_, rfl⟩, fun a f h => nomatch h⟩
    · rw [if_neg hty]
      exact ⟨hb.1, hb.2, rfl, .inr ⟨_, rfl⟩, fun a f h => nomatch h⟩

theorem singleStep_frame (s : St) :
    (singleStep s).st.imem = (if (s.imem.instrAt s.pc).isSome then (s.imem.fetch s.pc).imem else s.imem) ∧
    (singleStep s).st.instrs = s.instrs + (if (s.imem.instrAt s.pc).isSome then 1 else 0) ∧
    ((singleStep s).st.regs = s.regs ∨
      ∃ i s2, (singleStep s).st.regs = (behavior i s2).st.regs ∧ s2.regs = s.regs) ∧
    ((singleStep s).st.pc = s.pc ∨ ∃ x, (singleStep s).st.pc = x % 4294967296) ∧
    ∀ a f, (singleStep s).fault = some (a, f) → a = s.pc ∧ ∃ i, s.imem.instrAt a = some i := by
  rw [singleStep_unfold]
  cases hi : s.imem.instrAt s.pc with
  | none => exact ⟨rfl, rfl, .inl rfl, .inl rfl, fun a f h => nomatch h⟩
  | some j =>
    dsimp only [Option.isSome_some, if_true]
    rcases (s.imem.fetch s.pc).res with e | _ | i
    · exact ⟨rfl, rfl, .inl rfl, .inl rfl, fun a f h => by cases h; exact ⟨rfl, j, hi⟩⟩
    · exact ⟨rfl, rfl, .inl rfl, .inl rfl, fun a f h => by cases h; exact ⟨rfl, j, hi⟩⟩
    · obtain ⟨h1, h2, h3, h4, h5⟩ := singleTail_frame i (afterFetch s)
      exact ⟨h1, h2, .inr ⟨i, _, h3, rfl⟩, h4, fun a f h => by cases (h5 a f h).1; exact ⟨rfl, j, hi⟩⟩

theorem singleStep_imem (s : St) :
    (singleStep s).st.imem = s.imem ∨ (singleStep s).st.imem = (s.imem.fetch s.pc).imem := by
  rw [(singleStep_frame s).1]
  split
  · exact .inr rfl
  · exact .inl rfl

theorem singleStep_prog (s : St) : (singleStep s).st.imem.prog = s.imem.prog := by
  rcases singleStep_imem s with h | h <;> rw [h]
  exact IMem.fetch_prog ..

theorem singleStep_imem_nocache (s : St) (hc : s.imem.cache = none) : (singleStep s).st.imem = s.imem := by
  rcases singleStep_imem s with e | e
  · exact e
  · exact e.trans (fetch_uncached_frame _ _ hc).1

theorem singleStep_fault_pc {s : St} {a : Int} {f : Fault} (h : (singleStep s).fault = some (a, f)) :
    a = s.pc ∧ ∃ i, s.imem.instrAt a = some i :=
  (singleStep_frame s).2.2.2.2 a f h

theorem completeEXMEM_ok (x : Latch) (s : St) (o : MaOut) (rd : Option Int)
    (hma : memoryAccess x.instr x.result x.rr.d2 s.mem true = some o) (hres : o.res = .ok rd) :
    completeEXMEM (some x) s =
      { st := applyTarget (wbSt (memLatch x rd) (memCount x (memSt s o)))
                (firstFlush (wbLatch (memLatch x rd)).flush (memFlush x) x.flush),
        fault := none } := by
  simp only [completeEXMEM, memStage_some s x o rd hma hres, completeMEMWB_some, latchFlush]
  rfl

theorem completeEXMEM_err (x : Latch) (s : St) (o : MaOut) (e : Cache.Err)
    (hma : memoryAccess x.instr x.result x.rr.d2 s.mem true = some o) (hres : o.res = .error e) :
    completeEXMEM (some x) s =
      { st := { memSt s o with pc := x.addr }, fault := some (x.addr, .mem e) } := by
  simp only [completeEXMEM, memStage_error s x o e hma hres]

theorem completeEXMEM_seq (x : Latch) (s : St) (o : MaOut) (rd : Option Int)
    (hma : memoryAccess x.instr x.result x.rr.d2 s.mem true = some o) (hres : o.res = .ok rd)
    (hfl : memFlush x = none) (hxf : x.flush = none) (hxe : x.exitCode = none) :
    completeEXMEM (some x) s =
      { st := { memSt s o with instrs := s.instrs + 1, regs := wbRegs (memLatch x rd) s.regs },
        fault := none } := by
  rw [completeEXMEM_ok x s o rd hma hres]
  simp only [hfl, hxf, hxe, wbLatch, memLatch, firstFlush, applyTarget, memCount, wbSt, Option.isSome_none,
    Bool.false_eq_true, if_false]
  rfl

theorem completeIDEX_nonEcall (d : Latch) (s : St) (cmp : Option Bool) (result : Option Int)
    (hop : d.instr.op ≠ .ecall) (halu : aluCompute d.instr (aluIn1 d) (aluIn2 d) = some (cmp, result)) :
    completeIDEX (some d) s = completeEXMEM (some (exBase d cmp result)) s := by
  simp only [completeIDEX, exStage_nonEcall s d none none cmp result hop halu]

theorem pc4_wrap (a : Int) (h0 : 0 ≤ a) (h1 : a + 4 < 4294967296) : (a + 4) % 4294967296 = a + 4 := by omega

/-- Same fault; without a fault the same state; with a fault the same state except that single-cycle
    mode has already counted the instruction (`n` = the count before the step). -/
def Agree (n : Nat) (A B : Rv.StepOut) : Prop :=
  A.fault = B.fault ∧ (B.fault = none → A.st = B.st) ∧ (B.fault ≠ none → A.st = { B.st with instrs := n })

theorem Agree.of_eq {n : Nat} {A B : Rv.StepOut} (h : A = B) (hf : B.fault = none) : Agree n A B := by
  subst h; exact ⟨rfl, fun _ => rfl, fun h => absurd hf h⟩

/-- General position. `A` = completion of an instruction at address `a` from a state whose pc is `p`
    (anything: in the pipeline the fetch pc is far ahead), `B` = single-cycle mode on the same state
    with the pc at `a`. Same fault; with a fault the same state except the instruction count (both pcs
    are `a`); without a fault either the two states are equal (the instruction redirected the pc:
    taken branch, jal, jalr, exiting ecall) OR they are equal except for the pc, which the completion
    did not touch (`p`) and single-cycle mode advanced to `a + 4`. -/
def AgreeAt (n : Nat) (p a : Int) (A B : Rv.StepOut) : Prop :=
  A.fault = B.fault ∧
  (B.fault = none → A.st = B.st ∨ (A.st = { B.st with pc := p } ∧ B.st.pc = a + 4)) ∧
  (B.fault ≠ none → A.st = { B.st with instrs := n })

theorem AgreeAt.jump {n : Nat} {p a : Int} {A B : Rv.StepOut} (hB : B.fault = none) (hA : A.fault = none)
    (h : A.st = B.st) : AgreeAt n p a A B :=
  ⟨by rw [hA, hB], fun _ => Or.inl h, fun h => absurd hB h⟩

theorem AgreeAt.seq {n : Nat} {p a : Int} {A B : Rv.StepOut} (hB : B.fault = none) (hA : A.fault = none)
    (h : A.st = { B.st with pc := p }) (hpc : B.st.pc = a + 4) : AgreeAt n p a A B :=
  ⟨by rw [hA, hB], fun _ => Or.inr ⟨h, hpc⟩, fun h => absurd hB h⟩

theorem AgreeAt.toAgree {n : Nat} {a : Int} {A B : Rv.StepOut} (h : AgreeAt n (a + 4) a A B) : Agree n A B := by
  refine ⟨h.1, fun hf => ?_, h.2.2⟩
  rcases h.2.1 hf with h1 | ⟨h1, h2⟩
  · exact h1
  · rw [h1, ← h2]

/-- The claim of every family lemma: instruction `i` at address `a`, its operands read from the registers
    of `t`, completed from `t` through EX, MEM, WB, agrees with single-cycle mode run on `t` with the pc at `a`. -/
abbrev AgreesAt (i : Instr) (t : St) (a : Int) : Prop :=
  AgreeAt t.instrs t.pc a (completeIDEX (some (dAt i a t.regs)) t) (singleTail i (sAt t a))

/-! ## The families that never fault -/

section
variable (i : Instr) (t : St) (a : Int)

/-- The families that at most write a register share this argument: EX/MEM/WB without a flush leave `t`
    with the instruction counted and the register file `R`; `behavior()` produces the same register file. -/
theorem agree_seq (cmp : Option Bool) (result : Option Int) (R : Nat → Nat)
    (he : i.op ≠ .ecall)
    (halu : aluCompute i (aluIn1 (dAt i a t.regs)) (aluIn2 (dAt i a t.regs)) = some (cmp, result))
    (hm1 : i.op.ty ≠ .memI) (hm2 : i.op.ty ≠ .s)
    (hfl : memFlush (exBase (dAt i a t.regs) cmp result) = none)
    (hwb : wbRegs (memLatch (exBase (dAt i a t.regs) cmp result) none) t.regs = R)
    (hbeh : behavior i (sAt t a) = { st := { sAt t a with regs := R }, fault := none })
    (h0 : 0 ≤ a) (h1 : a + 4 < 4294967296) :
    AgreesAt i t a := by
  unfold AgreesAt
  rw [completeIDEX_nonEcall (dAt i a t.regs) t cmp result he halu,
    completeEXMEM_seq (exBase (dAt i a t.regs) cmp result) t _ none (memoryAccess_other i hm1 hm2 _ _ _ _) rfl hfl rfl rfl,
    singleTail_nonLoad i _ hm1, hbeh, hwb]
  exact AgreeAt.seq rfl rfl rfl (pc4_wrap a h0 h1)

theorem agree_r (hty : i.op.ty = .r) (hregs : ∀ r, t.regs r < 4294967296)
    (h0 : 0 ≤ a) (h1 : a + 4 < 4294967296) :
    AgreesAt i t a := by
  obtain ⟨v, hv, hw⟩ := aluCompute_r i _ _ hty (hregs i.rs1) (hregs i.rs2)
  refine agree_seq i t a none (some v) (setReg t.regs i.rd (aluRR i.op (t.regs i.rs1) (t.regs i.rs2)))
    (ne_of_ty_ne (by rw [hty]; decide)) ?_ (by rw [hty]; decide) (by rw [hty]; decide) ?_ ?_ ?_ h0 h1
  · simp only [dAt, aluIn1, aluIn2, ctlOf, hty, accessRegs]; exact hv
  · simp only [memFlush, exBase, dAt, ctlOf, hty]; rfl
  · simp only [wbRegs, wbData, memLatch, exBase, dAt, ctlOf, hty, writeReg, writeBack, hw]; rfl
  · rw [behavior_r i _ hty]; rfl

theorem agree_i (hty : i.op.ty = .i) (hj : i.op ≠ .jalr) (he : i.op ≠ .ecall)
    (hb : i.op ≠ .ebreak) (hregs : ∀ r, t.regs r < 4294967296) (h0 : 0 ≤ a) (h1 : a + 4 < 4294967296) :
    AgreesAt i t a := by
  obtain ⟨v, hv, hw⟩ := aluCompute_i i _ i.imm hty hj he hb (hregs i.rs1)
  refine agree_seq i t a none (some v) (setReg t.regs i.rd (aluRI i.op (t.regs i.rs1) i.imm)) he ?_
    (by rw [hty]; decide) (by rw [hty]; decide) ?_ ?_ ?_ h0 h1
  · simp only [dAt, aluIn1, aluIn2, ctlOf, hty, hj, if_false, accessRegs]; exact hv
  · simp only [memFlush, exBase, dAt, ctlOf, hty, hj, if_false]; rfl
  · simp only [wbRegs, wbData, memLatch, exBase, dAt, ctlOf, hty, hj, if_false, writeReg, writeBack, hw]; rfl
  · rw [behavior_i i _ hty hj he hb]; rfl

theorem agree_shift (hty : i.op.ty = .shiftI)
    (hregs : ∀ r, t.regs r < 4294967296) (hi0 : 0 ≤ i.imm) (hi1 : i.imm < 32) (h0 : 0 ≤ a) (h1 : a + 4 < 4294967296) :
    AgreesAt i t a := by
  have hj : i.op ≠ .jalr := ne_of_ty_ne (by rw [hty]; decide)
  obtain ⟨v, hv, hw⟩ := aluCompute_shift i _ hty (hregs i.rs1) hi0 hi1
  refine agree_seq i t a none (some v) (setReg t.regs i.rd (aluRI i.op (t.regs i.rs1) i.imm))
    (ne_of_ty_ne (by rw [hty]; decide)) ?_ (by rw [hty]; decide) (by rw [hty]; decide) ?_ ?_ ?_ h0 h1
  · simp only [dAt, aluIn1, aluIn2, ctlOf, hty, hj, if_false, accessRegs]; exact hv
  · simp only [memFlush, exBase, dAt, ctlOf, hty, hj, if_false]; rfl
  · simp only [wbRegs, wbData, memLatch, exBase, dAt, ctlOf, hty, hj, if_false, writeReg, writeBack, hw]; rfl
  · rw [behavior_shiftI i _ hty]; rfl

theorem agree_lui (hl : i.op = .lui) (h0 : 0 ≤ a) (h1 : a + 4 < 4294967296) :
    AgreesAt i t a := by
  refine agree_seq i t a none none (setReg t.regs i.rd (wrapU (i.imm * 4096))) (by rw [hl]; decide) ?_
    (by rw [hl]; decide) (by rw [hl]; decide) ?_ ?_ ?_ h0 h1
  · simp only [aluCompute, hl, Op.ty, if_true]
  · simp only [memFlush, exBase, dAt, ctlOf, hl, Op.ty, if_true]; rfl
  · simp only [wbRegs, wbData, memLatch, exBase, dAt, ctlOf, hl, Op.ty, if_true, writeReg, writeBack, accessRegs]; rfl
  · rw [behavior_u i _ (by rw [hl]; rfl), if_pos hl]; rfl

/-- auipc: `alu_src_1 = false` selects the address of the instruction, not the (advanced) pc. -/
theorem agree_auipc (hty : i.op.ty = .u) (hl : i.op ≠ .lui) (h0 : 0 ≤ a) (h1 : a + 4 < 4294967296) :
    AgreesAt i t a := by
  refine agree_seq i t a none (some (a + i.imm * 4096)) (setReg t.regs i.rd (wrapU (a + i.imm * 4096)))
    (ne_of_ty_ne (by rw [hty]; decide)) ?_ (by rw [hty]; decide) (by rw [hty]; decide) ?_ ?_ ?_ h0 h1
  · simp only [aluCompute, dAt, aluIn1, aluIn2, ctlOf, hty, hl, if_false, accessRegs]; rfl
  · simp only [memFlush, exBase, dAt, ctlOf, hty, hl, if_false]; rfl
  · simp only [wbRegs, wbData, memLatch, exBase, dAt, ctlOf, hty, hl, if_false, writeReg, writeBack]; rfl
  · rw [behavior_u i _ hty, if_neg hl]; rfl

/-- The three redirecting families share this argument: MEM flushes to `T`, bumps a counter, WB writes `R`;
    `behavior()` does the same and leaves the pc at `P` with `P + 4 ≡ T`: it stores the target minus 4 because
    its caller (`singleTail`) adds 4 unconditionally. -/
theorem agree_jump (cmp : Option Bool) (result : Option Int)
    (T P : Int) (R : Nat → Nat) (nb np : Nat) (he : i.op ≠ .ecall)
    (halu : aluCompute i (aluIn1 (dAt i a t.regs)) (aluIn2 (dAt i a t.regs)) = some (cmp, result))
    (hm1 : i.op.ty ≠ .memI) (hm2 : i.op.ty ≠ .s)
    (hfl : memFlush (exBase (dAt i a t.regs) cmp result) = some T)
    (hcnt : memCount (exBase (dAt i a t.regs) cmp result) t = { t with branches := nb, procs := np })
    (hwb : wbRegs (memLatch (exBase (dAt i a t.regs) cmp result) none) t.regs = R)
    (hbeh : behavior i (sAt t a) =
      { st := { sAt t a with regs := R, pc := P, branches := nb, procs := np }, fault := none })
    (hT : (P + 4) % 4294967296 = T % 4294967296) :
    AgreesAt i t a := by
  unfold AgreesAt
  rw [completeIDEX_nonEcall (dAt i a t.regs) t cmp result he halu,
    completeEXMEM_ok (exBase (dAt i a t.regs) cmp result) t _ none (memoryAccess_other i hm1 hm2 _ _ _ _) rfl, hfl,
    show memSt t { mem := t.mem, extra := 0, res := .ok none } = t from rfl, hcnt, singleTail_nonLoad i _ hm1, hbeh]
  refine AgreeAt.jump rfl rfl ?_
  simp only [applyTarget, wbSt, hT]
  rw [← hwb]
  rfl

/-- jal: `jump` ⇒ flush to `pc + imm`, `rd := pc + 4`, procedure counter. -/
theorem agree_jal (hty : i.op.ty = .j) :
    AgreesAt i t a := by
  have hop := ty_j i.op hty
  have hfl : memFlush (exBase (dAt i a t.regs) none none) = some (i.imm + a) := by
    simp only [memFlush, exBase, dAt, ctlOf, hty, accessRegs]; rfl
  refine agree_jump i t a none none (i.imm + a) (a + (i.imm - 4)) (setReg t.regs i.rd (wrapU (a + 4)))
    t.branches (t.procs + 1) (ne_of_ty_ne (by rw [hty]; decide)) ?_ (by rw [hty]; decide) (by rw [hty]; decide)
    hfl ?_ ?_ ?_ (by congr 1; omega)
  · simp only [aluCompute, hty]
  · rw [memCount, hfl]
    simp only [Option.isSome_some, if_true, exBase, dAt, hop, Op.ty, reduceCtorEq, if_false]
  · simp only [wbRegs, wbData, memLatch, exBase, dAt, ctlOf, hty, writeReg, writeBack]; rfl
  · rw [behavior_j i _ hty]; rfl

/-- Branches: taken ⇔ the MEM stage flushes to `pc + imm` and counts the branch. -/
theorem agree_b (hty : i.op.ty = .b) (hregs : ∀ r, t.regs r < 4294967296)
    (h0 : 0 ≤ a) (h1 : a + 4 < 4294967296) :
    AgreesAt i t a := by
  have he : i.op ≠ .ecall := ne_of_ty_ne (by rw [hty]; decide)
  have hm1 : i.op.ty ≠ .memI := by rw [hty]; decide
  have hm2 : i.op.ty ≠ .s := by rw [hty]; decide
  have halu : aluCompute i (aluIn1 (dAt i a t.regs)) (aluIn2 (dAt i a t.regs)) =
      some (some (branchCond i.op (t.regs i.rs1) (t.regs i.rs2)), none) := by
    simp only [dAt, aluIn1, aluIn2, ctlOf, hty, accessRegs]
    exact aluCompute_b i _ _ hty (hregs i.rs1) (hregs i.rs2)
  have hwb : ∀ c, wbRegs (memLatch (exBase (dAt i a t.regs) c none) none) t.regs = t.regs := fun c => by
    simp only [wbRegs, memLatch, exBase, dAt, writeBack, hty]; rfl
  by_cases hc : branchCond i.op (t.regs i.rs1) (t.regs i.rs2) = true
  · rw [hc] at halu
    have hfl : memFlush (exBase (dAt i a t.regs) (some true) none) = some (i.imm + a) := by
      simp only [memFlush, exBase, dAt, ctlOf, hty, accessRegs]; rfl
    refine agree_jump i t a _ none (i.imm + a) (a + (i.imm - 4)) t.regs (t.branches + 1) t.procs he halu hm1 hm2
      hfl ?_ (hwb _) ?_ (by congr 1; omega)
    · rw [memCount, hfl]
      simp only [Option.isSome_some, if_true, exBase, dAt, hty]
    · rw [behavior_b i _ hty]
      exact if_pos hc
  · rw [Bool.not_eq_true] at hc
    rw [hc] at halu
    refine agree_seq i t a _ none t.regs he halu hm1 hm2 ?_ (hwb _) ?_ h0 h1
    · simp only [memFlush, exBase, dAt, ctlOf, hty]; rfl
    · rw [behavior_b i _ hty]
      exact if_neg (show ¬ branchCond i.op (t.regs i.rs1) (t.regs i.rs2) = true by rw [hc]; decide)

/-- jalr: `alu_to_pc` ⇒ flush to the ALU result. Both sides wrap the target to 32 bits and clear
    bit 0; `rd = rs1` included (the operand was read in ID, before WB writes the link value). -/
theorem agree_jalr (hop : i.op = .jalr) (hi0 : -2048 ≤ i.imm) (hi1 : i.imm < 2048) :
    AgreesAt i t a := by
  have hty : i.op.ty = .i := by rw [hop]; rfl
  have he : i.op ≠ .ecall := by rw [hop]; decide
  have hb : i.op ≠ .ebreak := by rw [hop]; decide
  have hj := eq_true hop
  have ht := jalr_target (t.regs i.rs1) i.imm hi0 hi1
  generalize hT : wrapU ((t.regs i.rs1 : Int) + i.imm) = tgt at ht
  have hfl : memFlush (exBase (dAt i a t.regs) none (some ((tgt - tgt % 2 : Nat) : Int))) =
      some ((tgt - tgt % 2 : Nat) : Int) := by
    simp only [memFlush, exBase, dAt, ctlOf, hty, hj, if_true]; rfl
  refine agree_jump i t a none _ _ (((tgt - tgt % 2 : Nat) : Int) - 4) (setReg t.regs i.rd (wrapU (a + 4)))
    t.branches t.procs he ?_ (by rw [hty]; decide) (by rw [hty]; decide)
    hfl ?_ ?_ ?_ (by rw [Int.sub_add_cancel])
  · simp only [aluCompute, dAt, aluIn1, aluIn2, ctlOf, accessRegs, hty, hj, he, hb, if_true, if_false, hT]
  · rw [memCount, hfl]
    simp only [Option.isSome_some, if_true, exBase, dAt, hop, Op.ty, reduceCtorEq, if_false]
  · simp only [wbRegs, wbData, memLatch, exBase, dAt, ctlOf, hty, hj, if_true, writeReg, writeBack]; rfl
  · rw [behavior_jalr i _ hop]; simp only [sAt, ht]; rfl
end

end ArchSim.Lemmas.C02Split
