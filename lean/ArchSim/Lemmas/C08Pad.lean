/-
The static register-dependence relation between instructions (`conflict`) and `HazardFree` programs (no
dependence at distance 1 or 2): the ID hazard test never fires against fall-through neighbours of such a
program (`idStall_hazardFree`). Of nop padding the module has `pad_off` (an index that is not a multiple of 3
holds a nop), from which `Props.C08.pad_hazard_free` concludes that a padded program is hazard-free, and the
layout `pad_at` (instruction `m` sits at index `3 m`), `pad_length`. `readsReg`, `conflict`, `HazardFree` and the hazard test are
in namespace `Lemmas.C07` (the straight-line count of C07 assumes `HazardFree` too), `nop`, `pad` and the rest
in `Lemmas.C08`.
-/
import ArchSim.Model.Pipe
import ArchSim.Lemmas.C02SplitStages

namespace ArchSim.Lemmas.C07
open ArchSim ArchSim.Rv ArchSim.Pipe

/-- Does instruction `i` read register `r` (per the read addresses of `access_register_file`)? -/
def readsReg (i : Instr) (r : Nat) : Bool :=
  (accessRegs i (fun _ => 0)).a1 == some r || (accessRegs i (fun _ => 0)).a2 == some r

/-- `c` reads a non-x0 register that `w` writes. -/
def conflict (c w : Instr) : Bool :=
  match writeReg w with
  | none => false
  | some r => r != 0 && readsReg c r

theorem accessRegs_a1 (i : Instr) (regs regs' : Nat → Nat) :
    (accessRegs i regs).a1 = (accessRegs i regs').a1 := by
  unfold accessRegs; split <;> rfl

theorem accessRegs_a2 (i : Instr) (regs regs' : Nat → Nat) :
    (accessRegs i regs).a2 = (accessRegs i regs').a2 := by
  unfold accessRegs; split <;> rfl

theorem hazardWith_some (c : Instr) (regs : Nat → Nat) (x : Latch) :
    hazardWith (accessRegs c regs) (some x) = conflict c x.instr := by
  unfold hazardWith conflict readsReg
  rw [accessRegs_a1 c regs (fun _ => 0), accessRegs_a2 c regs (fun _ => 0)]
  rfl

theorem hazardWith_none (rr : RegRead) : hazardWith rr none = false := rfl

/-- No instruction reads a non-x0 register written by one of the two instructions before it. -/
def HazardFree (prog : List Instr) : Prop :=
  ∀ j k : Nat, ∀ c w : Instr, prog[j]? = some c → prog[k]? = some w → k < j → j ≤ k + 2 →
    conflict c w = false

instance (prog : List Instr) : Decidable (HazardFree prog) :=
  decidable_of_iff
    (∀ j : Fin prog.length, ∀ k : Fin prog.length, k.1 < j.1 → j.1 ≤ k.1 + 2 →
      conflict prog[j.1] prog[k.1] = false)
    (by
      unfold HazardFree
      constructor
      · intro h j k c w hj hk h1 h2
        obtain ⟨hjl, rfl⟩ := List.getElem?_eq_some_iff.1 hj
        obtain ⟨hkl, rfl⟩ := List.getElem?_eq_some_iff.1 hk
        exact h ⟨j, hjl⟩ ⟨k, hkl⟩ h1 h2
      · intro h j k h1 h2
        exact h j.1 k.1 _ _ (List.getElem?_eq_getElem j.2) (List.getElem?_eq_getElem k.2) h1 h2)

/-- The register `l` is empty or holds a program instruction one or two places before instruction `a`. -/
def Neighbour (prog : List Instr) (a : Nat) (l : Option Latch) : Prop :=
  ∀ x, l = some x → ∃ b, b < a ∧ a ≤ b + 2 ∧ prog[b]? = some x.instr

end ArchSim.Lemmas.C07

namespace ArchSim.Lemmas.C08
open ArchSim ArchSim.Rv ArchSim.Pipe ArchSim.Lemmas.C02Split ArchSim.Lemmas.C07

/-- `addi x0, x0, 0` -/
def nop : Instr := { op := .addi, rd := 0, rs1 := 0, imm := 0 }

/-- Every instruction followed by two nops. -/
def pad : List Instr → List Instr
  | [] => []
  | i :: is => i :: nop :: nop :: pad is

theorem pad_length (prog : List Instr) : (pad prog).length = 3 * prog.length := by
  induction prog with
  | nil => rfl
  | cons i is ih => simp [pad, ih]; omega

theorem pad_off (prog : List Instr) (q : Nat) (x : Instr) (h : (pad prog)[q]? = some x)
    (hq : q % 3 ≠ 0) : x = nop := by
  induction prog generalizing q with
  | nil => simp [pad] at h
  | cons i is ih =>
    match q, h, hq with
    | 0, _, hq => simp at hq
    | 1, h, _ => simp [pad] at h; exact h.symm
    | 2, h, _ => simp [pad] at h; exact h.symm
    | q' + 3, h, hq =>
      have h' : (pad is)[q']? = some x := by simpa [pad] using h
      exact ih q' h' (by omega)

theorem pad_at (prog : List Instr) (m : Nat) : (pad prog)[3 * m]? = prog[m]? := by
  induction prog generalizing m with
  | nil => simp [pad]
  | cons i is ih =>
    cases m with
    | zero => simp [pad]
    | succ m =>
      have : 3 * (m + 1) = 3 * m + 3 := by omega
      rw [this]
      simpa [pad] using ih m

theorem hazardWith_neighbour (prog : List Instr) (hfree : HazardFree prog) (a : Nat) (c : Instr)
    (hc : prog[a]? = some c) (regs : Nat → Nat) (l : Option Latch)
    (h : Neighbour prog a l) :
    hazardWith (accessRegs c regs) l = false := by
  cases l with
  | none => rfl
  | some x =>
    obtain ⟨b, h1, h2, hb⟩ := h x rfl
    rw [hazardWith_some]
    exact hfree a b c x.instr hc hb h1 h2

theorem idStall_hazardFree (prog : List Instr) (hfree : HazardFree prog) (hz : Bool) (a : Nat)
    (c : Instr) (hc : prog[a]? = some c) (regs : Nat → Nat) (l1 l2 : Option Latch)
    (h1 : Neighbour prog a l1) (h2 : Neighbour prog a l2) :
    idStall hz (accessRegs c regs) l1 l2 = false := by
  unfold idStall
  rw [hazardWith_neighbour prog hfree a c hc regs l1 h1, hazardWith_neighbour prog hfree a c hc regs l2 h2]
  simp

end ArchSim.Lemmas.C08
