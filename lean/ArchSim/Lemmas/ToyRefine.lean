/-
What one whole TOY instruction does, field by field over an arithmetic on naturals (`aluN`), and the two theories that
rest on it: the refinement by the reference machine `ToyRef` (C06: `abs`, `BInv`, `step_refines`), and `run_forever`, a
checker for programs that neither store nor halt — such a run is decided by pc, accumulator and instruction register,
and a finite set of these keys closed under one instruction is an invariant of it.
-/
import ArchSim.Lemmas.ToyMem
import ArchSim.Lemmas.ToyStep
import ArchSim.Spec.ToyRef

namespace ArchSim.Toy
open ArchSim ArchSim.ToyRef

/-! ### One instruction, field by field -/

/-- Accumulator result of `behavior`, on naturals. -/
def aluN (op a m : Nat) : Nat :=
  match op with
  | 1 => m
  | 3 => (a + m) % 65536
  | 4 => w16 ((a : Int) - m)
  | 5 => a ||| m
  | 6 => a &&& m
  | 7 => a ^^^ m
  | 8 => 65535 - a % 65536
  | 9 => (a + 1) % 65536
  | 10 => w16 ((a : Int) - 1)
  | 11 => 0
  | _ => a

/-- BRZ taken. -/
def takenN (op accu : Nat) : Bool := op == 2 && accu == 0

theorem behavior_fields (i : TInstr) (s : TSt) :
    (behavior i s).accu = aluN i.opcode s.accu (rd s i.addr) ∧
    (behavior i s).mem = (if i.opcode = 0 then wr s i.addr s.accu else s.mem) ∧
    (behavior i s).pc = (if takenN i.opcode s.accu then i.addr else s.pc) ∧
    (behavior i s).branches = s.branches + (if takenN i.opcode s.accu then 1 else 0) ∧
    (behavior i s).cycles = s.cycles ∧ (behavior i s).instrs = s.instrs ∧
    (behavior i s).maxPc = s.maxPc := by
  obtain ⟨op, a⟩ := i
  unfold behavior
  dsimp only
  split
  case h_3 =>
    -- BRZ is the only instruction whose effect depends on the accumulator
    by_cases h : s.accu = 0 <;> simp [aluN, takenN, h]
  case h_13 =>
    -- the catch-all arm: the opcode is none of 0..11
    obtain ⟨n, rfl⟩ : ∃ n, op = n + 12 := ⟨op - 12, by simp only [imp_false] at *; omega⟩
    exact ⟨rfl, rfl, rfl, rfl, rfl, rfl, rfl⟩
  all_goals exact ⟨rfl, rfl, rfl, rfl, rfl, rfl, rfl⟩

theorem behavior_mem (i : TInstr) (s : TSt) :
    (behavior i s).mem = if i.opcode = 0 then wr s i.addr s.accu else s.mem := (behavior_fields i s).2.1

/-- The model's `rd` as a function of the memory, the only part of the state it reads; `step_loaded` and
    `stepKey` apply it to a memory that is not the field of a state at hand (`nextMem`). -/
def rdM (m : Mem.Mem) (a : Nat) : Nat :=
  match Mem.read m 16 (a : Int) with
  | some (.ok v) => v
  | _ => 0

theorem rd_eq_rdM (s : TSt) (a : Nat) : rd s a = rdM s.mem a := rfl

theorem rdM_toy (m : Mem.Mem) (hc : m.cfg = Mem.toyCfg) (a : Nat) (ha : a < 4096) :
    rdM m a = m.cells (a : Int) % 65536 := by
  simp [rdM, read_toy m hc a ha]

/-- The address of the instruction executed next, after the first half of `i`. -/
def nextAddr (t : TSim) (i : TInstr) : Nat := if takenN i.opcode t.s.accu then i.addr else t.s.pc

/-- The memory after the first half of `i`. -/
def nextMem (t : TSim) (i : TInstr) : Mem.Mem := if i.opcode = 0 then wr t.s i.addr t.s.accu else t.s.mem

theorem step_fields (t : TSim) (i : TInstr) :
    (secondBody (firstBody t i) i).s.accu = aluN i.opcode t.s.accu (rd t.s i.addr) ∧
    (secondBody (firstBody t i) i).s.mem = nextMem t i ∧
    (secondBody (firstBody t i) i).s.pc = (nextAddr t i + 1) % 4096 ∧
    (secondBody (firstBody t i) i).s.branches = t.s.branches + (if takenN i.opcode t.s.accu then 1 else 0) ∧
    (secondBody (firstBody t i) i).s.cycles = t.s.cycles + 2 ∧
    (secondBody (firstBody t i) i).s.instrs = t.s.instrs + 1 ∧
    (secondBody (firstBody t i) i).s.maxPc = t.s.maxPc := by
  obtain ⟨ha, hm, hp, hb, hc, hi, hx⟩ := behavior_fields i t.s
  simp [secondBody, firstBody, ha, hm, hp, hb, hc, hi, hx, nextMem, nextAddr]

theorem step_loaded (t : TSim) (i : TInstr) :
    (secondBody (firstBody t i) i).s.loaded =
      if ((nextAddr t i : Nat) : Int) ≤ t.s.maxPc.getD (-1)
      then some (decode (rdM (nextMem t i) (nextAddr t i))) else none := by
  obtain ⟨-, hm, hp, -, -, -, hx⟩ := behavior_fields i t.s
  simp only [secondBody, firstBody, hx, hp, rd_eq_rdM, hm]
  cases hm : t.s.maxPc with
  | none =>
    have : ¬ ((nextAddr t i : Nat) : Int) ≤ -1 := by omega
    simp [this]
  | some mp => simp only [nextAddr, nextMem, Option.getD_some]; rfl

/-! ### Abstraction and invariant -/

/-- The 4096 × 16-bit memory seen by the reference machine. -/
def absMem (m : Mem.Mem) : BitVec 12 → BitVec 16 := fun x => BitVec.ofNat 16 (m.cells (x.toNat : Int))

/-- Abstraction at an instruction boundary. The simulator has already incremented its program
    counter past the pre-loaded instruction, so the reference pc is `pc − 1` (mod 4096); the
    reference machine is halted iff no instruction is loaded; `maxPc = None` (nothing ever
    loaded) is read as −1. -/
def abs (t : TSim) : RefSt :=
  { accu := BitVec.ofNat 16 t.s.accu
    pc := BitVec.ofNat 12 (t.s.pc + 4095)
    mem := absMem t.s.mem
    maxPc := t.s.maxPc.getD (-1)
    halted := isDone t
    instrs := t.s.instrs
    cycles := t.s.cycles
    branches := t.s.branches }

/-- Boundary invariant: at an instruction boundary, with the TOY memory configuration, a 16-bit
    accumulator, a 12-bit pc, and the instruction register — if anything is loaded — holding the
    decoding of the *current* memory word at `pc − 1`. -/
def BInv (t : TSim) : Prop :=
  t.nextCycle = 1 ∧ t.s.mem.cfg = Mem.toyCfg ∧ t.s.accu < 65536 ∧ t.s.pc < 4096 ∧
  (t.s.loaded = none ∨ t.s.loaded = some (decode (rd t.s ((t.s.pc + 4095) % 4096))))

/-! ### Arithmetic -/

/-- the opcode `decode` makes of the top four bits `q` of a word -/
def opN (q : Nat) : Nat := if q ≤ 11 then q else 12

theorem aluN_lt (op a m : Nat) (ha : a < 65536) (hm : m < 65536) : aluN op a m < 65536 := by
  have hmod : ∀ x : Nat, x % 65536 < 65536 := fun x => Nat.mod_lt x (by decide)
  have hw : ∀ x : Int, w16 x < 65536 := fun x => by unfold w16; omega
  rcases op with _|_|_|_|_|_|_|_|_|_|_|_|n
  · exact ha
  · exact hm
  · exact ha
  · exact hmod _
  · exact hw _
  · exact Nat.or_lt_two_pow (n := 16) ha hm
  · exact Nat.and_lt_two_pow (n := 16) _ hm
  · exact Nat.xor_lt_two_pow (n := 16) ha hm
  · exact Nat.lt_of_le_of_lt (Nat.sub_le _ _) (by decide)
  · exact hmod _
  · exact hw _
  · exact (by decide : (0 : Nat) < 65536)
  · exact ha

theorem ofNat16_mod (c : Nat) : BitVec.ofNat 16 (c % 65536) = BitVec.ofNat 16 c :=
  BitVec.eq_of_toNat_eq (by simp only [BitVec.toNat_ofNat]; omega)

theorem ofNat16_w16_sub (a m : Nat) :
    BitVec.ofNat 16 (w16 ((a : Int) - m)) = BitVec.ofNat 16 a - BitVec.ofNat 16 m := by
  apply BitVec.eq_of_toNat_eq
  simp only [w16, BitVec.toNat_sub, BitVec.toNat_ofNat]
  omega

theorem aluN_abs (op a m : Nat) :
    BitVec.ofNat 16 (aluN op a (m % 65536)) = alu op (BitVec.ofNat 16 a) (BitVec.ofNat 16 m) := by
  rcases op with _|_|_|_|_|_|_|_|_|_|_|_|n
  · rfl
  · exact ofNat16_mod m
  · rfl
  · exact (ofNat16_mod _).trans ((BitVec.ofNat_add a _).trans (congrArg _ (ofNat16_mod m)))
  · exact (ofNat16_w16_sub a _).trans (congrArg _ (ofNat16_mod m))
  · exact BitVec.ofNat_or.trans (congrArg _ (ofNat16_mod m))
  · exact BitVec.ofNat_and.trans (congrArg _ (ofNat16_mod m))
  · exact BitVec.ofNat_xor.trans (congrArg _ (ofNat16_mod m))
  · apply BitVec.eq_of_toNat_eq
    simp only [aluN, alu, BitVec.toNat_not, BitVec.toNat_ofNat]
    omega
  · exact (ofNat16_mod _).trans (BitVec.ofNat_add a 1)
  · exact ofNat16_w16_sub a 1
  · rfl
  · rfl

theorem alu_opN (q : Nat) (a m : BitVec 16) : alu (opN q) a m = alu q a m := by
  unfold opN
  split
  · rfl
  · obtain ⟨n, rfl⟩ : ∃ n, q = n + 12 := ⟨q - 12, by omega⟩
    rfl

theorem opN_eq_iff {k : Nat} (hk : k ≤ 11) (q : Nat) : opN q = k ↔ q = k := by
  unfold opN; split <;> omega

theorem opN_eq_two (q : Nat) : opN q = 2 ↔ q = 2 := opN_eq_iff (by omega) q

theorem opN_beq_two (q : Nat) : (opN q == 2) = (q == 2) := by
  rw [Bool.eq_iff_iff, beq_iff_eq, beq_iff_eq]; exact opN_eq_two q

theorem ofNat16_beq_zero (a : Nat) (ha : a < 65536) : (BitVec.ofNat 16 a == 0#16) = (a == 0) := by
  rw [Bool.eq_iff_iff]; simp only [beq_iff_eq]
  constructor
  · intro h
    have := congrArg BitVec.toNat h
    simp at this; omega
  · intro h; subst h; rfl

theorem ofNat12_succ (p : Nat) : BitVec.ofNat 12 (p + 4095) + 1 = BitVec.ofNat 12 p :=
  (BitVec.ofNat_add (p + 4095) 1).symm.trans
    (BitVec.eq_of_toNat_eq (by simp only [BitVec.toNat_ofNat]; exact Nat.add_mod_right p 4096))

theorem ofNat12_pred (p : Nat) : BitVec.ofNat 12 ((p + 1) % 4096 + 4095) = BitVec.ofNat 12 p := by
  apply BitVec.eq_of_toNat_eq
  simp only [BitVec.toNat_ofNat]
  omega

theorem decode_fields (w : Nat) (hw : w < 65536) :
    (decode w).opcode = opN (w / 4096) ∧ (decode w).addr = w % 4096 := by
  have : w / 4096 % 16 = w / 4096 := by omega
  simp [decode, opN, this]

theorem encode_lt (i : TInstr) (hop : i.opcode ≤ 12) (haddr : i.addr < 4096) : encode i < 65536 := by
  unfold encode; omega

theorem decode_encode_self (i : TInstr) (hop : i.opcode ≤ 12) (haddr : i.addr < 4096) :
    decode (encode i) = i := by
  obtain ⟨op, a⟩ := i
  simp only [encode, decode] at *
  have h1 : (op * 4096 + a) / 4096 % 16 = op := by omega
  have h2 : (op * 4096 + a) % 4096 = a := by omega
  simp only [h1, h2]
  by_cases h : op ≤ 11
  · rw [if_pos h]
  · rw [if_neg h, show op = 12 by omega]

theorem ofNat12_mod (c : Nat) : BitVec.ofNat 12 (c % 4096) = BitVec.ofNat 12 c := by
  apply BitVec.eq_of_toNat_eq; simp

theorem opcodeOf_ofNat (w : Nat) (hw : w < 65536) : opcodeOf (BitVec.ofNat 16 w) = w / 4096 := by
  simp [opcodeOf, Nat.mod_eq_of_lt hw]

theorem addrOf_ofNat (w : Nat) : addrOf (BitVec.ofNat 16 w) = BitVec.ofNat 12 w := by
  apply BitVec.eq_of_toNat_eq; simp [addrOf]

theorem absMem_at (m : Mem.Mem) (a : Nat) (ha : a < 4096) :
    absMem m (BitVec.ofNat 12 a) = BitVec.ofNat 16 (m.cells (a : Int)) := by
  simp [absMem, Nat.mod_eq_of_lt ha]

theorem absMem_putCell (m : Mem.Mem) (a v : Nat) (ha : a < 4096) :
    absMem (putCell m a v) = fun x => if x = BitVec.ofNat 12 a then BitVec.ofNat 16 v else absMem m x := by
  funext x
  simp only [absMem, putCell_cells]
  by_cases hx : x = BitVec.ofNat 12 a
  · subst hx
    simp [Nat.mod_eq_of_lt ha, ofNat16_mod]
  · have : ¬ ((x.toNat : Int) = (a : Int)) := by
      intro h
      apply hx
      apply BitVec.eq_of_toNat_eq
      simp [Nat.mod_eq_of_lt ha]; omega
    simp [hx, this]

/-- One step of the running reference machine, given what it fetches and decides. -/
theorem refStep_fetch {r : RefSt} (h : r.halted = false) {op : Nat} {a pc' : BitVec 12} {taken : Bool}
    (hop : opcodeOf (r.mem r.pc) = op) (ha : addrOf (r.mem r.pc) = a)
    (ht : (op == 2 && r.accu == 0) = taken) (hpc : (if taken = true then a else r.pc + 1) = pc') :
    refStep r =
      { accu := alu op r.accu (r.mem a)
        pc := pc'
        mem := if op = 0 then (fun x => if x = a then r.accu else r.mem x) else r.mem
        maxPc := r.maxPc
        halted := decide (r.maxPc < (pc'.toNat : Int))
        instrs := r.instrs + 1
        cycles := r.cycles + 2
        branches := r.branches + if taken = true then 1 else 0 } := by
  subst hop ha ht hpc
  simp [refStep, h]

theorem refStep_halted_id {r : RefSt} (h : r.halted = true) : refStep r = r := by simp [refStep, h]

/-! ### The simulation step -/

theorem nextMem_cfg {t : TSim} {i : TInstr} (hc : t.s.mem.cfg = Mem.toyCfg) (ha : i.addr < 4096) :
    (nextMem t i).cfg = Mem.toyCfg := by
  unfold nextMem; split
  · rw [wr_toy t.s hc i.addr ha]; exact hc
  · exact hc

/-- The simulation step: one `step()` of the simulator from a boundary state is one `refStep` of
    the reference machine, and the boundary invariant is preserved. -/
theorem step_refines {t : TSim} (h : BInv t) : abs (stepT t) = refStep (abs t) ∧ BInv (stepT t) := by
  obtain ⟨h1, hc, hacc, hpc, hir⟩ := h
  rcases hir with hl | hl
  · -- nothing loaded: both sides are the identity
    have hd := isDone_none hl
    rw [stepT_done (Inv_of_one h1) hd]
    exact ⟨(refStep_halted_id (by simp [abs, hd])).symm, h1, hc, hacc, hpc, Or.inl hl⟩
  · -- an instruction is loaded
    have hpa : (t.s.pc + 4095) % 4096 < 4096 := by omega
    generalize hwdef : rd t.s ((t.s.pc + 4095) % 4096) = w at hl
    have hwc : w = t.s.mem.cells (((t.s.pc + 4095) % 4096 : Nat) : Int) % 65536 := by
      rw [← hwdef, rd_toy t.s hc _ hpa]
    have hw : w < 65536 := by omega
    obtain ⟨hop, haddr⟩ := decode_fields w hw
    generalize hi : decode w = i at hl hop haddr
    have hia : i.addr < 4096 := by omega
    have hnh : (abs t).halted = false := by simp [abs, isDone, hl]
    -- the reference machine fetches the same word
    have hfetch : (abs t).mem (abs t).pc = BitVec.ofNat 16 w := by
      show absMem t.s.mem (BitVec.ofNat 12 (t.s.pc + 4095)) = _
      rw [← ofNat12_mod, absMem_at _ _ hpa, hwc, ofNat16_mod]
    have hopc : opcodeOf ((abs t).mem (abs t).pc) = w / 4096 := by rw [hfetch, opcodeOf_ofNat w hw]
    have hadr : addrOf ((abs t).mem (abs t).pc) = BitVec.ofNat 12 i.addr := by
      rw [hfetch, addrOf_ofNat, haddr, ofNat12_mod]
    have hacc0 : ((abs t).accu == 0) = (t.s.accu == 0) := ofNat16_beq_zero _ hacc
    have htaken : (w / 4096 == 2 && (abs t).accu == 0) = takenN i.opcode t.s.accu := by
      rw [hacc0, takenN, hop, opN_beq_two]
    have hna : nextAddr t i < 4096 := by unfold nextAddr; split <;> omega
    have hnpc : (if takenN i.opcode t.s.accu = true then BitVec.ofNat 12 i.addr else (abs t).pc + 1) =
        BitVec.ofNat 12 (nextAddr t i) := by
      unfold nextAddr
      split
      · rfl
      · exact ofNat12_succ _
    have hnc := nextMem_cfg (t := t) hc hia
    rw [stepT_some h1 hl]
    obtain ⟨step_accu, step_mem, step_pc, step_branches, step_cycles, step_instrs, step_maxPc⟩ :=
      step_fields t i
    refine ⟨?_, ?_⟩
    · rw [refStep_fetch hnh hopc hadr htaken hnpc]
      apply RefSt.ext
      · -- accu
        show BitVec.ofNat 16 (secondBody (firstBody t i) i).s.accu = _
        rw [step_accu, hop, rd_toy t.s hc _ hia, aluN_abs, alu_opN]
        exact congrArg _ (absMem_at _ _ hia).symm
      · -- pc
        show BitVec.ofNat 12 ((secondBody (firstBody t i) i).s.pc + 4095) = _
        rw [step_pc, ofNat12_pred]
      · -- mem
        show absMem (secondBody (firstBody t i) i).s.mem = _
        rw [step_mem, nextMem, hop]
        by_cases h0 : w / 4096 = 0
        · have : opN (w / 4096) = 0 := (opN_eq_iff (Nat.zero_le _) _).2 h0
          rw [if_pos this, if_pos h0, wr_toy t.s hc _ hia, absMem_putCell _ _ _ hia]
          rfl
        · have : ¬ opN (w / 4096) = 0 := by rw [opN_eq_iff (Nat.zero_le _)]; exact h0
          rw [if_neg this, if_neg h0]
          rfl
      · -- maxPc
        show (secondBody (firstBody t i) i).s.maxPc.getD (-1) = t.s.maxPc.getD (-1)
        rw [step_maxPc]
      · -- halted
        show isDone (secondBody (firstBody t i) i) = decide (t.s.maxPc.getD (-1) < _)
        rw [isDone, step_loaded]
        have : (BitVec.ofNat 12 (nextAddr t i)).toNat = nextAddr t i := by
          simp [Nat.mod_eq_of_lt hna]
        rw [this]
        by_cases hle : ((nextAddr t i : Nat) : Int) ≤ t.s.maxPc.getD (-1)
        · have : ¬ (t.s.maxPc.getD (-1) < ((nextAddr t i : Nat) : Int)) := by omega
          simp [hle, this]
        · have : t.s.maxPc.getD (-1) < ((nextAddr t i : Nat) : Int) := by omega
          simp [hle, this]
      · exact step_instrs
      · exact step_cycles
      · exact step_branches
    · refine ⟨rfl, ?_, ?_, ?_, ?_⟩
      · rw [step_mem]; exact hnc
      · rw [step_accu]
        exact aluN_lt _ _ _ hacc (by rw [rd_toy t.s hc _ hia]; omega)
      · rw [step_pc]; omega
      · rw [step_loaded]
        split
        · right
          rw [rd_eq_rdM, step_mem, step_pc]
          have : ((nextAddr t i + 1) % 4096 + 4095) % 4096 = nextAddr t i := by omega
          rw [this]
        · left; rfl

theorem iter_refines {t : TSim} (h : BInv t) (n : Nat) :
    abs (iter stepT n t) = iter refStep n (abs t) := by
  induction n generalizing t with
  | zero => rfl
  | succ n ih =>
    rw [iter_succ, iter_succ, ih (step_refines h).2, (step_refines h).1]

/-- Self-modifying demo for the non-vacuity examples: `LDA 4; STO 2; NOP; NOP` with
    `mem[4] = 0x9000` (the word of `INC`). The store replaces the `NOP` at address 2 by `INC`
    before it is fetched. -/
def demoSelfMod : TSim := loadImage {} [⟨1, 4⟩, ⟨0, 2⟩, ⟨12, 0⟩, ⟨12, 0⟩] [(4, 0x9000)]

instance (t : TSim) : Decidable (BInv t) := by unfold BInv; infer_instance

theorem iter_stepT_next {t : TSim} (h1 : t.nextCycle = 1) (n : Nat) : (iter stepT n t).nextCycle = 1 :=
  iter_preserves (P := fun t : TSim => t.nextCycle = 1) (fun _ => stepT_next) n h1

theorem stepT_counters {t : TSim} (h1 : t.nextCycle = 1) :
    (isDone t = false → (stepT t).s.instrs = t.s.instrs + 1 ∧ (stepT t).s.cycles = t.s.cycles + 2) ∧
    (isDone t = true → stepT t = t) := by
  refine ⟨?_, fun hd => stepT_done (Inv_of_one h1) hd⟩
  intro hd
  obtain ⟨i, hl⟩ := loaded_of_not_done hd
  obtain ⟨-, -, -, -, hc, hi, -⟩ := step_fields t i
  rw [stepT_some h1 hl]; exact ⟨hi, hc⟩

/-! ### Programs that never store and never halt -/

/-- What decides how a program goes on as long as it does not store: pc, accumulator, instruction
    register. -/
abbrev Key := Nat × Nat × Option TInstr

def key (t : TSim) : Key := (t.s.pc, t.s.accu, t.s.loaded)

/-- One instruction on the key, over a memory `m` that is not written: `step_fields` and
    `step_loaded` restricted to pc, accumulator and instruction register. -/
def stepKey (m : Mem.Mem) (mp : Option Int) (k : Key) : Key :=
  match k.2.2 with
  | none => k
  | some i =>
    let a := if takenN i.opcode k.2.1 then i.addr else k.1
    ((a + 1) % 4096, aluN i.opcode k.2.1 (rdM m i.addr),
      if (a : Int) ≤ mp.getD (-1) then some (decode (rdM m a)) else none)

/-- an instruction is loaded and it is not `STO` -/
def keyRuns (k : Key) : Bool :=
  match k.2.2 with
  | some i => i.opcode != 0
  | none => false

theorem key_stepT {t : TSim} (h1 : t.nextCycle = 1) (hk : keyRuns (key t) = true) :
    isDone t = false ∧ key (stepT t) = stepKey t.s.mem t.s.maxPc (key t) ∧
    (stepT t).s.mem = t.s.mem ∧ (stepT t).s.maxPc = t.s.maxPc := by
  cases hl : t.s.loaded with
  | none => simp [keyRuns, key, hl] at hk
  | some i =>
    have h0 : i.opcode ≠ 0 := by simpa [keyRuns, key, hl] using hk
    obtain ⟨ha, hm, hp, -, -, -, hx⟩ := step_fields t i
    have hm' : nextMem t i = t.s.mem := if_neg h0
    refine ⟨isDone_some hl, ?_, ?_, ?_⟩
    · simp only [key, stepKey, hl, stepT_some h1 hl, ha, hp, step_loaded, hm', nextAddr, rd_eq_rdM]
    · rw [stepT_some h1 hl, hm, hm']
    · rw [stepT_some h1 hl, hx]

/-- **A program that never stores and never halts.** The check is finite: a list `reach` of keys
    that holds the key of the start state, on each of which an instruction other than `STO` is
    loaded (`keyRuns`), and which one instruction over the start memory does not leave (`stepKey`).
    Then `run` with any fuel `n` is still running and has not written memory. -/
theorem run_forever {m : Mem.Mem} {mp : Option Int} (reach : List Key)
    (hcl : ∀ k ∈ reach, keyRuns k = true ∧ stepKey m mp k ∈ reach)
    (n : Nat) {t : TSim} (h1 : t.nextCycle = 1) (hm : t.s.mem = m) (hmp : t.s.maxPc = mp)
    (hk : key t ∈ reach) : isDone (run n t) = false ∧ (run n t).s.mem = m := by
  induction n generalizing t with
  | zero => exact ⟨(key_stepT h1 (hcl _ hk).1).1, hm⟩
  | succ n ih =>
    obtain ⟨hd, hk', hm', hmp'⟩ := key_stepT h1 (hcl _ hk).1
    rw [run_succ_not_done hd]
    exact ih (stepT_next h1) (hm'.trans hm) (hmp'.trans hmp) (by rw [hk', hm, hmp]; exact (hcl _ hk).2)

/-- the keys of the first `p` instruction boundaries from `t` -/
def orbit (t : TSim) (p : Nat) : List Key := (List.range p).map fun j => key (iter stepT j t)

/-- `run_forever` with the first `p` keys of the run itself as the set: a program that is back at an
    earlier key after `p` instructions, without a `STO` on the way, never stores and never halts. -/
theorem run_forever_orbit {t : TSim} (p n : Nat) (h1 : t.nextCycle = 1) (hk : key t ∈ orbit t p)
    (hcl : ∀ k ∈ orbit t p, keyRuns k = true ∧ stepKey t.s.mem t.s.maxPc k ∈ orbit t p) :
    isDone (run n t) = false ∧ (run n t).s.mem = t.s.mem :=
  run_forever _ hcl n h1 rfl rfl hk

end ArchSim.Toy
