/-
`Sim.step` in one equation.  A call of `step()` that executes does the same in both modes — replace the pipeline state,
set `has_started`, report `not is_done()` or the exception; only WHAT the pipeline state becomes and WHICH exception is
raised depends on the mode: `exec`.
-/
import ArchSim.Model.Sim

namespace ArchSim.Sim
open ArchSim ArchSim.Rv ArchSim.Pipe
variable {s : RSim}

/-- What a call of `step()` that executes does, by mode: the pipeline state it leaves and the exception it raises. -/
def exec (five : Bool) (p : PSt) : PSt × Option (Int × Option Instr × Fault) :=
  if five then ((Pipe.step p).p, (Pipe.step p).fault.map fun f => (f.addr, some f.instr, f.fault))
  else ({ p with st := (singleStep p.st).st },
        (singleStep p.st).fault.map fun af => (af.1, p.st.imem.instrAt af.1, af.2))

/-- `is_done()` looks at the mode and the pipeline state only. -/
def done (five : Bool) (p : PSt) : Bool := isDone { five := five, p := p }

theorem isDone_eq (s : RSim) : isDone s = done s.five s.p := rfl

theorem step_done (h : isDone s = true) : step s = { sim := s, ret := false, fault := none } := by
  simp [step, h]

theorem step_exec (hd : isDone s = false) :
    step s = { sim := { s with p := (exec s.five s.p).1, started := true },
               ret := (exec s.five s.p).2.isNone && !done s.five (exec s.five s.p).1,
               fault := (exec s.five s.p).2 } := by
  unfold step exec
  rw [hd]
  cases s.five with
  | true => cases hf : (Pipe.step s.p).fault <;> simp [hf, isDone_eq]
  | false => cases hf : (singleStep s.p.st).fault <;> simp [hf, isDone_eq]

theorem step_fault_iff {x : Int × Option Instr × Fault} :
    (step s).fault = some x ↔ (isDone s = false ∧ (exec s.five s.p).2 = some x) := by
  cases hd : isDone s with
  | true => rw [step_done hd]; simp
  | false => rw [step_exec hd]; simp

theorem exec_five (p : PSt) :
    (exec true p).1 = (Pipe.step p).p ∧ ((exec true p).2 = none ↔ (Pipe.step p).fault = none) :=
  ⟨rfl, by simp [exec]⟩

theorem exec_single (p : PSt) :
    (exec false p).1.st = (singleStep p.st).st ∧ ((exec false p).2 = none ↔ (singleStep p.st).fault = none) :=
  ⟨rfl, by simp [exec]⟩

end ArchSim.Sim
