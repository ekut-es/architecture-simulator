/-
Every instruction object the assembler back end builds from a syntax tree of the grammar satisfies `BuiltObj` —
`Instr.WF` without its proviso that the operation is in the supported set (no CSR form, `fence`, `ebreak`) — because each
comes from `ecall`, an `ebreak` word, or `instantiate` of a group entry.
-/
import ArchSim.Lemmas.C14Canon
import ArchSim.Lemmas.C02SplitArith

namespace ArchSim.Lemmas.E2E
open ArchSim ArchSim.PP ArchSim.Rv ArchSim.Asm ArchSim.Lemmas.C14

/-- What `Instr.WF` asks of an instruction object apart from a supported operation: register numbers below 32, the
    stored immediate in the range of the format, `ecall` with the fields its constructor forces. Every object of a
    built program is of this kind (`buildInstrs_objs`). -/
def BuiltObj (i : Instr) : Prop :=
  i.rd < 32 ∧ i.rs1 < 32 ∧ i.rs2 < 32 ∧ immRange i.op i.imm ∧ (i.op = .ecall → i.rd = 0 ∧ i.rs1 = 0 ∧ i.imm = 0)

theorem BuiltObj.wf {i : Instr} (h : BuiltObj i) (hs : i.op.supported = true) : i.WF := ⟨hs, h⟩

/-- `hne` excludes nothing `instantiate` builds: the mnemonic of a tree of the grammar is not `ecall`
    (`GrammarForm.ne_ecall`); `ecall` objects come from the bare word. -/
theorem builtObj_mkInstr (op : Op) (rd rs1 rs2 : Nat) (raw aux : Int) (h1 : rd < 32) (h2 : rs1 < 32)
    (h3 : rs2 < 32) (hne : op ≠ .ecall) : BuiltObj (mkInstr op rd rs1 rs2 raw aux) :=
  ⟨h1, h2, h3, ArchSim.Lemmas.C02Split.immRange_storedImm op raw, fun he => absurd he hne⟩

theorem immRange_csr (op : Op) (v : Int) (h : op.ty = .csr ∨ op.ty = .csri ∨ op.ty = .fence) :
    immRange op v := by
  unfold immRange
  rcases h with h | h | h <;> simp [h]

theorem instantiate_spec (ls : Labels) (addr : Int) (k : Nat) (line : String) (pi : PInstr) (i : Instr)
    (hg : GrammarForm pi) (h : instantiate ls addr k line pi = .ok i) :
    BuiltObj i ∧ ∃ mn, itemMnemonic (.grp pi) = some mn ∧ Op.ofMnemonic mn = some i.op := by
  have hbuilt := C04.instantiate_built h
  refine ⟨?_, C04.piMnemonic pi, by cases pi <;> rfl, hbuilt.op_eq⟩
  have hne : i.op ≠ .ecall := fun e => hg.ne_ecall (ofMnemonic_eq (e ▸ hbuilt.op_eq)).symm
  have rri {a b v op} (ha : a < 32) (hb : b < 32) (hr : C04.BuiltRRI a b v op i) : BuiltObj i := by
    cases hr with
    | i => exact builtObj_mkInstr _ _ _ _ _ _ ha hb (by decide) hne
    | s => exact builtObj_mkInstr _ _ _ _ _ _ (by decide) hb ha hne
    | b => exact builtObj_mkInstr _ _ _ _ _ _ (by decide) ha hb hne
  cases hbuilt with
  | rtype a b c ho => exact builtObj_mkInstr _ _ _ _ _ _ hg.2.1 hg.2.2.1 hg.2.2.2 hne
  | utype a v ho => exact builtObj_mkInstr _ _ _ _ _ _ hg.2 (by decide) (by decide) hne
  | mem ho hr | rri ho hr => exact rri hg.2.1 hg.2.2 hr
  | btypeLabel a b ho => exact builtObj_mkInstr _ _ _ _ _ _ (by decide) hg.2.1 hg.2.2 hne
  | jalImm rd | jalLabel rd => exact builtObj_mkInstr _ _ _ _ _ _ hg (by decide) (by decide) hne
  | csr a c b ho =>
    exact ⟨hg.2.1, hg.2.2, Nat.zero_lt_succ _, immRange_csr _ _ (.inl (by simpa [ho] using ty_csr _ hg.1)), (absurd · hne)⟩
  | csri a c u ho =>
    exact ⟨hg.2, Nat.zero_lt_succ _, Nat.zero_lt_succ _, immRange_csr _ _ (.inr (.inl (by simpa [ho] using ty_csri _ hg.1))),
      (absurd · hne)⟩
  | fence a b => exact ⟨by decide, by decide, by decide, immRange_csr _ _ (.inr (.inr rfl)), by decide⟩

theorem buildInstrs_mem (ls : Labels) (es : List TEntry) : ∀ (addr : Int) (prog : List Instr),
    buildInstrs ls es addr = .ok prog → ∀ i ∈ prog,
      (i = { op := .ecall }) ∨ (i = { op := .ebreak, imm := 1 } ∧ ∃ e ∈ es, e.2.2 = .str "ebreak") ∨
      ∃ e ∈ es, ∃ pi a, e.2.2 = .grp pi ∧ instantiate ls a e.1 e.2.1 pi = .ok i := by
  induction es with
  | nil =>
    intro addr prog h i hi
    simp only [buildInstrs, Except.ok.injEq] at h
    subst h; cases hi
  | cons e rest ih =>
    obtain ⟨k, line, it⟩ := e
    intro addr prog h i hi
    obtain ⟨o, tl, rfl, htl, hE⟩ := C04.buildInstrs_cons_ok ls k line it rest addr prog h
    rcases List.mem_append.mp hi with hi | hi
    · obtain rfl := Option.mem_toList.mp hi
      cases hE with
      | ecall => exact .inl rfl
      | ebreak => exact .inr (.inl ⟨rfl, _, List.mem_cons_self, rfl⟩)
      | grp hin => exact .inr (.inr ⟨_, List.mem_cons_self, _, addr, rfl, hin⟩)
    · rcases ih _ tl htl i hi with h1 | ⟨h2, e, he, hx⟩ | ⟨e, he, hx⟩
      · exact .inl h1
      · exact .inr (.inl ⟨h2, e, List.mem_cons_of_mem _ he, hx⟩)
      · exact .inr (.inr ⟨e, List.mem_cons_of_mem _ he, hx⟩)

theorem buildInstrs_objs (ls : Labels) (es : List TEntry) (addr : Int) (prog : List Instr)
    (hg : GrammarEntries es) (h : buildInstrs ls es addr = .ok prog) : ∀ i ∈ prog, BuiltObj i := by
  intro i hi
  rcases buildInstrs_mem ls es addr prog h i hi with h1 | ⟨h2, _⟩ | ⟨e, he, pi, a, hpi, hin⟩
  · subst h1; unfold BuiltObj; decide
  · subst h2; unfold BuiltObj; decide
  · exact (instantiate_spec ls a e.1 e.2.1 pi i (hg e he pi hpi) hin).1

end ArchSim.Lemmas.E2E
