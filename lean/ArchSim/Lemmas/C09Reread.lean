/-
Uncounted reads of the data cache (C09): they never change the counters nor add cycles, whatever the
state, and on a `Touched` block (what every accepted read, write-back write and write-through write hit
leaves behind) they change nothing at all; hence re-reading an address, or another address of the same
block, is neutral.
-/
import ArchSim.Lemmas.C09Commute

namespace ArchSim.Lemmas.C09
open ArchSim ArchSim.Cache ArchSim.Spec.TagCache

section
variable {σ : Type} {P : PolicyOps σ} {ok : σ → Prop} {s : DSys σ}

theorem read_uncounted_frame (s : DSys σ) (bits : Nat) (a : Int) :
    (s.read P bits a false).sys.hits = s.hits ∧ (s.read P bits a false).sys.accesses = s.accesses ∧
    (s.read P bits a false).sys.lastHit = s.lastHit ∧ (s.read P bits a false).extra = 0 := by
  obtain ⟨_, _, h, _⟩ := C03.readBlockSys_shape (P := P) s (C03.dec s a)
  rcases C03.read_sys_cases (P := P) s bits a false with ⟨h1, h2⟩ | ⟨_, hc, _⟩
  · rw [h1, h]
    exact ⟨rfl, rfl, rfl, h2⟩
  · cases hc

/-- `g` is the geometry of `s`, named so that `s` may be the result of an earlier operation. -/
theorem read_of_touched {g : Geo} (hg : s.geo = g) {bits : Nat} {a : Int} {vals : List Nat}
    (h : Touched P s (decode g.idxBits g.blkBits a) vals) :
    s.read P bits a false =
      { sys := s, res := fromBlock bits (decode g.idxBits g.blkBits a) vals, extra := 0 } := by
  subst hg
  obtain ⟨cs, i, hs, hf, ha, hv⟩ := h
  have h1 := C03.read_eq bits a false (C03.readBlockSys_hit (readBlock_hit hs hf ha))
  rw [h1, hv]
  have : s.sets.set (decode s.geo.idxBits s.geo.blkBits a).setIdx { cs with pol := cs.pol } = s.sets :=
    set_self hs
  simp [this]

theorem Touched.congr {d d' : DAddr} {vals : List Nat} (h : Touched P s d vals)
    (h1 : d'.setIdx = d.setIdx) (h2 : d'.tag = d.tag) : Touched P s d' vals := by
  obtain ⟨cs, i, hs, hf, ha, hv⟩ := h
  exact ⟨cs, i, h1 ▸ hs, h2 ▸ hf, ha, hv⟩

/-- Two addresses in the same cache block. -/
def SameBlock (g : Geo) (a a' : Int) : Prop :=
  wrap32 a / 2 ^ (g.blkBits + 2) = wrap32 a' / 2 ^ (g.blkBits + 2)

theorem SameBlock.decode {g : Geo} {a a' : Int} (h : SameBlock g a a') :
    (decode g.idxBits g.blkBits a').setIdx = (decode g.idxBits g.blkBits a).setIdx ∧
    (decode g.idxBits g.blkBits a').tag = (decode g.idxBits g.blkBits a).tag := by
  unfold SameBlock at h
  rw [C03.decode_setIdx, C03.decode_setIdx, C03.decode_tag, C03.decode_tag, h]
  exact ⟨rfl, rfl⟩

theorem read_wrap_congr (s : DSys σ) (bits : Nat) {a a' : Int} (h : wrap32 a' = wrap32 a)
    (counted : Bool) : s.read P bits a' counted = s.read P bits a counted := by
  unfold DSys.read
  rw [C03.decode_congr _ _ a' a h]

theorem reread_same_address (hP : PolicyOK P s.geo.assoc ok) (hI : PolicyIdem P ok)
    (hinv : Inv ok s) {bits : Nat} {a : Int} (hacc : Accepted bits a) (counted : Bool) {a' : Int}
    (haa : wrap32 a' = wrap32 a) :
    (s.read P bits a counted).sys.read P bits a' false =
      { sys := (s.read P bits a counted).sys, res := (s.read P bits a counted).res, extra := 0 } := by
  rw [read_wrap_congr _ bits haa]
  obtain ⟨hsim, ht⟩ := read_spec hP hinv hacc counted
  obtain ⟨vals, ht, hres⟩ := ht hI
  rw [read_of_touched (geo_of_erase_eq (.read bits a counted) hsim.erase_eq) ht, hres]

end

end ArchSim.Lemmas.C09
