/-
Digit strings produced by `Fmt.natStr` / `Fmt.padLeft` read back, with the independent reader of `Spec/Digits.lean`,
as the number they were produced from, in every base from 2 to 16.  The reader is a Horner evaluation: on the reversed
list of digit values it computes `valRev`, and the printer's digit list `digitsRev` has value `n`.
-/
import ArchSim.Model.Fmt
import ArchSim.Spec.Digits

namespace ArchSim.Lemmas.C17
open ArchSim.Fmt ArchSim.Spec.Digits

theorem digitVal_digitChar : ∀ d < 16, digitVal (digitChar d) = some d := by decide

theorem digitChar_ne_space : ∀ d < 16, digitChar d ≠ ' ' := by decide

theorem digitChar_upperHex : ∀ d < 16, isUpperHexDigit (digitChar d) := by decide

theorem digitChar_eq_zero_iff : ∀ d < 16, (digitChar d = '0' ↔ d = 0) := by decide

theorem digitVal_space : digitVal ' ' = none := by decide
theorem digitVal_minus : digitVal '-' = none := by decide
theorem digitVal_zero : digitVal '0' = some 0 := by decide

/-! ### Horner evaluation -/

/-- Value of a digit list given least significant digit first. -/
def valRev (base : Nat) : List Nat → Nat
  | [] => 0
  | d :: ds => d + base * valRev base ds

theorem ofDigitsAux_append (base acc : Nat) (s t : List Char) :
    ofDigitsAux base acc (s ++ t) = (ofDigitsAux base acc s).bind (fun v => ofDigitsAux base v t) := by
  induction s generalizing acc with
  | nil => simp [ofDigitsAux]
  | cons c cs ih =>
    simp only [List.cons_append, ofDigitsAux]
    cases digitVal c with
    | none => simp
    | some d =>
      by_cases h : d < base
      · simp [h, ih]
      · simp [h]

theorem ofDigits_eq_aux (base : Nat) (s : List Char) (h : s ≠ []) :
    ofDigits base s = ofDigitsAux base 0 s := by
  cases s with
  | nil => exact absurd rfl h
  | cons c cs => rfl

theorem ofDigitsAux_reverse_map (base : Nat) (hb : base ≤ 16) (ds : List Nat)
    (hds : ∀ d ∈ ds, d < base) :
    ofDigitsAux base 0 (ds.reverse.map digitChar) = some (valRev base ds) := by
  induction ds with
  | nil => simp [ofDigitsAux, valRev]
  | cons d ds ih =>
    have hd : d < base := hds d (by simp)
    have ih' := ih (fun x hx => hds x (by simp [hx]))
    simp only [List.reverse_cons, List.map_append, List.map_cons, List.map_nil,
      ofDigitsAux_append, ih', Option.bind_some, ofDigitsAux,
      digitVal_digitChar d (by omega), hd, if_true, valRev]
    congr 1
    rw [Nat.mul_comm]; omega

theorem ofDigitsAux_replicate_zero (base : Nat) (hb : 0 < base) (k : Nat) (s : List Char) :
    ofDigitsAux base 0 (List.replicate k '0' ++ s) = ofDigitsAux base 0 s := by
  induction k with
  | zero => simp
  | succ k ih =>
    simp only [List.replicate_succ, List.cons_append, ofDigitsAux, digitVal_zero, hb, if_true]
    simpa using ih

/-! ### the printer: the digit list `digitsRev` and the numeral `natStr` made of it -/

theorem digitsRev_lt (base : Nat) (hb : 0 < base) (fuel n : Nat) :
    ∀ d ∈ digitsRev base fuel n, d < base := by
  fun_induction digitsRev base fuel n with
  | case1 => simp
  | case2 => simp
  | case3 fuel n hn ih =>
    intro d hd
    rcases List.mem_cons.mp hd with rfl | hd
    · exact Nat.mod_lt _ hb
    · exact ih d hd

theorem valRev_digitsRev (base : Nat) (hb : 2 ≤ base) (fuel n : Nat) (hf : n < fuel) :
    valRev base (digitsRev base fuel n) = n := by
  fun_induction digitsRev base fuel n with
  | case1 => omega
  | case2 => rfl
  | case3 fuel n hn ih =>
    have hlt : n / base < n := Nat.div_lt_self (by omega) hb
    rw [valRev, ih (by omega)]
    exact Nat.mod_add_div n base

theorem digitsRev_length_le (base : Nat) (hb : 0 < base) (fuel n w : Nat) (hn : n < base ^ w) :
    (digitsRev base fuel n).length ≤ w := by
  fun_induction digitsRev base fuel n generalizing w with
  | case1 => simp
  | case2 => simp
  | case3 fuel n h ih =>
    cases w with
    | zero => simp at hn; omega
    | succ w =>
      have := ih w (by rw [Nat.div_lt_iff_lt_mul hb]; simpa [Nat.pow_succ] using hn)
      simp only [List.length_cons]; omega

theorem digitsRev_ne_nil (base fuel n : Nat) (hn : n ≠ 0) (hf : n < fuel) :
    digitsRev base fuel n ≠ [] := by
  cases fuel with
  | zero => omega
  | succ fuel => unfold digitsRev; simp [hn]

theorem digitsRev_getLast_ne_zero (base : Nat) (hb : 2 ≤ base) (fuel n : Nat) (hf : n < fuel) :
    ∀ d ∈ (digitsRev base fuel n).getLast?, d ≠ 0 := by
  fun_induction digitsRev base fuel n with
  | case1 => omega
  | case2 => simp
  | case3 fuel n h ih =>
    have hlt : n / base < n := Nat.div_lt_self (by omega) hb
    cases hq : digitsRev base fuel (n / base) with
    | nil =>
      -- no further digit: `n / base = 0`, so the digit is `n` itself
      have : n / base = 0 := Decidable.byContradiction fun hne =>
        digitsRev_ne_nil base fuel (n / base) hne (by omega) hq
      have hnb : n < base := (Nat.div_eq_zero_iff.mp this).resolve_left (by omega)
      simpa [Nat.mod_eq_of_lt hnb] using h
    | cons d ds =>
      rw [List.getLast?_cons_cons, ← hq]
      exact ih (by omega)

theorem natStr_ne_nil (base n : Nat) : natStr base n ≠ [] := by
  unfold natStr
  split
  · simp
  · next h => simpa using digitsRev_ne_nil base (n + 1) n h (by omega)

theorem ofDigits_natStr (base : Nat) (hb : 2 ≤ base) (hb' : base ≤ 16) (m : Nat) :
    ofDigits base (natStr base m) = some m := by
  rw [ofDigits_eq_aux _ _ (natStr_ne_nil base m)]
  unfold natStr
  split
  · next h => subst h; simp [ofDigitsAux, digitVal_zero]; omega
  · rw [ofDigitsAux_reverse_map base hb' _ (digitsRev_lt base (by omega) _ _),
      valRev_digitsRev base hb _ _ (by omega)]

theorem natStr_length_le (base : Nat) (hb : 0 < base) (m w : Nat) (hw : 1 ≤ w) (hm : m < base ^ w) :
    (natStr base m).length ≤ w := by
  unfold natStr
  split
  · simpa using hw
  · simpa using digitsRev_length_le base hb (m + 1) m w hm

theorem natStr_mem (base : Nat) (hb : 0 < base) (m : Nat) :
    ∀ c ∈ natStr base m, ∃ d < base, c = digitChar d := by
  unfold natStr
  split
  · intro c hc
    refine ⟨0, hb, ?_⟩
    simp at hc; subst hc; decide
  · intro c hc
    simp only [List.mem_map, List.mem_reverse] at hc
    obtain ⟨d, hd, rfl⟩ := hc
    exact ⟨d, digitsRev_lt base hb _ _ d hd, rfl⟩

theorem natStr_head_ne_zero (base : Nat) (hb : 2 ≤ base) (hb' : base ≤ 16) (m : Nat) (hm : m ≠ 0) :
    (natStr base m).head? ≠ some '0' := by
  unfold natStr
  rw [if_neg hm, List.head?_map, List.head?_reverse]
  intro hc
  cases hl : (digitsRev base (m + 1) m).getLast? with
  | none => simp [hl] at hc
  | some d =>
    have hd0 := digitsRev_getLast_ne_zero base hb (m + 1) m (by omega) d (by simp [hl])
    have hdb := digitsRev_lt base (by omega) (m + 1) m d (List.mem_of_getLast? hl)
    simp only [hl, Option.map_some, Option.some.injEq] at hc
    exact hd0 ((digitChar_eq_zero_iff d (by omega)).mp hc)

theorem natStr_zero (base : Nat) : natStr base 0 = ['0'] := by simp [natStr]

/-! ### padding with zeros on the left keeps the value -/

theorem padLeft_length_eq (w : Nat) (s : List Char) (h : s.length ≤ w) : (padLeft w s).length = w := by
  simp [padLeft]; omega

theorem padLeft_ne_nil (w : Nat) (s : List Char) (h : s ≠ []) : padLeft w s ≠ [] := by
  simp [padLeft, h]

theorem ofDigits_padLeft (base : Nat) (hb : 0 < base) (w : Nat) (s : List Char) (h : s ≠ []) :
    ofDigits base (padLeft w s) = ofDigits base s := by
  rw [ofDigits_eq_aux _ _ (padLeft_ne_nil w s h), ofDigits_eq_aux _ _ h]
  exact ofDigitsAux_replicate_zero base hb _ s

theorem padLeft_mem (w : Nat) (s : List Char) : ∀ c ∈ padLeft w s, c = '0' ∨ c ∈ s := by
  intro c hc
  simp only [padLeft, List.mem_append, List.mem_replicate] at hc
  rcases hc with ⟨_, rfl⟩ | hc
  · exact Or.inl rfl
  · exact Or.inr hc

theorem padded_natStr (base : Nat) (hb : 2 ≤ base) (hb' : base ≤ 16) (w m : Nat) (hw : 1 ≤ w)
    (hm : m < base ^ w) :
    ofDigits base (padLeft w (natStr base m)) = some m ∧ (padLeft w (natStr base m)).length = w := by
  constructor
  · rw [ofDigits_padLeft base (by omega) w _ (natStr_ne_nil base m), ofDigits_natStr base hb hb' m]
  · exact padLeft_length_eq w _ (natStr_length_le base (by omega) m w hw hm)

theorem padded_natStr_mem (base : Nat) (hb : 0 < base) (w m : Nat) :
    ∀ c ∈ padLeft w (natStr base m), ∃ d < base, c = digitChar d := by
  intro c hc
  rcases padLeft_mem w _ c hc with rfl | hc
  · exact ⟨0, hb, by decide⟩
  · exact natStr_mem base hb m c hc

theorem padded_natStr_no_space (base : Nat) (hb : 0 < base) (hb' : base ≤ 16) (w m : Nat) :
    ' ' ∉ padLeft w (natStr base m) := by
  intro hc
  obtain ⟨d, hd, h⟩ := padded_natStr_mem base hb w m ' ' hc
  exact digitChar_ne_space d (by omega) h.symm

theorem padded_natStr_upperHex (base : Nat) (hb : 0 < base) (hb' : base ≤ 16) (w m : Nat) :
    ∀ c ∈ padLeft w (natStr base m), isUpperHexDigit c := by
  intro c hc
  obtain ⟨d, hd, rfl⟩ := padded_natStr_mem base hb w m c hc
  exact digitChar_upperHex d (by omega)

/-! ### signed decimal -/

theorem parseSigned_of_ofDigits (s : List Char) (v : Nat) (h : ofDigits 10 s = some v) :
    parseSigned s = some (v : Int) := by
  unfold parseSigned
  split
  · next cs =>
    simp [ofDigits, ofDigitsAux, digitVal_minus] at h
  · simp [h]

theorem parseSigned_minus (cs : List Char) (v : Nat) (h : ofDigits 10 cs = some v) :
    parseSigned ('-' :: cs) = some (-(v : Int)) := by
  simp [parseSigned, h]

theorem parseSigned_intStr (x : Int) : parseSigned (intStr x) = some x := by
  unfold intStr
  split
  · next h =>
    rw [parseSigned_minus _ _ (ofDigits_natStr 10 (by omega) (by omega) _)]
    congr 1; omega
  · next h =>
    rw [parseSigned_of_ofDigits _ _ (ofDigits_natStr 10 (by omega) (by omega) _)]
    congr 1; omega

end ArchSim.Lemmas.C17
