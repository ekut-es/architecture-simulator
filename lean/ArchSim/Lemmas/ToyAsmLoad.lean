/-
TOY assembler, `load` on tokenised programs.  `loadToks` repeats the tail of the model's `load` after
`tokenize ∘ sanitize`; it has a name of its own so that theorems can speak of a token list, which a text determines only
through the scanners.  `LoadOk`: what a successful run looked like — every pass succeeded and the state is
`Toy.loadImage` of the instruction list and the data words; the property theorems are its projections.
-/
import ArchSim.Lemmas.ToyAsmSegment
import ArchSim.Lemmas.ToyLoad

namespace ArchSim.ToyAsm
open ArchSim ArchSim.PP ArchSim.Toy

/-- The `DataOut` record `load` starts the data pass with. -/
def dataInit (ls : Labels) : DataOut :=
  { mem := Mem.Mem.empty Mem.toyCfg, labels := ls, last := 4095, err := none }

/-- `load` after `tokenize ∘ sanitize` succeeded (same text as the model's `load`). -/
def loadToks (t : Toy.TSim) (toks : List Entry) : Toy.TSim × Option AsmErr :=
  let fresh : Toy.TSt := {}
  let t0 := { t with s := fresh }
  match segment toks with
  | .error e => (t0, some e)
  | .ok (data, text') =>
    match processLabels toks [] 0 with
    | .error e => (t0, some e)
    | .ok ls =>
      let d := writeData data { mem := fresh.mem, labels := ls, last := 4095, err := none }
      let t1 := { t0 with s := { fresh with mem := d.mem } }
      match d.err with
      | some e => (t1, some e)
      | none =>
        match buildInstrs text' d.labels with
        | .error e => (t1, some e)
        | .ok is =>
          if (is.length : Int) - 1 > d.last then (t1, some (.memSize 4096))
          else
            let m := writeInstrs d.mem 0 is
            let s : Toy.TSt := { fresh with mem := m, maxPc := some ((is.length : Int) - 1) }
            let s' := match is with
              | [] => s
              | i :: _ => { s with loaded := some i, vis := { pcOld := some 0, ramOut := some (Toy.encode i % 65536) } }
            ({ t0 with s := s' }, none)

theorem load_of_tokens (t : Toy.TSim) {text : String} {toks : List Entry}
    (h : tokenize (sanitize text) = .ok toks) : load t text = loadToks t toks := by
  unfold load loadToks; rw [h]; rfl

/-! ### the pieces of a tokenised program (total versions of the passes) -/

def segData (toks : List Entry) : List Entry :=
  match segment toks with
  | .ok (d, _) => d
  | .error _ => []

def segText (toks : List Entry) : List Entry :=
  match segment toks with
  | .ok (_, x) => x
  | .error _ => []

/-- the label table after `processLabels` (code labels only) -/
def codeLabels (toks : List Entry) : Labels :=
  match processLabels toks [] 0 with
  | .ok ls => ls
  | .error _ => []

/-- result of the data pass -/
def dataOut (toks : List Entry) : DataOut := writeData (segData toks) (dataInit (codeLabels toks))

/-- the final label table (code labels, then variables) -/
def allLabels (toks : List Entry) : Labels := (dataOut toks).labels

/-- the instruction objects of the text segment -/
def instrsOf (toks : List Entry) : List TInstr :=
  match buildInstrs (segText toks) (allLabels toks) with
  | .ok is => is
  | .error _ => []

/-! ### data words as `(address, value)` pairs -/

def valWords (a : Nat) : List String → List (Nat × Nat)
  | [] => []
  | v :: vs => (a, valueToInt v) :: valWords (a + 1) vs

def dataWords (last : Int) : List Entry → List (Nat × Nat)
  | [] => []
  | e :: rest =>
    valWords (last - stmtSize e.2.2 + 1).toNat
        (match e.2.2 with | .varDecl _ vals => vals | _ => []) ++
      dataWords (last - stmtSize e.2.2) rest

theorem writeVals_eq_foldl (vals : List String) (m : Mem.Mem) (a : Int) (h0 : 0 ≤ a) :
    writeVals m a vals = (valWords a.toNat vals).foldl dataStep m := by
  induction vals generalizing m a with
  | nil => rfl
  | cons v vs ih =>
    simp only [writeVals, valWords, List.foldl_cons]
    rw [ih _ (a + 1) (by omega)]
    have : (a + 1).toNat = a.toNat + 1 := by omega
    rw [this]
    congr 1
    simp only [dataStep, Int.toNat_of_nonneg h0]

theorem writeData_mem_eq_foldl (data : List Entry) (o : DataOut) (h : (writeData data o).err = none) :
    (writeData data o).mem = (dataWords o.last data).foldl dataStep o.mem := by
  induction data generalizing o with
  | nil => rfl
  | cons e rest ih =>
    obtain ⟨name, vals, hs, hfit, hnew, heq⟩ := writeData_cons_ok e rest o h
    rw [heq] at h ⊢
    rw [ih _ h]
    simp only [dataWords, hs, stmtSize, List.foldl_append]
    rw [writeVals_eq_foldl _ _ _ hfit]

theorem writeInstrs_eq (is : List TInstr) (m : Mem.Mem) (k : Nat) :
    writeInstrs m k is = loadImage.writeInstrs m k is := by
  induction is generalizing m k with
  | nil => rfl
  | cons i is ih => simp only [writeInstrs, loadImage.writeInstrs, ih]

/-! ### what a successful `loadToks` looked like -/

structure LoadOk (t : Toy.TSim) (toks : List Entry) : Prop where
  seg    : segment toks = .ok (segData toks, segText toks)
  labels : processLabels toks [] 0 = .ok (codeLabels toks)
  dataOk : (dataOut toks).err = none
  build  : buildInstrs (segText toks) (allLabels toks) = .ok (instrsOf toks)
  fits   : ((instrsOf toks).length : Int) - 1 ≤ (dataOut toks).last
  image  : (loadToks t toks).1 = Toy.loadImage t (instrsOf toks) (dataWords 4095 (segData toks))

theorem loadToks_ok (t : Toy.TSim) (toks : List Entry) (h : (loadToks t toks).2 = none) :
    LoadOk t toks := by
  unfold loadToks at h
  simp only at h
  split at h
  · cases h
  · rename_i data text hseg
    split at h
    · cases h
    · rename_i ls hls
      have e1 : segData toks = data := by simp [segData, hseg]
      have e2 : segText toks = text := by simp [segText, hseg]
      have e3 : codeLabels toks = ls := by simp [codeLabels, hls]
      have e4 : dataOut toks = writeData data
          { mem := Mem.Mem.empty Mem.toyCfg, labels := ls, last := 4095, err := none } := by
        simp only [dataOut, e1, e3, dataInit]
      split at h
      · cases h
      · rename_i herr
        split at h
        · cases h
        · rename_i is his
          have e5 : instrsOf toks = is := by
            simp only [instrsOf, allLabels, e2, e4]
            rw [his]
          split at h
          · cases h
          · rename_i hfit
            refine ⟨by rw [e1, e2]; exact hseg, by rw [e3]; exact hls, by rw [e4]; exact herr, ?_, ?_, ?_⟩
            · rw [e2, e5, allLabels, e4]; exact his
            · rw [e5, e4]
              omega
            · rw [e5, e1]
              unfold loadToks
              simp only [hseg, hls]
              simp only [herr, his, if_neg hfit]
              rw [writeInstrs_eq, writeData_mem_eq_foldl _ _ herr]
              unfold loadImage
              cases is <;> rfl

theorem loadToks_ok_of (t : Toy.TSim) (toks : List Entry) (data text : List Entry) (ls : Labels)
    (is : List TInstr)
    (hseg : segment toks = .ok (data, text)) (hls : processLabels toks [] 0 = .ok ls)
    (herr : (writeData data (dataInit ls)).err = none)
    (his : buildInstrs text (writeData data (dataInit ls)).labels = .ok is)
    (hfit : (is.length : Int) - 1 ≤ (writeData data (dataInit ls)).last) :
    (loadToks t toks).2 = none := by
  unfold loadToks
  simp only [hseg, hls]
  simp only [dataInit] at herr his hfit
  simp only [herr, his]
  have : ¬ ((is.length : Int) - 1 > (writeData data
      { mem := Mem.Mem.empty Mem.toyCfg, labels := ls, last := 4095, err := none }).last) := by omega
  rw [if_neg this]

variable {t : Toy.TSim} {toks : List Entry}

/-! ### memory image -/

theorem LoadOk.dataSpec (h : LoadOk t toks) :
    DataSpec (segData toks) (dataInit (codeLabels toks)) (dataOut toks) :=
  writeData_spec _ _ rfl (by simp [dataInit]) h.dataOk

theorem LoadOk.size (h : LoadOk t toks) : (instrsOf toks).length + dataSize (segData toks) ≤ 4096 := by
  have h1 := h.fits
  have h2 := h.dataSpec.last
  simp only [dataInit] at h2
  omega

theorem LoadOk.mem_cells (h : LoadOk t toks) (x : Int) :
    (loadToks t toks).1.s.mem.cells x =
      if 0 ≤ x ∧ x < (instrsOf toks).length
      then encode ((instrsOf toks).getD x.toNat default) % 65536
      else (dataOut toks).mem.cells x := by
  have hsz := h.size
  rw [h.image, loadImage_mem, imageMem]
  have hm : (dataOut toks).mem = dataImage (dataWords 4095 (segData toks)) :=
    writeData_mem_eq_foldl _ _ h.dataOk
  rw [← hm, writeInstrs_cells (instrsOf toks) (dataOut toks).mem h.dataSpec.cfg (by omega) x]

theorem LoadOk.instr_cell (h : LoadOk t toks) (i : Nat) (hi : i < (instrsOf toks).length) :
    (loadToks t toks).1.s.mem.cells (i : Int) = encode (instrsOf toks)[i] % 65536 := by
  rw [h.mem_cells, if_pos (by omega)]
  simp [List.getD_eq_getElem?_getD, List.getElem?_eq_getElem hi]

theorem LoadOk.data_cell (h : LoadOk t toks) (x : Int) (hx : ((instrsOf toks).length : Int) ≤ x) :
    (loadToks t toks).1.s.mem.cells x = (dataOut toks).mem.cells x := by
  rw [h.mem_cells, if_neg (by omega)]

theorem LoadOk.fields (h : LoadOk t toks) :
    (loadToks t toks).1.s.maxPc = some (((instrsOf toks).length : Int) - 1) ∧
    (loadToks t toks).1.s.loaded = (instrsOf toks)[0]? ∧
    (loadToks t toks).1.s.pc = 1 ∧ (loadToks t toks).1.s.accu = 0 ∧
    (loadToks t toks).1.s.cycles = 0 ∧ (loadToks t toks).1.s.instrs = 0 ∧
    (loadToks t toks).1.s.branches = 0 ∧
    (loadToks t toks).1.nextCycle = t.nextCycle ∧ (loadToks t toks).1.started = t.started := by
  rw [h.image]
  obtain ⟨hpc, hacc, hmax, hld, hcy, hin, hbr⟩ := loadImage_fields t (instrsOf toks) (dataWords 4095 (segData toks))
  obtain ⟨hn, hs⟩ := loadImage_next t (instrsOf toks) (dataWords 4095 (segData toks))
  refine ⟨hmax, ?_, hpc, hacc, hcy, hin, hbr, hn, hs⟩
  rw [hld]; cases instrsOf toks <;> rfl

theorem LoadOk.label (h : LoadOk t toks) {a b : List Entry} {k : Nat} {line : String} {s : TStmt}
    {n : String} (hs : toks = a ++ (k, line, s) :: b) (hn : declaredLabel s = some n) :
    lookup (allLabels toks) n = some ((instrCount a : Nat) : Int) := by
  obtain ⟨_, h2⟩ := (processLabels_spec _ _ _ _ h.labels).decl a.length k line s n (by simp [hs]) hn
  apply h.dataSpec.keep
  simpa [dataInit, hs] using h2

theorem LoadOk.buildSpec (h : LoadOk t toks) : BuildSpec (segText toks) (allLabels toks) (instrsOf toks) :=
  buildInstrs_spec _ _ _ h.build

theorem eq_take_cons_drop {α : Type} {l : List α} {j : Nat} {e : α} (h : l[j]? = some e) :
    l = l.take j ++ e :: l.drop (j + 1) := by
  obtain ⟨hj, rfl⟩ := List.getElem?_eq_some_iff.1 h
  rw [List.getElem_cons_drop hj, List.take_append_drop]

theorem loadToks_congr (t : Toy.TSim) {a b : List Entry} (hs : segment a = segment b)
    (hl : processLabels a [] 0 = processLabels b [] 0) : loadToks t a = loadToks t b := by
  unfold loadToks; rw [hs, hl]

end ArchSim.ToyAsm
