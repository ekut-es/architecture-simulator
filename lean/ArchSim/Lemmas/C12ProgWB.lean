/-
C12, the memory table under write-back.  `Evo s s'`: how an operation changes the pair (resident blocks, stored cells
of the backing memory) — no stored cell is ever removed, and a block that stops being resident has been written back
in full.  Every operation of the write-back system, accepted or rejected, is an `Evo` step.
-/
import ArchSim.Lemmas.C12ProgWT

namespace ArchSim.Lemmas.C12Prog
open ArchSim ArchSim.Cache ArchSim.Mem ArchSim.Spec.ByteStore ArchSim.Lemmas.C18 ArchSim.Spec.CacheAbs
open ArchSim.Lemmas.C03 ArchSim.Lemmas.C12

variable {σ : Type} {P : PolicyOps σ} {WFp : σ → Prop}

/-- From `s` to `s'` no stored cell of the backing memory disappears, and every address that was
    resident is still resident or is now a stored cell of the backing memory. -/
def Evo (s s' : DSys σ) : Prop :=
  KeysSub s.mem s'.mem ∧
    ∀ a, resident s a = true → resident s' a = true ∨ ((wrap32 a : Nat) : Int) ∈ s'.mem.keys

theorem Evo.refl (s : DSys σ) : Evo s s := ⟨KeysSub.refl _, fun _ h => Or.inl h⟩

theorem Evo.trans {a b c : DSys σ} (h1 : Evo a b) (h2 : Evo b c) : Evo a c := by
  refine ⟨h1.1.trans h2.1, fun x hx => ?_⟩
  rcases h1.2 x hx with h | h
  · exact h2.2 x h
  · exact Or.inr (h2.1 _ h)

theorem Evo.of_lookup_eq (s s' : DSys σ) (hg : s'.geo = s.geo) (hm : s'.mem = s.mem)
    (hl : ∀ k t, lookup s'.sets k t = lookup s.sets k t) : Evo s s' := by
  refine ⟨by rw [hm]; exact KeysSub.refl _, fun a ha => Or.inl ?_⟩
  unfold resident at ha ⊢
  rw [hg, hl]; exact ha

theorem resident_congr (s s' : DSys σ) (hg : s'.geo = s.geo)
    (hl : ∀ k t, lookup s'.sets k t = lookup s.sets k t) (a : Int) : resident s' a = resident s a := by
  unfold resident
  rw [hg, hl]

section
variable {s : DSys σ} (hP : PolicyOK P s.geo.assoc WFp) (hs : CInv WFp s)
include hP hs

theorem putBlock_evo (addr : Int)
    (hin : inData addr) (vals : List Nat) (hlen : vals.length = 2 ^ s.geo.blkBits)
    (hlt : ∀ x, x ∈ vals → x < 4294967296) :
    ∃ sets2 hit displaced m', writeBlock P s.sets (dec s addr) vals = .ok (sets2, hit, displaced) ∧
      writeDisplaced s.mem displaced = (m', none) ∧
      ∀ s3 : DSys σ, s3.geo = s.geo → s3.sets = sets2 → s3.mem = m' →
        Evo s s3 ∧ resident s3 addr = true := by
  obtain ⟨sets2, displaced, m', hw, hback, hmono, hall⟩ := putBlock_spec hP hs addr hin vals hlen hlt
  refine ⟨sets2, _, displaced, m', hw, hback, fun s3 hg hsets hmem => ?_⟩
  obtain ⟨⟨w, hlk, _⟩, hres, _⟩ := hall s3 hg hsets
  refine ⟨⟨fun x hx => ?_, fun a ha => ?_⟩, ?_⟩
  · rw [hmem]; exact hmono x hx
  · rw [hmem]; exact hres a ha
  · unfold resident; rw [hg, hlk]; rfl

theorem readBlockSys_evo (hwt : s.wt = false) (addr : Int) :
    Evo s (s.readBlockSys P (dec s addr)).1 := by
  obtain ⟨sets1, hrb, hl1, hs1, _⟩ := readBlock_dec hP hs addr
  have e1 : Evo s { s with sets := sets1 } := Evo.of_lookup_eq _ _ rfl rfl hl1
  by_cases hin : inData addr
  · cases hlk : lookup s.sets (dec s addr).setIdx (dec s addr).tag with
    | some w =>
      rw [hlk] at hrb
      rw [readBlockSys_hit hrb]
      exact e1
    | none =>
      rw [hlk] at hrb
      obtain ⟨ws, hf, hlen, hlt, _⟩ := fetch_spec hs addr hin hlk
      obtain ⟨sets2, hit, displaced, m', hwbk, hback, hall⟩ :=
        putBlock_evo (s := { s with sets := sets1 }) hP hs1 addr hin ws hlen hlt
      rw [readBlockSys_miss (s := s) hrb hf hwbk hback]
      exact e1.trans (hall { s with sets := sets2, mem := if s.wt = true then s.mem else m' } rfl rfl
        (by show (if s.wt = true then s.mem else m') = m'; rw [hwt]; rfl)).1
  · rw [not_resident_of_bad hs.toCInvS addr hin] at hrb
    rw [readBlockSys_fetch_err hrb (fetch_bad hs.toCInvS addr hin)]
    exact e1

theorem read_evo (hwt : s.wt = false) (bits : Nat) (addr : Int) (counted : Bool) :
    Evo s (s.read P bits addr counted).sys := by
  obtain ⟨r1, r2, r3⟩ := read_sys (P := P) s bits addr counted
  exact (readBlockSys_evo hP hs hwt addr).trans (Evo.of_lookup_eq _ _ r1 r2 (fun k t => by rw [r3]))

theorem writeWB_evo (bits : Nat) (addr : Int) (v : Nat) (hb : widthOK bits) (hv : v < 2 ^ bits) :
    Evo s (s.writeWB P bits addr v).sys ∧
      (inWord bits addr → inData addr → resident (s.writeWB P bits addr v).sys addr = true) := by
  by_cases hin : inData addr
  · obtain ⟨sets1, hit, block, e, hs1, hl1, _, hblk⟩ := writeWB_inData hP hs bits addr v hin
    have e1 : Evo s { s with sets := sets1 } := Evo.of_lookup_eq _ _ rfl rfl hl1
    rw [e]
    by_cases hw : inWord bits addr
    · obtain ⟨sets2, hit', displaced, m', hwbk, hback, hall⟩ :=
        putBlock_evo (s := { s with sets := sets1 }) hP hs1 addr hin
          (block.set (dec s addr).blockOff
            (newWord bits (dec s addr).byteOff (wordAt block (dec s addr).blockOff) v))
          (by rw [List.length_set]; exact hblk.len)
          (mem_set_lt block _ _ hblk.lt
            (newWord_lt bits _ _ v hb hw (wordAt_lt block _ hblk.lt) hv))
      rw [wbFinish_eq (s := s) (hit := hit) (intoBlock_ok bits (dec s addr) block v hb hw) hwbk hback]
      obtain ⟨k1, k2⟩ := hall { countAccess s sets2 hit with mem := m' } rfl rfl rfl
      exact ⟨e1.trans k1, fun _ _ => k2⟩
    · rw [wbFinish_lane_err
        (intoBlock_crossing bits (dec s addr) block v hb hw (decode_byteOff_lt _ _ _))]
      exact ⟨e1, fun h => absurd h hw⟩
  · obtain ⟨sets1, hrb, hl1, _, _⟩ := readBlock_dec hP hs addr
    rw [not_resident_of_bad hs.toCInvS addr hin] at hrb
    rw [writeWB_miss_err s bits addr v sets1 _ hrb (fetch_bad hs.toCInvS addr hin)]
    exact ⟨Evo.of_lookup_eq _ _ rfl rfl hl1, fun _ h => absurd h hin⟩

end

end ArchSim.Lemmas.C12Prog
