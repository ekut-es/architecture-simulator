/-
Blanks and registers: a run of blanks in front of a token is skipped by every scanner; every ABI name and every `x<n>`
is read by `pReg` as its register number (finite tables about the ABI names), in each of the three ways of writing a
register.
-/
import ArchSim.Lemmas.C14Num

namespace ArchSim.Lemmas.C04Spell
open ArchSim ArchSim.PP ArchSim.Rv ArchSim.Asm ArchSim.Lemmas.C14

/-- a run of blanks: spaces, tabs (and the other two default white characters of pyparsing) -/
def AllWs (ws : List Char) : Prop := ∀ c ∈ ws, isWs c = true

theorem allWs_nil : AllWs [] := by intro c hc; cases hc

theorem allWs_space : AllWs [' '] := by unfold AllWs; decide

theorem allWs_append {a b : List Char} (ha : AllWs a) (hb : AllWs b) : AllWs (a ++ b) := by
  intro c hc
  rcases List.mem_append.mp hc with h | h
  · exact ha c h
  · exact hb c h

theorem skipWs_append (ws i : List Char) (h : AllWs ws) : skipWs (ws ++ i) = skipWs i := by
  unfold skipWs
  exact List.dropWhile_append_of_pos h

theorem skipWs_allWs (ws : List Char) (h : AllWs ws) : skipWs ws = [] := by
  have := skipWs_append ws [] h
  simpa using this

theorem oneOf_ws (syms : List String) (ws i : List Char) (h : AllWs ws) : oneOf syms (ws ++ i) = oneOf syms i := by
  unfold oneOf
  simp only [skipWs_append ws i h]

theorem lit_ws (s : String) (ws i : List Char) (h : AllWs ws) : lit s (ws ++ i) = lit s i := by
  unfold lit
  simp only [skipWs_append ws i h]

theorem word_ws (a b : Char → Bool) (ws i : List Char) (h : AllWs ws) : word a b (ws ++ i) = word a b i := by
  unfold word
  simp only [skipWs_append ws i h]

theorem pReg_ws (ws i : List Char) (h : AllWs ws) : pReg (ws ++ i) = pReg i := by
  unfold pReg
  simp only [oneOf_ws _ ws i h, lit_ws _ ws i h]

theorem ascii_cases (P : Char → Prop) (c : Char) (hc : c.toNat < 128) (ht : ∀ n < 128, P (Char.ofNat n)) : P c := by
  rw [← Char.ofNat_toNat c]; exact ht _ hc

theorem isPrefixOf_len (t w : List Char) (h : t.isPrefixOf w = true) : t.length < w.length ∨ t = w := by
  have hp := List.isPrefixOf_iff_prefix.mp h
  have hle := hp.length_le
  by_cases hlt : t.length < w.length
  · exact Or.inl hlt
  · right; exact hp.eq_of_length (by omega)

def abiSyms : List String := abiNames.map (·.1)

/-- What may follow a register name: anything, except that `s1` must not be followed by `0` or `1`
    (`s10`, `s11` are longer names and the longest name wins). -/
def RegEnd (name : String) (rest : Inp) : Prop := name = "s1" → ∀ c ∈ rest.head?, c ≠ '0' ∧ c ≠ '1'

theorem regEnd_of_not_digit (name : String) (rest : Inp) (h : ∀ c ∈ rest.head?, isNum c = false) :
    RegEnd name rest := by
  intro _ c hc
  have := h c hc
  constructor <;> (rintro rfl; exact absurd this (by decide))

theorem abi_prefix_table : ∀ a ∈ abiSyms, ∀ t ∈ abiSyms,
    a.toList.isPrefixOf t.toList = true → a.toList.length < t.toList.length →
      a = "s1" ∧ (t.toList[a.toList.length]? = some '0' ∨ t.toList[a.toList.length]? = some '1') := by
  decide +kernel

theorem abi_lt : ∀ p ∈ abiNames, p.2 < 32 := by decide +kernel

theorem abi_value_table : ∀ p ∈ abiNames,
    ((abiNames.find? (fun q => q.1 == p.1)).map (·.2)).getD 0 = p.2 := by decide +kernel

theorem abi_sym_table : ∀ t ∈ abiSyms, t.toList ≠ [] ∧ (∀ c ∈ t.toList.head?, c ∈ lowList) ∧
    ∀ c ∈ t.toList, isLabelBody c = true ∧ toLowerAscii c = c := by decide +kernel

theorem abi_head_table (a : String) (h : a ∈ abiSyms) : ∃ c tl, a.toList = c :: tl ∧ c ∈ lowList := by
  obtain ⟨h1, h2, _⟩ := abi_sym_table a h
  cases hl : a.toList with
  | nil => exact absurd hl h1
  | cons c tl => exact ⟨c, tl, rfl, h2 c (by simp [hl])⟩

theorem oneOf_abi (name : String) (hmem : name ∈ abiSyms) (rest : Inp) (hr : RegEnd name rest) :
    oneOf abiSyms (name.toList ++ rest) = .ok name rest := by
  obtain ⟨c, tl, hc, hlow⟩ := abi_head_table name hmem
  have hskip : skipWs (name.toList ++ rest) = name.toList ++ rest := by
    rw [hc]; exact skipWs_cons_of_not_ws c _ (low_facts c hlow).1
  have hfind : (longestFirst abiSyms).find? (fun s => s.toList.isPrefixOf (name.toList ++ rest)) = some name := by
    apply find_longestFirst_some _ _ _ hmem (List.isPrefixOf_iff_prefix.mpr (List.prefix_append _ _))
    intro t ht hp
    rcases isPrefixOf_append_split _ _ _ hp with h1 | ⟨h1, h2, h3⟩
    · rcases isPrefixOf_len _ _ h1 with h | h
      · left; rw [← String.length_toList, ← String.length_toList]; exact h
      · right; exact String.toList_inj.mp h
    · exfalso
      obtain ⟨hs1, h01⟩ := abi_prefix_table name hmem t ht h1 h2
      rw [← h3] at h01
      rcases h01 with h | h
      · exact (hr hs1 '0' h).1 rfl
      · exact (hr hs1 '1' h).2 rfl
  unfold oneOf
  simp only [hskip, oneOf_go_eq, hfind, List.drop_left]

theorem pReg_abi (name : String) (n : Nat) (hmem : (name, n) ∈ abiNames) (rest : Inp) (hr : RegEnd name rest) :
    pReg (name.toList ++ rest) = .ok n rest := by
  have hs : name ∈ abiSyms := List.mem_map.mpr ⟨(name, n), hmem, rfl⟩
  have h := oneOf_abi name hs rest hr
  rw [abiSyms] at h
  have hv := abi_value_table (name, n) hmem
  simp only at hv
  simp only [pReg, h, hv]

/-- how a register operand is written: `x<n>`, its ABI name, or the ABI name with `fp` for register 8 -/
inductive RegStyle where
  | x | abi | fp
deriving DecidableEq, Repr

/-- the (first) ABI name of register `n` -/
def abiOf (n : Nat) : String := ((abiNames.find? (fun p => p.2 == n)).map (·.1)).getD ""

def regSp (st : RegStyle) (n : Nat) : List Char :=
  match st with
  | .x => regTxt n
  | .abi => (abiOf n).toList
  | .fp => if n = 8 then "fp".toList else (abiOf n).toList

theorem abiOf_mem : ∀ n < 32, (abiOf n, n) ∈ abiNames := by decide +kernel

theorem fp_mem : ("fp", 8) ∈ abiNames := by decide

theorem abiOf_syms (n : Nat) (hn : n < 32) : abiOf n ∈ abiSyms :=
  List.mem_map.mpr ⟨(abiOf n, n), abiOf_mem n hn, rfl⟩

theorem pReg_sp (st : RegStyle) (n : Nat) (hn : n < 32) (ws rest : Inp) (hws : AllWs ws)
    (hr : ∀ c ∈ rest.head?, isNum c = false) : pReg (ws ++ (regSp st n ++ rest)) = .ok n rest := by
  rw [pReg_ws ws _ hws]
  cases st with
  | x => exact pReg_regTxt n hn rest hr
  | abi => exact pReg_abi _ n (abiOf_mem n hn) rest (regEnd_of_not_digit _ _ hr)
  | fp =>
    simp only [regSp]
    split
    · next h => subst h; exact pReg_abi "fp" 8 fp_mem rest (regEnd_of_not_digit _ _ hr)
    · exact pReg_abi _ n (abiOf_mem n hn) rest (regEnd_of_not_digit _ _ hr)

theorem upper_not_regInit (c : Char) (h1 : 'A' ≤ c) (h2 : c ≤ 'Z') : isWs c = false ∧ c ∉ regInit :=
  forall_char_range (P := fun c => isWs c = false ∧ c ∉ regInit) 'A' 'Z' (by decide +kernel) c (by simp [h1, h2])

theorem pReg_fail_upper (c : Char) (t : Inp) (h1 : 'A' ≤ c) (h2 : c ≤ 'Z') : pReg (c :: t) = .fail :=
  pReg_fail_head c t (upper_not_regInit c h1 h2).1 (upper_not_regInit c h1 h2).2

end ArchSim.Lemmas.C04Spell
