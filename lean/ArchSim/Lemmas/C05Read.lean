/-
The data pass from its initial state `dataInit`, under the hypotheses `DataOk` on the segment: the final counter,
variable table and memory, and where each declaration lies (`data_decl`, the common start of the read-back theorems
of `Props/C05`).
-/
import ArchSim.Lemmas.C05Layout

namespace ArchSim.Lemmas.C05
open ArchSim ArchSim.Asm ArchSim.Rv ArchSim.Mem ArchSim.Lemmas.C18
open ArchSim.Spec.ByteStore (cellVal cellOk leSum)

/-- the state `load` starts the data pass in, on an empty flat memory -/
def dataInit : DataOut := { mem := .flat (Mem.empty riscvCfg), vars := [], ctr := 16384, err := none }

/-- the hypotheses on a data segment: every entry is a declaration without in-line label (`.zero` counts
    non-negative), names pairwise distinct, and the segment fits below 2^32 -/
structure DataOk (es : List Entry) : Prop where
  wf : ∀ e ∈ es, entryOk e = true
  names : ((itemsOf es).map declName).Nodup
  fit : layoutEnd (itemsOf es) 16384 ≤ 4294967296

theorem DataOk.decls {es : List Entry} (h : DataOk es) : ∀ it ∈ itemsOf es, isDecl it = true :=
  isDecl_of_entryOk h.wf

theorem data_final (es : List Entry) (h : DataOk es) :
    ∃ m', writeData es dataInit =
        { mem := .flat m', vars := layoutVars (itemsOf es) 16384, ctr := layoutEnd (itemsOf es) 16384, err := none } ∧
      m'.cfg = riscvCfg ∧ (∀ x, layoutEnd (itemsOf es) 16384 ≤ x → m'.cells x = 0) ∧
      (∀ x, x < 16384 → m'.cells x = 0) ∧ LaidOut m' (itemsOf es) 16384 := by
  obtain ⟨m', hw, hc, hfr, hz, hl⟩ := writeData_layout es dataInit (Mem.empty riscvCfg) rfl rfl rfl (by decide)
    h.wf (by simpa [dataInit] using h.names) h.fit (fun _ _ => rfl)
  refine ⟨m', ?_, hc, hz, ?_, hl⟩
  · rw [hw]; simp [dataInit]
  · intro x hx
    have : align4 dataInit.ctr = 16384 := by decide
    rw [hfr x (by rw [this]; exact hx)]; rfl

theorem addrOf_ge (items : List Item) (ctr : Int) (hd : ∀ it ∈ items, isDecl it = true) (k : Nat) :
    ctr ≤ addrOf items ctr k := by
  induction items generalizing ctr k with
  | nil => exact (align4_spec ctr).1
  | cons it rest ih =>
    have hal := (align4_spec ctr).1
    cases k with
    | zero => exact hal
    | succ k' =>
      have hnn := declLen_nonneg it (hd it (List.mem_cons_self ..))
      have := ih (align4 ctr + declLen it) (fun x hx => hd x (List.mem_cons_of_mem _ hx)) k'
      simp only [addrOf]
      omega

theorem addrOf_end (items : List Item) (ctr : Int) (hd : ∀ it ∈ items, isDecl it = true) (k : Nat)
    (hk : k < items.length) :
    addrOf items ctr k + declLen items[k] ≤ layoutEnd items ctr := by
  induction items generalizing ctr k with
  | nil => simp at hk
  | cons it rest ih =>
    have hdr : ∀ x ∈ rest, isDecl x = true := fun x hx => hd x (List.mem_cons_of_mem _ hx)
    cases k with
    | zero =>
      simp only [addrOf, List.getElem_cons_zero, layoutEnd]
      exact layoutEnd_ge rest _ hdr
    | succ k' =>
      simp only [List.length_cons] at hk
      simp only [addrOf, List.getElem_cons_succ, layoutEnd]
      exact ih _ hdr k' (by omega)

theorem data_decl (es : List Entry) (h : DataOk es) (m' : Mem) (hm : (writeData es dataInit).mem = .flat m')
    (k : Nat) (hk : k < (itemsOf es).length) :
    m'.cfg = riscvCfg ∧ DeclAt m' (itemsOf es)[k] (addrOf (itemsOf es) 16384 k) ∧
      16384 ≤ addrOf (itemsOf es) 16384 k ∧
      addrOf (itemsOf es) 16384 k + declLen (itemsOf es)[k] ≤ 4294967296 := by
  obtain ⟨m1, hw, hc, _, _, hl⟩ := data_final es h
  rw [hw] at hm; simp only [MemSys.flat.injEq] at hm; subst hm
  have hhi := addrOf_end (itemsOf es) 16384 h.decls k hk
  have hfit := h.fit
  exact ⟨hc, LaidOut_get m1 _ _ hl k hk, addrOf_ge (itemsOf es) 16384 h.decls k, by omega⟩

theorem toNat_emod_pow_lt (x : Int) (bits : Nat) : (x % (2 : Int) ^ bits).toNat < 2 ^ bits := by
  have hpos : (0 : Int) < (2 : Int) ^ bits := Int.pow_pos (by decide)
  have h1 := Int.emod_lt_of_pos x hpos
  have h0 := Int.emod_nonneg x (Int.ne_of_gt hpos)
  have : ((x % (2 : Int) ^ bits).toNat : Int) < ((2 ^ bits : Nat) : Int) := by
    rw [Int.toNat_of_nonneg h0]; simpa using h1
  exact_mod_cast this

/-- Element `i` of a declaration with values (`declVals`) reads back, at its width, as the value reduced modulo
    `2^bits`; a string is the case `bits = 8`, its values the code points and a final 0. -/
theorem DeclAt.read {m : Mem} (hc : m.cfg = riscvCfg) {it : Item} {a : Int} (hd : DeclAt m it a) (hlo : 16384 ≤ a)
    (hhi : a + declLen it ≤ 4294967296) {bits : Nat} {vals : List Int} (hv : declVals it = some (bits, vals))
    (i : Nat) (hi : i < vals.length) :
    Mem.read m bits (a + (i : Int) * ((bits / 8 : Nat) : Int)) = some (.ok ((vals[i] % (2 : Int) ^ bits).toNat)) := by
  obtain ⟨hb, hlen⟩ := declVals_width_len hv
  have hcells := hd.1
  simp only [hv] at hcells
  rw [hlen] at hhi
  have hge : 0 ≤ (i : Int) * ((bits / 8 : Nat) : Int) := Int.mul_nonneg (by omega) (by omega)
  have hle : ((i + 1 : Nat) : Int) * ((bits / 8 : Nat) : Int) ≤ (vals.length : Int) * ((bits / 8 : Nat) : Int) :=
    Int.mul_le_mul_of_nonneg_right (by omega) (by omega)
  rw [Int.natCast_succ, Int.add_mul, Int.one_mul] at hle
  rw [read_of_cells m hc bits hb _ (by omega) (by omega) _ (hcells i hi), Nat.mod_eq_of_lt (toNat_emod_pow_lt _ _)]

/-! ### concrete data segments for the non-vacuity examples -/

/-- ```
    a: .byte 1, -1, 256
    h: .half 0x1234, 70000
    s: .string "hi!"
    z: .zero 2
    w: .word -2, 0x11223344
    ``` -/
def exData : List Entry :=
  [ (2, "a: .byte 1, -1, 256", { lbl := none, item := .varDecl "a" "byte" [1, -1, 256] }),
    (3, "h: .half 0x1234, 70000", { lbl := none, item := .varDecl "h" "half" [0x1234, 70000] }),
    (4, "s: .string \"hi!\"", { lbl := none, item := .strDecl "s" ['h', 'i', '!'] }),
    (5, "z: .zero 2", { lbl := none, item := .zeroDecl "z" 2 }),
    (6, "w: .word -2, 0x11223344", { lbl := none, item := .varDecl "w" "word" [-2, 0x11223344] }) ]

theorem exData_ok : DataOk exData := ⟨by decide +kernel, by decide +kernel, by decide +kernel⟩

/-- a data segment larger than the address space: `z: .zero 1073741824` then `x: .word 7` -/
def exWrap : List Entry :=
  [ (2, "z: .zero 1073741824", { lbl := none, item := .zeroDecl "z" 1073741824 }),
    (3, "x: .word 7", { lbl := none, item := .varDecl "x" "word" [7] }) ]

end ArchSim.Lemmas.C05
