/-
Which rows of the grammar table compete for a printed mnemonic: one finite table ties the printing classes (`cls`) to
the rows. Three classes have competitors: a load or `jalr` may also be a load by variable name or `mn r, r, imm`; a
store a store by name or `mn r, r, imm`; a branch `mn r, r, label` or `mn r, r, imm`.
-/
import ArchSim.Lemmas.C04SpellTok
import ArchSim.Lemmas.C14Mn

namespace ArchSim.Lemmas.C04Spell
open ArchSim ArchSim.PP ArchSim.Rv ArchSim.Asm ArchSim.Lemmas.C14

/-- the rows of the grammar that hold the mnemonics of a printing class -/
def clsRows : Cls → List Row
  | .r => [.rrr]
  | .u => [.u]
  | .b => [.b, .rri]
  | .load => [.mem, .memP, .rri]
  | .store => [.mem, .sp, .rri]
  | .jalr => [.mem, .memP, .rri]
  | .csr => [.csr]
  | .csri => [.csri]
  | .imm3 => [.rri]
  | .fence => [.fence]
  | .jal => [.jal]
  | .ecall => [.env]
  | .ebreak => [.env]

theorem mn_sel : ∀ op : Op, rows.filter (fun r => op.mnemonic ∈ r.head.syms) = clsRows (cls op) :=
  forall_op (by decide +kernel)

theorem mnemonic_mem (op : Op) : op.mnemonic ∈ mnWords := by
  obtain ⟨r, l, h⟩ : ∃ r l, clsRows (cls op) = r :: l := by cases cls op <;> exact ⟨_, _, rfl⟩
  have hr : r ∈ rows.filter (fun r => op.mnemonic ∈ r.head.syms) := by rw [mn_sel, h]; exact List.mem_cons_self
  exact rows_sub r _ (by simpa using (List.mem_filter.mp hr).2)

theorem pInstrBody_cls (op : Op) (rest : Inp) (hr : WordSep rest) :
    pInstrBody (mn op ++ rest) = pick (((clsRows (cls op)).map Row.tail).map fun k => k op.mnemonic rest) := by
  rw [pInstrBody_word op.mnemonic (mnWords_ok _ (mnemonic_mem op)) (mn op) rest (CaseVar.refl (mn_low op).1) hr, mn_sel]

theorem wordSep_tReg (g : List Char) (st : RegStyle) (n : Nat) (rest : List Char) (hg : AllWs g) (hne : g ≠ []) :
    WordSep (tReg g st n rest) := wordSep_ws_append g _ hg hne

end ArchSim.Lemmas.C04Spell
