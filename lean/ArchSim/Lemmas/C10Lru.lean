/-
The LRU half of C10: `lastOcc` is the position of the last occurrence; a run keeps the list a
permutation of the ways, strictly sorted by `age` (`lruRun_inv`).
-/
import ArchSim.Model.Repl
import ArchSim.Spec.LruAge

namespace ArchSim.Lemmas.C10
open ArchSim.Repl ArchSim.Spec.Lru

/-! ### `lastOcc` really is the position of the last occurrence -/

theorem snoc_induction {α : Type} {P : List α → Prop} (nil : P [])
    (snoc : ∀ h x, P h → P (h ++ [x])) (h : List α) : P h := by
  have : ∀ r : List α, P r.reverse := by
    intro r
    induction r with
    | nil => exact nil
    | cons x r ih => simpa using snoc _ x ih
  simpa using this h.reverse

theorem lastOcc_snoc (h : List Nat) (x i : Nat) :
    lastOcc (h ++ [x]) i = if x = i then some h.length else lastOcc h i := by
  induction h with
  | nil => simp [lastOcc]
  | cons y h ih =>
    simp only [List.cons_append, lastOcc, ih, List.length_cons]
    by_cases hx : x = i
    · simp [hx]
    · simp [hx]

theorem lastOcc_eq_none {h : List Nat} {i : Nat} : lastOcc h i = none ↔ i ∉ h := by
  induction h using snoc_induction with
  | nil => simp [lastOcc]
  | snoc h x ih =>
    rw [lastOcc_snoc]
    by_cases hx : x = i
    · simp [hx]
    · simp [hx, ih, Ne.symm hx]

theorem lastOcc_eq_some {h : List Nat} {i t : Nat} :
    lastOcc h i = some t ↔ h[t]? = some i ∧ ∀ t', t < t' → h[t']? ≠ some i := by
  induction h using snoc_induction generalizing t with
  | nil => simp [lastOcc]
  | snoc h x ih =>
    rw [lastOcc_snoc]
    by_cases hx : x = i
    · subst hx
      simp only [if_true, Option.some.injEq]
      constructor
      · rintro rfl
        exact ⟨by simp, fun t' ht' => by
          simp [List.getElem?_eq_none (show (h ++ [x]).length ≤ t' by simp; omega)]⟩
      · rintro ⟨h1, h2⟩
        have hl := (List.getElem?_eq_some_iff.mp h1).1
        simp at hl
        rcases Nat.lt_or_ge t h.length with hlt | hge
        · exact absurd (by simp) (h2 h.length hlt)
        · omega
    · have key : ∀ u : Nat, (h ++ [x])[u]? = some i ↔ h[u]? = some i := by
        intro u
        rw [List.getElem?_append]
        split
        · rfl
        · rename_i hu
          rw [List.getElem?_eq_none (Nat.le_of_not_lt hu)]
          cases hu' : u - h.length <;> simp [hx]
      simp only [if_neg hx, ih, ne_eq, key]

theorem lastOcc_lt {h : List Nat} {i t : Nat} (ht : lastOcc h i = some t) : t < h.length :=
  (List.getElem?_eq_some_iff.mp (lastOcc_eq_some.mp ht).1).1

/-! ### `age` after one more access -/

theorem age_snoc_self (assoc : Nat) (h : List Nat) (i : Nat) :
    age assoc (h ++ [i]) i = assoc + h.length := by
  simp [age, lastOcc_snoc]

theorem age_snoc_ne (assoc : Nat) (h : List Nat) {x i : Nat} (hx : x ≠ i) :
    age assoc (h ++ [x]) i = age assoc h i := by
  simp [age, lastOcc_snoc, hx]

theorem age_lt (assoc : Nat) (h : List Nat) {i : Nat} (hi : i < assoc) :
    age assoc h i < assoc + h.length := by
  unfold age
  cases hl : lastOcc h i with
  | none => simp; omega
  | some t => have := lastOcc_lt hl; simp; omega

theorem age_injective (assoc : Nat) (h : List Nat) {i j : Nat} (hi : i < assoc) (hj : j < assoc)
    (e : age assoc h i = age assoc h j) : i = j := by
  unfold age at e
  cases hli : lastOcc h i with
  | none =>
    cases hlj : lastOcc h j with
    | none => simpa [hli, hlj] using e
    | some t => simp [hli, hlj] at e; omega
  | some t =>
    cases hlj : lastOcc h j with
    | none => simp [hli, hlj] at e; omega
    | some u =>
      simp [hli, hlj] at e
      subst e
      have a := (lastOcc_eq_some.mp hli).1
      have b := (lastOcc_eq_some.mp hlj).1
      rw [a] at b; cases b; rfl

/-! ### The run of a history, taken apart at its last or its first access -/

theorem lruRunFrom_snoc (s h : List Nat) (x : Nat) :
    lruRunFrom s (h ++ [x]) = (lruRunFrom s h).bind (fun s' => lruAccess s' x) := by
  simp [lruRunFrom, List.foldlM_append]

theorem lruRun_snoc (assoc : Nat) (h : List Nat) (x : Nat) :
    lruRun assoc (h ++ [x]) = (lruRun assoc h).bind (fun s' => lruAccess s' x) :=
  lruRunFrom_snoc _ _ _

theorem lruRunFrom_cons (s h : List Nat) (x : Nat) :
    lruRunFrom s (x :: h) = (lruAccess s x).bind (fun s' => lruRunFrom s' h) := by
  simp [lruRunFrom]

/-! ### Lists that are a permutation of `range n` -/

section PermRange
variable {s : List Nat} {n : Nat} (hp : s.Perm (List.range n))
include hp

theorem perm_range_mem {i : Nat} : i ∈ s ↔ i < n := by rw [hp.mem_iff, List.mem_range]

theorem perm_range_nodup : s.Nodup := hp.nodup_iff.mpr List.nodup_range

theorem perm_range_length : s.length = n := by simpa using hp.length_eq

end PermRange

/-! ### The invariant of a run -/

theorem lruAccess_eq_some {l l' : List Nat} {i : Nat} :
    lruAccess l i = some l' ↔ i ∈ l ∧ l' = l.erase i ++ [i] := by
  unfold lruAccess
  split <;> simp [*, eq_comm]

theorem lruAccess_perm {assoc : Nat} {l : List Nat} {i : Nat}
    (hl : l.Perm (List.range assoc)) (hi : i < assoc) :
    ∃ l', lruAccess l i = some l' ∧ l'.Perm (List.range assoc) := by
  have hmem : i ∈ l := (perm_range_mem hl).mpr hi
  refine ⟨l.erase i ++ [i], by simp [lruAccess, hmem], ?_⟩
  refine List.Perm.trans ?_ hl
  refine List.Perm.trans List.perm_append_comm ?_
  simpa using (List.perm_cons_erase hmem).symm

theorem lruRun_inv (assoc : Nat) (h : List Nat) (hh : ∀ x ∈ h, x < assoc) :
    ∃ s, lruRun assoc h = some s ∧ s.Perm (List.range assoc) ∧
      s.Pairwise (fun a b => age assoc h a < age assoc h b) := by
  induction h using snoc_induction with
  | nil =>
    refine ⟨List.range assoc, rfl, List.Perm.refl _, ?_⟩
    simp only [age, lastOcc]
    exact List.pairwise_lt_range
  | snoc h x ih =>
    obtain ⟨s, hs, hp, hsort⟩ := ih (fun y hy => hh y (by simp [hy]))
    have hx : x < assoc := hh x (by simp)
    obtain ⟨s', hs', hp'⟩ := lruAccess_perm hp hx
    refine ⟨s', by simp [lruRun_snoc, hs, hs'], hp', ?_⟩
    have hmem : x ∈ s := (perm_range_mem hp).mpr hx
    have hnd : s.Nodup := perm_range_nodup hp
    simp only [lruAccess, hmem, if_true, Option.some.injEq] at hs'
    subst hs'
    rw [List.pairwise_append]
    refine ⟨?_, by simp, ?_⟩
    · have h1 := List.Pairwise.sublist (List.erase_sublist (a := x)) hsort
      refine List.Pairwise.imp_of_mem ?_ h1
      intro a b ha hb hab
      have hax := ((List.Nodup.mem_erase_iff hnd).mp ha).1
      have hbx := ((List.Nodup.mem_erase_iff hnd).mp hb).1
      rw [age_snoc_ne assoc h (Ne.symm hax), age_snoc_ne assoc h (Ne.symm hbx)]
      exact hab
    · intro a ha b hb
      have hb' : b = x := by simpa using hb
      subst hb'
      have hax := (List.Nodup.mem_erase_iff hnd).mp ha
      rw [age_snoc_ne assoc h (Ne.symm hax.1), age_snoc_self]
      exact age_lt assoc h ((perm_range_mem hp).mp hax.2)

/-! ### Consequences of the invariant -/

theorem pairwise_idxOf_lt {f : Nat → Nat} {s : List Nat}
    (hs : s.Pairwise (fun a b => f a < f b)) {i j : Nat} (hi : i ∈ s) (hj : j ∈ s)
    (hij : s.idxOf i < s.idxOf j) : f i < f j := by
  have hil : s.idxOf i < s.length := List.idxOf_lt_length_iff.mpr hi
  have hjl : s.idxOf j < s.length := List.idxOf_lt_length_iff.mpr hj
  have := (List.pairwise_iff_getElem.mp hs) (s.idxOf i) (s.idxOf j) hil hjl hij
  simpa [List.getElem_idxOf] using this

theorem idxOf_lt_iff_key_lt {f : Nat → Nat} {s : List Nat}
    (hs : s.Pairwise (fun a b => f a < f b)) {i j : Nat} (hi : i ∈ s) (hj : j ∈ s) :
    s.idxOf i < s.idxOf j ↔ f i < f j := by
  refine ⟨pairwise_idxOf_lt hs hi hj, ?_⟩
  intro hf
  rcases Nat.lt_trichotomy (s.idxOf i) (s.idxOf j) with h | h | h
  · exact h
  · have hil : s.idxOf i < s.length := List.idxOf_lt_length_iff.mpr hi
    have hjl : s.idxOf j < s.length := List.idxOf_lt_length_iff.mpr hj
    have e : s[s.idxOf i] = s[s.idxOf j] := by simp only [h]
    rw [List.getElem_idxOf, List.getElem_idxOf] at e
    subst e; omega
  · have := pairwise_idxOf_lt hs hj hi h
    omega

theorem lruRepr_getElem? (s : List Nat) {i : Nat} (hi : i < s.length) :
    (lruRepr s)[i]? = some (s.idxOf i) := by
  simp [lruRepr, hi]

theorem lruRepr_length (s : List Nat) : (lruRepr s).length = s.length := by
  simp [lruRepr]

theorem map_idxOf_self {s : List Nat} (hnd : s.Nodup) :
    s.map (fun x => s.idxOf x) = List.range s.length := by
  apply List.ext_getElem
  · simp
  · intro k h1 h2
    simp [List.Nodup.idxOf_getElem hnd]

theorem lruRepr_perm {assoc : Nat} {s : List Nat} (hp : s.Perm (List.range assoc)) :
    (lruRepr s).Perm (List.range assoc) := by
  have hlen := perm_range_length hp
  have h1 : (lruRepr s).Perm (s.map (fun x => s.idxOf x)) := by
    unfold lruRepr
    rw [hlen]
    exact (List.Perm.map _ hp).symm
  rw [map_idxOf_self (perm_range_nodup hp), hlen] at h1
  exact h1

theorem lruAccess_idem {l l' : List Nat} {i : Nat} (hn : l.Nodup) (h : lruAccess l i = some l') :
    lruAccess l' i = some l' := by
  obtain ⟨_, rfl⟩ := lruAccess_eq_some.mp h
  have hni : i ∉ l.erase i := fun hc => ((List.Nodup.mem_erase_iff hn).mp hc).1 rfl
  simp [lruAccess, List.erase_append_right _ hni]

theorem head_minimises {f : Nat → Nat} {assoc : Nat} {s : List Nat}
    (hp : s.Perm (List.range assoc)) (hs : s.Pairwise (fun a b => f a < f b)) (ha : 0 < assoc) :
    ∃ v, lruVictim s = some v ∧ v < assoc ∧ s.idxOf v = 0 ∧
      ∀ j, j < assoc → j ≠ v → f v < f j := by
  cases s with
  | nil => have := perm_range_length hp; simp at this; omega
  | cons v r =>
    refine ⟨v, rfl, (perm_range_mem hp).mp (by simp), by simp, ?_⟩
    intro j hj hne
    rcases List.mem_cons.mp ((perm_range_mem hp).mpr hj) with h | h
    · exact absurd h hne
    · exact (List.pairwise_cons.mp hs).1 j h

theorem lruRepr_consistent {f : Nat → Nat} {assoc : Nat} {s : List Nat}
    (hp : s.Perm (List.range assoc)) (hs : s.Pairwise (fun a b => f a < f b))
    {i j : Nat} (hi : i < assoc) (hj : j < assoc) :
    ∃ ri rj, (lruRepr s)[i]? = some ri ∧ (lruRepr s)[j]? = some rj ∧ (ri < rj ↔ f i < f j) := by
  have hlen := perm_range_length hp
  exact ⟨s.idxOf i, s.idxOf j, lruRepr_getElem? s (hlen ▸ hi), lruRepr_getElem? s (hlen ▸ hj),
    idxOf_lt_iff_key_lt hs ((perm_range_mem hp).mpr hi) ((perm_range_mem hp).mpr hj)⟩

end ArchSim.Lemmas.C10
