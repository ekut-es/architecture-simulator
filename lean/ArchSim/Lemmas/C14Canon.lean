/-
Every instruction object that `instantiate` builds from a syntax tree of the grammar and that can be printed (`Printable`)
is canonical (`Instr.Canon`): the constructors wrap immediates into the range of their format, and an odd label
displacement is rejected, so at an even address label operands are covered too.
-/
import ArchSim.Lemmas.C14Load

namespace ArchSim.Lemmas.C14
open ArchSim ArchSim.PP ArchSim.Rv ArchSim.Asm

/-- The trees of `GrammarForm` (below) that `instantiate` turns into an instruction from their numbers alone — no label
    operand, and none of the pseudo-instruction trees (by variable name, `li`, `mv`), which it refuses —, plus what
    `Printable` asks, stated on the tree: a csr number is not negative, an absolute `jal` target has at most 4300 digits.
    The grammar itself returns negative csr numbers and (in hex) targets of any size. `fence` is unconstrained:
    `instantiate` drops its registers. -/
def NumericForm : PInstr → Prop
  | .rtype mn a b c => mn ∈ rrrMn ∧ a < 32 ∧ b < 32 ∧ c < 32
  | .utype mn a _ => mn ∈ uMn ∧ a < 32
  | .mem mn a _ b => mn ∈ memIMn ++ sMn ∧ a < 32 ∧ b < 32
  | .rri mn a b _ => mn ∈ normalIMn ++ memIMn ++ bMn ++ sMn ∧ a < 32 ∧ b < 32
  | .csr mn a c b => mn ∈ csrMn ∧ a < 32 ∧ b < 32 ∧ 0 ≤ c
  | .csri mn a c _ => mn ∈ csriMn ∧ a < 32 ∧ 0 ≤ c
  | .jalImm a v => a < 32 ∧ v.natAbs < 10 ^ 4300
  | .fence _ _ => True
  | _ => False

theorem sext13_even (v : Int) (h : v % 2 = 0) : sextImm 13 v % 2 = 0 := by
  unfold sextImm; omega

theorem ty_rrr : ∀ mn ∈ rrrMn, (Op.ofMnemonic mn).map Op.ty = some .r := by decide +kernel
theorem ty_u : ∀ mn ∈ uMn, (Op.ofMnemonic mn).map Op.ty = some .u := by decide +kernel
theorem ty_csr : ∀ mn ∈ csrMn, (Op.ofMnemonic mn).map Op.ty = some .csr := by decide +kernel
theorem ty_csri : ∀ mn ∈ csriMn, (Op.ofMnemonic mn).map Op.ty = some .csri := by decide +kernel
theorem rri_not_env : ∀ mn ∈ normalIMn ++ memIMn ++ bMn ++ sMn,
    Op.ofMnemonic mn ≠ some .ecall ∧ Op.ofMnemonic mn ≠ some .ebreak := by decide +kernel
theorem mem_sub_rri : ∀ mn ∈ memIMn ++ sMn, mn ∈ normalIMn ++ memIMn ++ bMn ++ sMn := by decide +kernel

theorem jalr_ty : Op.jalr.ty = .i := rfl

theorem builtRRI_canon {a b : Nat} {v : Int} {op : Op} {i : Instr} (addr : Int) (hr : C04.BuiltRRI a b v op i)
    (ha : a < 32) (hb : b < 32) (h1 : op ≠ .ecall) (h2 : op ≠ .ebreak) : i.Canon addr := by
  cases hr with
  | i ht =>
    rcases ht with ht | ht | ht
    · simp [Instr.Canon, mkInstr, storedImm, ht, ha, hb, h1, h2]
      have := sextImm_range 12 v; omega
    · simp [Instr.Canon, mkInstr, storedImm, ht, ha, hb, h1, h2]
      have := sextImm_range 12 v; omega
    · simp [Instr.Canon, mkInstr, storedImm, ht, ha, hb]
      omega
  | s ht =>
    simp [Instr.Canon, mkInstr, storedImm, ht, ha, hb]
    have := sextImm_range 12 v; omega
  | b ht hv =>
    simp [Instr.Canon, mkInstr, storedImm, ht, ha, hb, sext13_even v hv]
    have := sextImm_range 13 v; have := sext13_even v hv; omega

theorem instantiate_canon_numeric (ls : Labels) (addr : Int) (k : Nat) (line : String) (pi : PInstr) (i : Instr)
    (hg : NumericForm pi) (h : instantiate ls addr k line pi = .ok i) : i.Canon addr := by
  cases C04.instantiate_built h with
  | @rtype _ op a b c ho =>
    have ht : op.ty = .r := by simpa [ho] using ty_rrr _ hg.1
    simp [Instr.Canon, mkInstr, storedImm, ht, hg.2.1, hg.2.2.1, hg.2.2.2]
  | @utype _ op a v ho =>
    have ht : op.ty = .u := by simpa [ho] using ty_u _ hg.1
    simp [Instr.Canon, mkInstr, storedImm, ht, hg.2]
    have := sextImm_range 20 v; omega
  | mem ho hr =>
    have hne := rri_not_env _ (mem_sub_rri _ hg.1)
    rw [ho] at hne
    exact builtRRI_canon addr hr hg.2.1 hg.2.2 (fun e => hne.1 (e ▸ rfl)) (fun e => hne.2 (e ▸ rfl))
  | rri ho hr =>
    have hne := rri_not_env _ hg.1
    rw [ho] at hne
    exact builtRRI_canon addr hr hg.2.1 hg.2.2 (fun e => hne.1 (e ▸ rfl)) (fun e => hne.2 (e ▸ rfl))
  | @csr _ op a c b ho =>
    have ht : op.ty = .csr := by simpa [ho] using ty_csr _ hg.1
    simp [Instr.Canon, ht, hg.2.1, hg.2.2.1, hg.2.2.2]
  | @csri _ op a c u ho =>
    have ht : op.ty = .csri := by simpa [ho] using ty_csri _ hg.1
    simp [Instr.Canon, ht, hg.2.1, hg.2.2]
    omega
  | jalImm a he => simp [Instr.Canon, mkInstr, storedImm, Op.ty, hg.1, he, hg.2, -Nat.reducePow]
  | fence a b => simp [Instr.Canon, Op.ty]
  | btypeLabel | jalLabel => exact hg.elim

theorem canon_jal_of_range (addr : Int) (rd : Nat) (imm : Int) (hrd : rd < 32) (ha : addr % 2 = 0)
    (h0 : imm % 2 = 0) (h1 : -1048576 ≤ imm) (h2 : imm ≤ 1048574) (hb : (addr + imm).natAbs < 10 ^ 4300) :
    ({ op := .jal, rd := rd, imm := imm, aux := addr + imm } : Instr).Canon addr := by
  have e : addr + imm - addr = imm := by omega
  refine ⟨hrd, Nat.zero_lt_succ _, Nat.zero_lt_succ _, ?_⟩
  simp only [Op.ty, e, sextImm_id 21 imm (by omega), hb, and_true, true_and]
  omega

/-- Syntax trees as the grammar returns them (any alternative, pseudo-instructions included): the
    mnemonic is one of the alternative's symbols and register numbers are below 32 (all `pReg` can
    return). Nothing is assumed about immediates, labels or offsets. -/
def GrammarForm : PInstr → Prop
  | .rtype mn a b c => mn ∈ rrrMn ∧ a < 32 ∧ b < 32 ∧ c < 32
  | .utype mn a _ => mn ∈ uMn ∧ a < 32
  | .btypeLabel mn a b _ _ => mn ∈ bMn ∧ a < 32 ∧ b < 32
  | .mem mn a _ b => mn ∈ memIMn ++ sMn ∧ a < 32 ∧ b < 32
  | .memPseudo mn a _ _ => mn ∈ memIMn ++ ["la"] ∧ a < 32
  | .sPseudo mn a _ _ b => mn ∈ sMn ∧ a < 32 ∧ b < 32
  | .rri mn a b _ => mn ∈ normalIMn ++ memIMn ++ bMn ++ sMn ∧ a < 32 ∧ b < 32
  | .csr mn a _ b => mn ∈ csrMn ∧ a < 32 ∧ b < 32
  | .csri mn a _ _ => mn ∈ csriMn ∧ a < 32
  | .jalImm a _ => a < 32
  | .jalLabel a _ _ => a < 32
  | .fence a b => a < 32 ∧ b < 32
  | .li a _ => a < 32
  | .mv a b => a < 32 ∧ b < 32

theorem GrammarForm.ne_ecall {pi : PInstr} (hg : GrammarForm pi) : C04.piMnemonic pi ≠ "ecall" := by
  intro e
  cases pi with
  | rtype mn | utype mn | btypeLabel mn | mem mn | memPseudo mn | sPseudo mn | rri mn | csr mn | csri mn =>
    obtain rfl : mn = "ecall" := e
    exact absurd hg.1 (by decide +kernel)
  | jalImm | jalLabel | fence | li | mv => simp [C04.piMnemonic] at e

/-- What the printer needs of an instruction object beyond what the assembler guarantees: it has a
    printed assembler form (`fence` has none), a csr number is not negative (it is printed in
    hexadecimal), and a `jal` target has at most 4300 decimal digits (Python's `str(int)` limit). -/
def Printable (i : Instr) : Prop :=
  i.op ≠ .fence ∧ (i.op.ty = .csr ∨ i.op.ty = .csri → 0 ≤ i.aux) ∧ (i.op = .jal → i.aux.natAbs < 10 ^ 4300)

theorem ty_b : ∀ mn ∈ bMn, (Op.ofMnemonic mn).map Op.ty = some .b := by decide +kernel

theorem sext21_range (v : Int) : -1048576 ≤ sextImm 21 v ∧ sextImm 21 v ≤ 1048575 := by
  have := sextImm_range 21 v; omega

theorem labelDisp_even {ls : Labels} {l : String} {off addr : Int} {k : Nat} {line : String} {d : Int}
    (h : labelDisp ls l off addr k line = .ok d) : d % 2 = 0 :=
  let ⟨_, _, _, hev⟩ := C04.labelDisp_ok_inv ls l off addr k line d h; hev

theorem instantiate_canon (ls : Labels) (addr : Int) (k : Nat) (line : String) (pi : PInstr) (i : Instr)
    (hg : GrammarForm pi) (haddr : addr % 2 = 0) (h : instantiate ls addr k line pi = .ok i)
    (hp : Printable i) : i.Canon addr := by
  have num (hn : NumericForm pi) := instantiate_canon_numeric ls addr k line pi i hn h
  cases C04.instantiate_built h with
  | rtype | utype | mem | rri => exact num hg
  | fence => exact num trivial
  | @csr _ op a c b ho =>
    have ht : op.ty = .csr := by simpa [ho] using ty_csr _ hg.1
    exact num ⟨hg.1, hg.2.1, hg.2.2, hp.2.1 (Or.inl ht)⟩
  | @csri _ op a c u ho =>
    have ht : op.ty = .csri := by simpa [ho] using ty_csri _ hg.1
    exact num ⟨hg.1, hg.2, hp.2.1 (Or.inr ht)⟩
  | jalImm a he => exact num ⟨hg, hp.2.2 rfl⟩
  | @btypeLabel _ op _ _ d a b ho hd =>
    have ht : op.ty = .b := by simpa [ho] using ty_b _ hg.1
    have hev := sext13_even d (labelDisp_even (hd 0 ""))
    simp [Instr.Canon, mkInstr, storedImm, ht, hg.2.1, hg.2.2, hev]
    have := sextImm_range 13 d; omega
  | @jalLabel _ _ d a hd =>
    have hev := labelDisp_even (hd 0 "")
    have e : d + addr - addr = d := by omega
    refine ⟨hg, Nat.zero_lt_succ _, Nat.zero_lt_succ _, ?_⟩
    simp only [mkInstr, storedImm, Op.ty, e, true_and]
    exact ⟨by omega, hp.2.2 rfl⟩

def GrammarEntries (es : List TEntry) : Prop := ∀ e ∈ es, ∀ pi, e.2.2 = .grp pi → GrammarForm pi

theorem canon_ecall (addr : Int) : ({ op := .ecall } : Instr).Canon addr := by
  simp [Instr.Canon, Op.ty]

theorem canon_ebreak (addr : Int) : ({ op := .ebreak, imm := 1 } : Instr).Canon addr := by
  simp [Instr.Canon, Op.ty]

theorem buildInstrs_canonFrom (ls : Labels) (es : List TEntry) : ∀ (addr : Int) (prog : List Instr),
    GrammarEntries es → addr % 2 = 0 → buildInstrs ls es addr = .ok prog → (∀ i ∈ prog, Printable i) →
    CanonFrom addr prog := by
  induction es with
  | nil =>
    intro addr prog _ _ h _
    simp only [buildInstrs, Except.ok.injEq] at h
    subst h; trivial
  | cons e rest ih =>
    obtain ⟨k, line, it⟩ := e
    intro addr prog hg ha h hp
    obtain ⟨o, tl, rfl, htl, hE⟩ := C04.buildInstrs_cons_ok ls k line it rest addr prog h
    have hg' : GrammarEntries rest := fun e he => hg e (List.mem_cons_of_mem _ he)
    cases o with
    | none => exact ih _ _ hg' ha (by simpa using htl) hp
    | some i0 =>
      have hp0 := hp i0 List.mem_cons_self
      refine ⟨?_, hp0.1, ih _ _ hg' (by omega) (by simpa using htl) fun i hi => hp i (List.mem_cons_of_mem _ hi)⟩
      cases hE with
      | ecall => exact canon_ecall addr
      | ebreak => exact canon_ebreak addr
      | grp hin => exact instantiate_canon ls addr k line _ i0 (hg _ List.mem_cons_self _ rfl) ha hin hp0

end ArchSim.Lemmas.C14
