/-
Concrete instances for the non-vacuity examples of `Props/C15.lean`.
That the RISC-V instruction grammar fails on the bad line is the dispatch theorem of C04SpellRows at a word of which
no mnemonic is a prefix; the TOY grammar is evaluated on it through its mirror over sorted symbol lists
(`ToyAsm.parseLine_eq`).
-/
import ArchSim.Model.Sim
import ArchSim.Lemmas.ToyAsmFront
import ArchSim.Lemmas.C04SpellLine

namespace ArchSim.Lemmas.C15.Ex
open ArchSim ArchSim.PP ArchSim.Asm

def badLine : List Char := "foo bar".toList

theorem h_ecall : first [fun k => (caselessLit "ecall" k).map (fun _ => Item.str "ecall"),
                        fun k => (caselessLit "ebreak" k).map (fun _ => Item.str "ebreak")] badLine = .fail := by
  rfl
theorem h_nop : (caselessLit "nop" badLine).map (fun _ => Item.str "nop") = .fail := by rfl

open ArchSim.Lemmas.C04Spell in
/-- no mnemonic is a prefix of `foo`, so no row of the instruction grammar is entered (`C04Spell.pInstrBody_word`) -/
theorem h_body : pInstrBody badLine = .fail := by
  have h := pInstrBody_word "foo" (by decide +kernel) "foo".toList " bar".toList (CaseVar.refl (by decide))
    (wordSep_ws ' ' _ rfl)
  rwa [show rows.filter (fun r => "foo" ∈ r.head.syms) = [] by decide +kernel] at h

open ArchSim.Lemmas.C04Spell in
/-- `foo` is a word not followed by a colon, so the line can only be an instruction (`C04Spell.parseLine_alts_word`) -/
theorem h_parse : parseLine badLine = none := by
  show parseLine ("foo".toList ++ " bar".toList) = none
  simp only [parseLine, orLongest, parseLine_alts_word "foo".toList "foo".toList " bar".toList (CaseVar.refl (by decide))
    (by decide) (lineSep_ws ' ' _ rfl (by decide)), show pInstrBody ("foo".toList ++ " bar".toList) = .fail from h_body, ArchSim.Lemmas.C14.map_fail]
  rfl

def exText : String := "# demo\n  foo bar # c\nnop"

theorem ex_sanitize : sanitize exText = [(2, badLine), (3, "nop".toList)] := by decide +kernel

theorem ex_load (s : Rv.St) : (Asm.load s exText).err = some (.parser "ParserSyntaxException" 2 "foo bar") := by
  unfold Asm.load
  simp only [ex_sanitize, tokenize, h_parse]
  rfl

/-! ### TOY -/

theorem toy_parse : ToyAsm.parseLine badLine = none := by
  rw [ToyAsm.parseLine_eq]; decide +kernel

theorem toy_ex_load (t : ArchSim.Toy.TSim) :
    (ToyAsm.load t exText).2 = some (.parser "ParserSyntaxException" 2 "foo bar") := by
  unfold ToyAsm.load
  have : ToyAsm.sanitize exText = [(2, badLine), (3, "nop".toList)] := ex_sanitize
  simp only [this, ToyAsm.tokenize, toy_parse]
  rfl

/-! ### run-time faults -/

/-- a one-instruction program: `lw x1, 0(x0)` reads address 0, below the data range -/
def lwInstr : Rv.Instr := { op := .lw, rd := 1, rs1 := 0, imm := 0 }
def faultSt : Rv.St := { Asm.freshSt with imem := { prog := [lwInstr], cache := none } }

theorem single_fault : (Rv.singleStep faultSt).fault = some (0, .mem (.addr 0)) := by decide

/-- the same instruction in the EX/MEM latch of an otherwise empty pipeline -/
def faultPipe : Pipe.PSt :=
  { Pipe.PSt.init faultSt false with
    l2 := some { instr := lwInstr, addr := 0, pc4 := 4, result := some 0 } }

theorem pipe_fault : (Pipe.step faultPipe).fault = some ⟨0, lwInstr, .mem (.addr 0)⟩ := by decide

/-- `load_program` does not clear the pipeline registers: reloading (here the empty program) while
    the `lw` is in flight leaves it in the EX/MEM register. -/
def reloaded : Sim.RSim := (Sim.load { five := true, p := faultPipe } "").1

theorem reloaded_stale : (Sim.load { five := true, p := faultPipe } "").2 = none ∧
    reloaded.p.st.imem.prog = [] ∧
    (Pipe.step reloaded.p).fault = some ⟨0, lwInstr, .mem (.addr 0)⟩ ∧
    reloaded.p.st.imem.instrAt 0 = none := by decide

end ArchSim.Lemmas.C15.Ex
