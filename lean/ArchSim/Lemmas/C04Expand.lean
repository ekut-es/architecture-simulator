/-
Pseudo-instruction expansion in one equation: `groupOf vars it` is the list of items an item expands to, and `expandOne`
attaches the line number and text of the entry to each (`expandOne_eq`). Hence expansion is local, and the group of a
pseudo-instruction refers neither to a label nor to its own address: its objects are the same wherever it is built.
-/
import ArchSim.Lemmas.C05Li

namespace ArchSim.Lemmas.C04
open ArchSim ArchSim.Asm ArchSim.Rv ArchSim.Lemmas.C05

theorem expandAll_append (vars : Vars) (l₁ l₂ : List TEntry) :
    expandAll vars (l₁ ++ l₂) =
      match expandAll vars l₁ with
      | .error x => .error x
      | .ok A =>
        match expandAll vars l₂ with
        | .error x => .error x
        | .ok B => .ok (A ++ B) := by
  induction l₁ with
  | nil => simp only [List.nil_append, expandAll]; cases expandAll vars l₂ <;> rfl
  | cons e rest ih =>
    simp only [List.cons_append, expandAll, ih]
    cases expandOne vars e with
    | error x => rfl
    | ok g =>
      cases expandAll vars rest with
      | error x => rfl
      | ok A =>
        cases expandAll vars l₂ with
        | error x => rfl
        | ok B => simp only [List.append_assoc]

theorem expandAll_insert (vars : Vars) (pre post : List TEntry) (e : TEntry) (P g Q : List TEntry)
    (hP : expandAll vars pre = .ok P) (hg : expandOne vars e = .ok g) (hQ : expandAll vars post = .ok Q) :
    expandAll vars (pre ++ e :: post) = .ok (P ++ g ++ Q) := by
  simp only [expandAll_append, expandAll, hP, hg, hQ, List.append_assoc]

/-- the items `expandOne` rewrites: `nop`, `li`, `mv`, and `la` / loads / stores by variable name -/
def isPseudo : Item → Bool
  | .str s => decide (s = "nop")
  | .grp (.li ..) => true
  | .grp (.mv ..) => true
  | .grp (.memPseudo ..) => true
  | .grp (.sPseudo ..) => true
  | _ => false

theorem expandOne_plain (vars : Vars) (k : Nat) (line : String) (it : Item) (h : isPseudo it = false) :
    expandOne vars (k, line, it) = .ok [(k, line, it)] := by
  cases it with
  | str s =>
    simp only [isPseudo, decide_eq_false_iff_not] at h
    simp only [expandOne]
    split <;> simp_all
  | grp pi => cases pi <;> first | (simp [isPseudo] at h; done) | rfl | (simp only [expandOne])
  | _ => rfl

def luiAddiItems (rd : Nat) (a : Int) : List Item :=
  [.grp (.utype "lui" rd (hiLo a).1), .grp (.rri "addi" rd rd (hiLo a).2)]

/-- the items of the group an item expands to, `none` when it names a variable that is not in the table:
    the line number and text of the entry play no part in it -/
def groupOf (vars : Vars) : Item → Option (List Item)
  | .str s => some [if s = "nop" then .grp (.rri "addi" 0 0 0) else .str s]
  | .grp (.li rd c) => some (if c > 2047 ∨ c < -2048 then luiAddiItems rd c else [.grp (.rri "addi" rd 0 c)])
  | .grp (.mv rd rs) => some [.grp (.rri "addi" rd rs 0)]
  | .grp (.memPseudo mn rd v idx) => (lookupVar vars v).map fun r =>
      luiAddiItems rd (r.1 + r.2 * idx.getD 0) ++ if mn = "la" then [] else [.grp (.mem mn rd 0 rd)]
  | .grp (.sPseudo mn rs v idx rt) => (lookupVar vars v).map fun r =>
      luiAddiItems rt (r.1 + r.2 * idx.getD 0) ++ [.grp (.mem mn rs 0 rt)]
  | it => some [it]

theorem expandOne_eq (vars : Vars) (k : Nat) (line : String) (it : Item) :
    expandOne vars (k, line, it) =
      match groupOf vars it with
      | some g => .ok (g.map fun i => (k, line, i))
      | none => .error (.parser "ParserVariableException" k line) := by
  cases it with
  | str s =>
    by_cases hs : s = "nop"
    · subst hs; rfl
    · rw [expandOne_plain vars k line (.str s) (by simpa [isPseudo] using hs)]
      simp only [groupOf, if_neg hs]
      rfl
  | grp pi =>
    cases pi with
    | li rd c => simp only [expandOne, groupOf, luiAddiItems]; split <;> rfl
    | memPseudo mn rd v idx =>
      simp only [expandOne, groupOf, luiAddiItems]
      cases lookupVar vars v with
      | none => rfl
      | some r => simp only [Option.map_some]; split <;> rfl
    | sPseudo mn rs v idx rt =>
      simp only [expandOne, groupOf, luiAddiItems]
      cases lookupVar vars v <;> rfl
    | _ => rfl
  | _ => rfl

theorem expandOne_ok (vars : Vars) (k : Nat) (line : String) (it : Item) (g : List TEntry)
    (h : expandOne vars (k, line, it) = .ok g) :
    ∃ items, groupOf vars it = some items ∧ g = items.map fun i => (k, line, i) := by
  rw [expandOne_eq] at h
  cases hg : groupOf vars it with
  | none => rw [hg] at h; cases h
  | some items => rw [hg] at h; cases h; exact ⟨items, rfl, rfl⟩

theorem expandOne_error_inv (vars : Vars) (k : Nat) (line : String) (it : Item) (x : AsmErr)
    (h : expandOne vars (k, line, it) = .error x) :
    x = .parser "ParserVariableException" k line ∧
      ∀ k', expandOne vars (k', line, it) = .error (.parser "ParserVariableException" k' line) := by
  rw [expandOne_eq] at h
  split at h <;> cases h
  next hg => exact ⟨rfl, fun k' => by rw [expandOne_eq, hg]⟩

theorem expandOne_relocate (vars : Vars) (k k' : Nat) (line line' : String) (it : Item) (g : List TEntry)
    (h : expandOne vars (k, line, it) = .ok g) :
    expandOne vars (k', line', it) = .ok (g.map fun e => (k', line', e.2.2)) ∧
      ∀ e ∈ g, e.1 = k ∧ e.2.1 = line := by
  obtain ⟨items, hg, rfl⟩ := expandOne_ok vars k line it g h
  constructor
  · rw [expandOne_eq, hg, List.map_map]; rfl
  · intro e he
    obtain ⟨i, _, rfl⟩ := List.mem_map.mp he
    exact ⟨rfl, rfl⟩

/-! ### the instruction objects of a pseudo-instruction's group do not depend on labels or address -/

/-- the grouped forms whose instruction object depends on the address or the label table -/
def usesAddr : PInstr → Bool
  | .btypeLabel .. => true
  | .jalImm .. => true
  | .jalLabel .. => true
  | _ => false

theorem instantiate_indep (ls ls' : Labels) (a a' : Int) (k : Nat) (line : String) (pi : PInstr)
    (h : usesAddr pi = false) : instantiate ls a k line pi = instantiate ls' a' k line pi := by
  cases pi <;> first | (simp [usesAddr] at h; done) | rfl

def addrFree (g : List TEntry) : Prop := ∀ e ∈ g, ∀ pi, e.2.2 = .grp pi → usesAddr pi = false

theorem buildInstrs_indep (ls ls' : Labels) (g : List TEntry) (a a' : Int) (h : addrFree g) :
    buildInstrs ls g a = buildInstrs ls' g a' := by
  induction g generalizing a a' with
  | nil => rfl
  | cons e rest ih =>
    obtain ⟨k, line, it⟩ := e
    have hr : addrFree rest := fun e he => h e (List.mem_cons_of_mem _ he)
    cases it with
    | str s => simp only [buildInstrs, ih (a + 4) (a' + 4) hr, ih a a' hr]
    | grp pi =>
      have := h (k, line, .grp pi) (List.mem_cons_self ..) pi rfl
      simp only [buildInstrs, instantiate_indep ls ls' a a' k line pi this, ih (a + 4) (a' + 4) hr]
    | _ => rfl

/-- a grouped instruction entry that refers neither to a label nor to its own address -/
def plainGrp : Item → Bool
  | .grp pi => !usesAddr pi
  | _ => false

theorem plainGrp_grp {i : Item} (h : plainGrp i = true) : ∃ pi, i = .grp pi ∧ usesAddr pi = false := by
  cases i with
  | grp pi => exact ⟨pi, rfl, by simpa [plainGrp] using h⟩
  | _ => cases h

theorem groupOf_pseudo (vars : Vars) (it : Item) (items : List Item) (hp : isPseudo it = true)
    (h : groupOf vars it = some items) : items ≠ [] ∧ items.all plainGrp = true := by
  cases it with
  | str s =>
    simp only [isPseudo, decide_eq_true_eq] at hp
    simp only [groupOf, if_pos hp, Option.some.injEq] at h
    subst h
    exact ⟨List.cons_ne_nil _ _, rfl⟩
  | grp pi =>
    cases pi with
    | li rd c =>
      simp only [groupOf, luiAddiItems, Option.some.injEq] at h
      subst h
      split <;> exact ⟨List.cons_ne_nil _ _, rfl⟩
    | mv rd rs =>
      simp only [groupOf, Option.some.injEq] at h
      subst h
      exact ⟨List.cons_ne_nil _ _, rfl⟩
    | memPseudo mn rd v idx =>
      simp only [groupOf, luiAddiItems, Option.map_eq_some_iff] at h
      obtain ⟨r, _, rfl⟩ := h
      split <;> exact ⟨List.cons_ne_nil _ _, rfl⟩
    | sPseudo mn rs v idx rt =>
      simp only [groupOf, luiAddiItems, Option.map_eq_some_iff] at h
      obtain ⟨r, _, rfl⟩ := h
      exact ⟨List.cons_ne_nil _ _, rfl⟩
    | _ => cases hp
  | _ => cases hp

theorem pseudo_group_addrFree (vars : Vars) (k : Nat) (line : String) (it : Item) (g : List TEntry)
    (hp : isPseudo it = true) (h : expandOne vars (k, line, it) = .ok g) : addrFree g := by
  obtain ⟨items, hg, rfl⟩ := expandOne_ok vars k line it g h
  intro e he pi hpi
  obtain ⟨i, hi, rfl⟩ := List.mem_map.mp he
  obtain ⟨pi', rfl, hfree⟩ := plainGrp_grp (List.all_eq_true.mp (groupOf_pseudo vars it items hp hg).2 i hi)
  cases hpi
  exact hfree

theorem pseudo_group_grp (vars : Vars) (k : Nat) (line : String) (it : Item) (g : List TEntry)
    (hp : isPseudo it = true) (h : expandOne vars (k, line, it) = .ok g) :
    g ≠ [] ∧ ∀ e ∈ g, ∃ pi, e.2.2 = .grp pi := by
  obtain ⟨items, hg, rfl⟩ := expandOne_ok vars k line it g h
  obtain ⟨hne, hall⟩ := groupOf_pseudo vars it items hp hg
  refine ⟨fun e => hne (List.map_eq_nil_iff.mp e), fun e he => ?_⟩
  obtain ⟨i, hi, rfl⟩ := List.mem_map.mp he
  obtain ⟨pi, rfl, _⟩ := plainGrp_grp (List.all_eq_true.mp hall i hi)
  exact ⟨pi, rfl⟩

end ArchSim.Lemmas.C04
