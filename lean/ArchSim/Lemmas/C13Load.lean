/-
`load_program`: a load resets both memories, then only writes the data memory *directly*
(bypassing the cache) and replaces the program. A direct write is a write to the backing memory (`DirectReach m m'`:
`m'` is reached from `m` by direct writes), so it is undone by a reset and leaves the data-cache counters alone.
The lemmas stand in the namespaces of what they are about, `ArchSim.Asm` and `ArchSim.Sim`.
-/
import ArchSim.Model.Sim
import ArchSim.Lemmas.C18Store
import ArchSim.Lemmas.C05Layout
namespace ArchSim.Asm
open ArchSim ArchSim.Rv

inductive DirectReach : MemSys → MemSys → Prop
  | refl (m : MemSys) : DirectReach m m
  | step {m m' : MemSys} (bits : Nat) (a : Int) (v : Nat) :
      DirectReach m m' → DirectReach m (m'.write bits a v true).mem

theorem DirectReach.trans {a b c : MemSys} (h1 : DirectReach a b) (h2 : DirectReach b c) : DirectReach a c := by
  induction h2 with
  | refl => exact h1
  | step bits x v _ ih => exact .step bits x v ih

theorem writeSeq_reach (bits : Nat) (vs : List Int) (m : MemSys) (a : Int) :
    DirectReach m (writeSeq bits vs m a).1 := by
  fun_induction writeSeq bits vs m a with
  | case1 => exact .refl _
  | case2 => exact .step _ _ _ (.refl _)
  | case3 => exact .step _ _ _ (.refl _)
  | case4 _ _ _ _ _ _ _ ih => exact (DirectReach.step _ _ _ (.refl _)).trans ih

theorem writeSeq_reach_of_eq {bits : Nat} {vs : List Int} {m m' : MemSys} {a a' : Int} {oe : Option AsmErr}
    (h : writeSeq bits vs m a = (m', a', oe)) : DirectReach m m' := by
  have := writeSeq_reach bits vs m a
  rw [h] at this
  exact this

theorem declWrite_reach {it : Item} {m m' : MemSys} {a a' : Int} {oe : Option AsmErr}
    (h : Lemmas.C05.declWrite it m a = (m', a', oe)) : DirectReach m m' := by
  rcases Lemmas.C05.declWrite_cases it m a with ⟨bits, vs, -, hw⟩ | ⟨c, hw⟩ <;> rw [hw] at h
  · exact writeSeq_reach_of_eq h
  · cases h; exact .refl _

theorem writeData_reach (es : List Entry) (o : DataOut) : DirectReach o.mem (writeData es o).mem := by
  induction es generalizing o with
  | nil => exact .refl _
  | cons x rest ih =>
    obtain ⟨k, line, t⟩ := x
    rw [Lemmas.C05.writeData_cons_eq]
    split
    · exact .refl _
    · split
      · exact .refl _
      · split
        · next hw => exact declWrite_reach hw
        · next m a' hw => exact (declWrite_reach hw).trans (ih (Lemmas.C05.declared o t.item m a'))

/-! ### a direct write followed by a reset is a reset -/

def setBacking : MemSys → Mem.Mem → MemSys
  | .flat _, m' => .flat m'
  | .cached l s, m' => .cached l { s with mem := m' }

theorem backing_setBacking (ms : MemSys) (m' : Mem.Mem) : (setBacking ms m').backing = m' := by
  cases ms <;> rfl

theorem setBacking_reset {ms : MemSys} {m' : Mem.Mem} (h : m'.cfg = ms.backing.cfg) :
    (setBacking ms m').reset = ms.reset := by
  cases ms <;> simp only [setBacking, MemSys.reset, Cache.DSys.reset, Mem.Mem.reset, h, MemSys.backing]

theorem write_direct_eq (ms : MemSys) (bits : Nat) (a : Int) (v : Nat) :
    ms.write bits a v true =
      match Mem.write ms.backing bits a v with
      | none => { mem := ms, res := .error .unsupported, extra := 0 }
      | some (m', some e) => { mem := setBacking ms m', res := .error (.addr e.address), extra := 0 }
      | some (m', none) => { mem := setBacking ms m', res := .ok 0, extra := 0 } := by
  cases ms with
  | flat m => rfl
  | cached l s =>
    simp only [MemSys.write, Cache.DSys.write, if_true, Cache.DSys.writeDirect, MemSys.backing]
    rcases Mem.write s.mem bits a v with _ | ⟨m', _ | e⟩ <;> rfl

theorem write_direct_reset (ms : MemSys) (bits : Nat) (a : Int) (v : Nat) :
    (ms.write bits a v true).mem.reset = ms.reset := by
  rw [write_direct_eq]
  split
  · rfl
  · next h => exact setBacking_reset (Lemmas.C18.write_cfg h)
  · next h => exact setBacking_reset (Lemmas.C18.write_cfg h)

theorem DirectReach.reset_eq {m m' : MemSys} (h : DirectReach m m') : m'.reset = m.reset := by
  induction h with
  | refl => rfl
  | step bits a v _ ih => rw [write_direct_reset, ih]

theorem MemSys.reset_reset (m : MemSys) : m.reset.reset = m.reset := by
  cases m <;> rfl

theorem reset_cfg (ms : MemSys) : ms.reset.backing.cfg = ms.backing.cfg := by
  cases ms <;> rfl

theorem DirectReach.cfg_eq {m m' : MemSys} (h : DirectReach m m') : m'.backing.cfg = m.backing.cfg := by
  rw [← reset_cfg m', h.reset_eq, reset_cfg]

theorem ICache.reset_reset (c : ICache) : c.reset.reset = c.reset := rfl

theorem icache_map_reset_reset (c : Option ICache) :
    (c.map ICache.reset).map ICache.reset = c.map ICache.reset := by
  cases c <;> rfl

/-! ### `load` sees the state only through its reset -/

/-- The state `load_program` hands to the parser: both memories reset (instruction-cache counters
    included), everything else as it was. -/
def resetSt (s : St) : St :=
  { s with mem := s.mem.reset, imem := { prog := [], cache := s.imem.cache.map ICache.reset } }

theorem resetSt_resetSt (s : St) : resetSt (resetSt s) = resetSt s := by
  simp only [resetSt, MemSys.reset_reset, icache_map_reset_reset]

theorem load_resetSt (s : St) (text : String) : load (resetSt s) text = load s text := by
  simp only [load, resetSt, MemSys.reset_reset, icache_map_reset_reset]

theorem load_congr {s s' : St} (h : resetSt s = resetSt s') (text : String) : load s text = load s' text := by
  rw [← load_resetSt s, h, load_resetSt]

/-- `load` looks at the state only through its data pass: the loads of a text from two states are compared by
    comparing their data passes, run on the same entries from their reset memories. -/
theorem load_rel (R : MemSys → MemSys → Prop) (s s' : St) (text : String)
    (h : ∀ data,
      let d := writeData data { mem := s.mem.reset, vars := [], ctr := 16384, err := none }
      let d' := writeData data { mem := s'.mem.reset, vars := [], ctr := 16384, err := none }
      R d.mem d'.mem ∧ d'.vars = d.vars ∧ d'.err = d.err) :
    ∃ m m' prog err, R m m' ∧ prog.length ≤ 4096 ∧
      load s text = { st := { s with mem := m, imem := { prog := prog, cache := s.imem.cache.map ICache.reset } },
                      err := err } ∧
      load s' text = { st := { s' with mem := m', imem := { prog := prog, cache := s'.imem.cache.map ICache.reset } },
                       err := err } := by
  have h0 : ([] : List Instr).length ≤ 4096 := Nat.zero_le _
  unfold load
  -- the results of the passes are made variables one after the other (`cases`), so that nothing evaluates them
  cases tokenize (sanitize text) with
  | error e => exact ⟨_, _, _, _, (h []).1, h0, rfl, rfl⟩
  | ok toks =>
    simp only
    cases segment toks with
    | error e => exact ⟨_, _, _, _, (h []).1, h0, rfl, rfl⟩
    | ok p =>
      obtain ⟨hm, hv, he⟩ := h p.1
      simp only [hv, he]
      generalize writeData p.1 { mem := s.mem.reset, vars := [], ctr := 16384, err := none } = d at hm ⊢
      generalize (writeData p.1 { mem := s'.mem.reset, vars := [], ctr := 16384, err := none }).mem = m' at hm ⊢
      cases d.err with
      | some e => exact ⟨_, _, _, _, hm, h0, rfl, rfl⟩
      | none =>
        simp only
        cases expandAll d.vars (p.2.map fun x => (x.1, x.2.1, x.2.2.item)) with
        | error e => exact ⟨_, _, _, _, hm, h0, rfl, rfl⟩
        | ok expanded =>
          simp only
          cases processLabels expanded (p.2.filterMap fun x => x.2.2.lbl.map fun l => (x.1, l)) [] 0 with
          | error e => exact ⟨_, _, _, _, hm, h0, rfl, rfl⟩
          | ok ls =>
            simp only
            cases buildInstrs ls expanded 0 with
            | error e => exact ⟨_, _, _, _, hm, h0, rfl, rfl⟩
            | ok instrs =>
              simp only
              split
              · exact ⟨_, _, _, _, hm, List.length_take_le _ _, rfl, rfl⟩
              · next hlen => exact ⟨_, _, _, _, hm, Nat.le_of_not_lt hlen, rfl, rfl⟩

/-- `load_rel` for one state, with "reached from the reset memory" as the relation. -/
theorem load_shape (s : St) (text : String) :
    ∃ m prog, DirectReach s.mem.reset m ∧ prog.length ≤ 4096 ∧
      (load s text).st = { s with mem := m, imem := { prog := prog, cache := s.imem.cache.map ICache.reset } } := by
  obtain ⟨m, _, prog, _, hr, hl, he, -⟩ := load_rel (fun m _ => DirectReach s.mem.reset m) s s text fun data =>
    ⟨writeData_reach data { mem := s.mem.reset, vars := [], ctr := 16384, err := none }, rfl, rfl⟩
  exact ⟨m, prog, hr, hl, by rw [he]⟩

theorem load_prog_le (s : St) (text : String) : (load s text).st.imem.prog.length ≤ 4096 := by
  obtain ⟨_, _, -, hl, he⟩ := load_shape s text
  rw [he]
  exact hl

theorem resetSt_load (s : St) (text : String) : resetSt (load s text).st = resetSt s := by
  obtain ⟨m, prog, hr, -, he⟩ := load_shape s text
  rw [he]
  simp only [resetSt, hr.reset_eq, MemSys.reset_reset, icache_map_reset_reset]

theorem load_load (s : St) (t1 t2 : String) : load (load s t1).st t2 = load s t2 :=
  load_congr (resetSt_load s t1) t2

theorem load_frame (s : St) (text : String) :
    let s' := (load s text).st
    s'.regs = s.regs ∧ s'.pc = s.pc ∧ s'.output = s.output ∧ s'.exitCode = s.exitCode ∧
    s'.cycles = s.cycles ∧ s'.instrs = s.instrs ∧ s'.branches = s.branches ∧ s'.procs = s.procs ∧
    s'.stalls = s.stalls ∧ s'.flushes = s.flushes ∧
    s'.imem.cache = s.imem.cache.map ICache.reset ∧ DirectReach s.mem.reset s'.mem := by
  obtain ⟨m, prog, hr, -, he⟩ := load_shape s text
  rw [he]
  exact ⟨rfl, rfl, rfl, rfl, rfl, rfl, rfl, rfl, rfl, rfl, rfl, hr⟩

/-! ### data-cache counters: kept by direct writes and by `reset` -/

def dCounters : MemSys → Option (Nat × Nat × Bool)
  | .flat _ => none
  | .cached _ s => some (s.hits, s.accesses, s.lastHit)

theorem dCounters_reset (m : MemSys) : dCounters m.reset = dCounters m := by
  cases m <;> rfl

theorem dCounters_setBacking (ms : MemSys) (m' : Mem.Mem) : dCounters (setBacking ms m') = dCounters ms := by
  cases ms <;> rfl

theorem dCounters_write_direct (ms : MemSys) (bits : Nat) (a : Int) (v : Nat) :
    dCounters (ms.write bits a v true).mem = dCounters ms := by
  rw [write_direct_eq]
  split
  · rfl
  · exact dCounters_setBacking ..
  · exact dCounters_setBacking ..

theorem DirectReach.dCounters_eq {m m' : MemSys} (h : DirectReach m m') : dCounters m' = dCounters m := by
  induction h with
  | refl => rfl
  | step bits a v _ ih => rw [dCounters_write_direct, ih]

theorem load_dCounters (s : St) (text : String) : dCounters (load s text).st.mem = dCounters s.mem := by
  obtain ⟨m, prog, hr, -, he⟩ := load_shape s text
  rw [he]
  exact hr.dCounters_eq.trans (dCounters_reset s.mem)

end ArchSim.Asm

namespace ArchSim.Sim
open ArchSim

/-- The simulation after a sequence of `load_program` calls (each may succeed or fail). -/
def loads (s : RSim) (ts : List String) : RSim := ts.foldl (fun s t => (load s t).1) s

theorem loads_nil (s : RSim) : loads s [] = s := rfl
theorem loads_cons (s : RSim) (t : String) (ts : List String) : loads s (t :: ts) = loads (load s t).1 ts := by
  simp only [loads, List.foldl_cons]

/-- `load` is `Asm.load` on the architectural state and the identity on everything else. Stated with
    `Asm.load` kept folded: comparing terms across `load` directly makes the unifier unfold the parser. -/
theorem load_eq (s : RSim) (t : String) :
    load s t = ({ s with p := { s.p with st := (Asm.load s.p.st t).st } }, (Asm.load s.p.st t).err) := rfl

theorem load_st (s : RSim) (t : String) : (load s t).1.p.st = (Asm.load s.p.st t).st := by rw [load_eq]
theorem load_err (s : RSim) (t : String) : (load s t).2 = (Asm.load s.p.st t).err := by rw [load_eq]

theorem load_frame_sim (s : RSim) (t : String) :
    (load s t).1.five = s.five ∧ (load s t).1.started = s.started ∧ (load s t).1.p.hazard = s.p.hazard ∧
    (load s t).1.p.l0 = s.p.l0 ∧ (load s t).1.p.l1 = s.p.l1 ∧ (load s t).1.p.l2 = s.p.l2 ∧
    (load s t).1.p.l3 = s.p.l3 ∧ (load s t).1.p.l4 = s.p.l4 ∧ (load s t).1.p.stalled = s.p.stalled := by
  rw [load_eq]
  exact ⟨rfl, rfl, rfl, rfl, rfl, rfl, rfl, rfl, rfl⟩

theorem load_load (s : RSim) (t1 t2 : String) : load (load s t1).1 t2 = load s t2 := by
  rw [load_eq (load s t1).1, load_st, Asm.load_load, load_eq s t2, load_eq s t1]

theorem load_loads (s : RSim) (ts : List String) (t : String) : load (loads s ts) t = load s t := by
  induction ts generalizing s with
  | nil => rfl
  | cons t1 ts ih => rw [loads_cons, ih, load_load]

theorem loads_eq (s : RSim) (ts : List String) : ∃ st, loads s ts = { s with p := { s.p with st := st } } := by
  induction ts generalizing s with
  | nil => exact ⟨s.p.st, rfl⟩
  | cons t ts ih => rw [loads_cons, load_eq]; exact ih _

end ArchSim.Sim
