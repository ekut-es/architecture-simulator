/-
Flush cycles. When WB, MEM or EX raises a flush, the redirecting instruction was already completed
in `abs`, so everything the flush squashes was dead: the abstraction does not move. The flush puts
into the physical pc the target that the abstraction carried as a redirect still pending behind the
completion of what survives (`Comp.orRed`); the three cases conclude through `abs_squash`.
-/
import ArchSim.Lemmas.C02Pres

namespace ArchSim.Pipe
open ArchSim ArchSim.Rv ArchSim.Lemmas.C02Split

/-- A cycle in which EX leaves the state alone and MEM does not fault turns the older part of the chain (MEM
    then WB of `l2`, `l3`) into the write-back of MEM's output; `l3` has retired (the log prefix). -/
theorem older_advance (p : PSt) (h3 : latchExit p.l3 = false)
    (hst : (exOut p).st = (wbOut p).1) (hme : (memOut p).fault = none) :
    CSimL (latchLog p.l3) (cWB (memOut p).st (memOut p).latch (latchFlush (memOut p).latch)) (older p) := by
  unfold older
  rw [cWB_noexit _ _ h3, bind_logged]
  have hm : memOut p = memStage (wbOut p).1 (memInput p) := by unfold memOut; rw [hst]
  rw [hm] at hme ⊢
  have := cMEM_nofault (wbOut p).1 (memInput p) none hme
  rw [orElseFl_none_right] at this
  rw [← this]
  exact CSimL.trans_left (cMEM_sim (wbOut_sim p).symm _ _) (CSimL_prefixLog _ _)

theorem sim_setPc (s : St) (x : Int) : Sim { s with pc := x } s := ⟨rfl, rfl, rfl, rfl, rfl, rfl, rfl, rfl⟩

theorem Sim.withPc {s t : St} (h : Sim s t) (x y : Int) : Sim { s with pc := x } { t with pc := y } :=
  ((sim_setPc s x).trans h).trans (sim_setPc t y).symm

theorem latchExit_of_wbflush_none (p : PSt) (h4 : latchFlush (wbOut p).2 = none) : latchExit p.l3 = false := by
  rw [← wbStage_flush_isSome (ifOut p).1 p.l3]; unfold wbOut at h4; rw [h4]; rfl

/-! ### A redirect pending behind a completion -/

/-- `c` with a redirect to `a` pending behind it: it takes effect unless `c` redirects or is stuck. -/
def Comp.orRed (c : Comp) (a : Int) : Comp :=
  match c.red with
  | none => { c with red := some (a % 4294967296, none) }
  | some _ => c

theorem orRed_of_red {c : Comp} (h : ∃ b, c.red = some b) (a : Int) : c.orRed a = c := by
  obtain ⟨b, h⟩ := h
  unfold Comp.orRed; rw [h]

theorem cWB_orRed (s : St) (l : Option Latch) (a : Int) : cWB s l (some a) = (cWB s l none).orRed a := by
  unfold cWB Comp.orRed; cases latchFlush (wbStage s l).2 <;> rfl

theorem orRed_fields (c : Comp) (a x : Int) :
    (c.orRed a).st = c.st ∧ (c.orRed a).log = c.log ∧ (c.orRed a).flt = c.flt ∧
    (c.orRed a).pcOr x = c.pcOr (a % 4294967296) ∧ (c.orRed a).red.isSome = true := by
  obtain ⟨st, red, log⟩ := c
  cases red <;> exact ⟨rfl, rfl, rfl, rfl, rfl⟩

/-- `o` is the flushed state, its pc the target `a`. If what survives in `o`, with `a` pending behind it,
    completes like all of `p` after the retired `l3`, then the abstraction did not move, `absC p` has `red`
    set, and predicted fault and log carry over. -/
theorem abs_squash (p o : PSt) (a : Int) (hpc : o.st.pc = a % 4294967296)
    (h : CSimL (latchLog p.l3) ((absC o).orRed a) (absC p)) :
    SimP (abs o) (abs p) ∧ (absC p).red.isSome = true ∧ absF o = absF p ∧
      latchLog p.l3 ++ absLog o = absLog p := by
  obtain ⟨e1, e2, e3, e4, e5⟩ := orRed_fields (absC o) a p.st.pc
  obtain ⟨hr, hs, hl⟩ := h
  rw [e1] at hs; rw [e2] at hl
  refine ⟨⟨hs.withPc _ _, ?_⟩, hr ▸ e5, e3.symm.trans (flt_congr hr), hl⟩
  show (absC o).pcOr o.st.pc = (absC p).pcOr p.st.pc
  rw [hpc, ← e4]; unfold Comp.pcOr; rw [hr]

theorem absC_flushed3 (p : PSt) (s : St) (n3 l4 : Option Latch) :
    absC { p with st := s, l0 := none, l1 := none, l2 := none, l3 := n3, l4 := l4, stalled := none } =
      cWB s n3 none := by
  simp [absC, memInput, exInput, idInput, ifEntry]

theorem absC_flushed2 (p : PSt) (s : St) (e : Latch) (l4 : Option Latch) :
    absC { p with st := s, l0 := none, l1 := none, l2 := some e, l3 := none, l4 := l4, stalled := none } =
      cMEM s (some e) none := by
  simp [absC, memInput, exInput, idInput, ifEntry]

/-! ### The three flush sources -/

/-- WB flush (an exiting ECALL retires): everything younger was already dead. -/
theorem abs_flush4 (p : PSt) (hI : PInv p) (a : Int) (h4 : latchFlush (wbOut p).2 = some a) :
    SimP (abs (nextP p)) (abs p) ∧ (absC p).red.isSome = true ∧ absF (nextP p) = absF p ∧
      latchLog p.l3 ++ absLog (nextP p) = absLog p := by
  rw [nextP, finishStep_flush4 _ _ _ _ _ _ _ a h4]
  have hx : latchExit p.l3 = true := by
    rw [← wbStage_flush_isSome (ifOut p).1 p.l3]; unfold wbOut at h4; rw [h4]; rfl
  have hm : memInput p = none := memInput_none_of_l2 p (hI.e3 hx)
  have hsx : (exOut p).st = (wbOut p).1 := by
    rcases exOut_cases p hI with h | ⟨_, _, _, _, _, h⟩
    · exact h
    · rw [h] at hx; cases hx
  have hsm : (memOut p).st = (wbOut p).1 := by unfold memOut; rw [hm, hsx]; rfl
  -- the abstraction before the step stops at the exiting ECALL
  have hp : absC p = ⟨(wbStage p.st p.l3).1, some (a % 4294967296, none), latchLog p.l3⟩ := by
    have : cWB p.st p.l3 none = ⟨(wbStage p.st p.l3).1, some (a % 4294967296, none), latchLog p.l3⟩ := by
      unfold cWB; rw [(wbStage_sim (ifOut_sim p) p.l3).2, show latchFlush (wbStage _ _).2 = _ from h4]; rfl
    unfold absC; rw [this]; rfl
  -- nothing survives
  apply abs_squash p _ a rfl
  rw [hp, absC_empty _ rfl rfl rfl rfl rfl, hsm]
  exact ⟨rfl, (flushSt_sim _ a).trans ((stallBump_sim _ _).trans (wbOut_sim p).symm), List.append_nil _⟩

/-- MEM flush (taken branch, jump, exiting ECALL in MEM): everything younger was already dead. -/
theorem abs_flush3 (p : PSt) (hI : PInv p) (hme : (memOut p).fault = none) (a : Int)
    (h4 : latchFlush (wbOut p).2 = none) (h3 : latchFlush (memOut p).latch = some a) :
    SimP (abs (nextP p)) (abs p) ∧ (absC p).red.isSome = true ∧ absF (nextP p) = absF p ∧
      latchLog p.l3 ++ absLog (nextP p) = absLog p := by
  rw [nextP, finishStep_flush3 _ _ _ _ _ _ _ a h4 h3]
  have hsx : (exOut p).st = (wbOut p).1 := by
    rcases exOut_cases p hI with h | ⟨_, _, _, _, h, _⟩
    · exact h
    · rw [(memOut_latch_eq_none p hme).2 h] at h3; cases h3
  have hold := older_advance p (latchExit_of_wbflush_none p h4) hsx hme
  rw [h3] at hold
  -- the abstraction before the step stops at the redirecting instruction
  obtain ⟨b, hb⟩ := cWB_some_red (memOut p).st (memOut p).latch a
  have hp : absC p = older p := by
    have hob : (older p).red = some b := by rw [← hold.1]; exact hb
    rw [absC_eq, mid, bind_of_red_some hob, bind_of_red_some hob, bind_of_red_some hob]
  -- the new MEM/WB latch survives
  apply abs_squash p _ a rfl
  rw [hp, absC_flushed3, ← cWB_orRed]
  exact CSimL.trans_left (cWB_sim ((flushSt_sim _ a).trans (stallBump_sim _ _)) _ _) hold

/-- An ecall that runs its service in EX finds nothing older in flight (`ecall_runs_iff`): the
    abstraction completes it from the physical state before the cycle, as the oldest entry, and EX
    does with it there what it does in the cycle — whether or not the service raises. -/
theorem ecall_run_abs (p : PSt) (hI : PInv p) (d : Latch) (hd : exInput p = some d)
    (hop : d.instr.op = .ecall) (hw : ecallMustWait d p.l2 p.l3 = false) :
    mid p = cEX p.st (some d) ∧ (memOut p).st = (exOut p).st ∧
      Sim (exStage p.st (some d) none none).st (exOut p).st ∧
      (exStage p.st (some d) none none).latch = (exOut p).latch ∧
      (exStage p.st (some d) none none).fault = (exOut p).fault := by
  obtain ⟨hm, hl3⟩ := (ecall_runs_iff p hI d hd).1 hw
  have hs2 : Sim p.st (wbOut p).1 := by
    have := wbOut_sim p; rw [hl3] at this; exact this
  refine ⟨by rw [mid, older_of_empty p hm hl3, bind_pure, hd], by unfold memOut; rw [hm]; rfl, ?_⟩
  unfold exOut
  rw [hd, exStage_ecall_run _ d _ _ hop hw, exStage_ecall_run p.st d none none hop (ecallMustWait_none d)]
  exact ecallRun_sim hs2 d

theorem mid_of_ecall_run (p : PSt) (hI : PInv p) (hex : (exOut p).fault = none) (d : Latch)
    (hd : exInput p = some d) (hop : d.instr.op = .ecall) (hw : ecallMustWait d p.l2 p.l3 = false) :
    CSim (mid p)
      (cMEM (memOut p).st (exOut p).latch (latchFlush (exOut p).latch)) := by
  obtain ⟨hmid, hsm, e1, e2, e3⟩ := ecall_run_abs p hI d hd hop hw
  rw [hmid, cEX_nofault _ _ (e3.trans hex), e2, hsm]
  exact cMEM_sim e1 _ _

/-- EX flush (an exiting ECALL runs): everything younger was already dead. -/
theorem abs_flush2 (p : PSt) (hI : PInv p) (hex : (exOut p).fault = none) (hme : (memOut p).fault = none)
    (a : Int) (h4 : latchFlush (wbOut p).2 = none) (h3 : latchFlush (memOut p).latch = none)
    (h2 : latchFlush (exOut p).latch = some a) :
    SimP (abs (nextP p)) (abs p) ∧ (absC p).red.isSome = true ∧ absF (nextP p) = absF p ∧
      latchLog p.l3 ++ absLog (nextP p) = absLog p := by
  rw [nextP, finishStep_flush2 _ _ _ _ _ _ _ a h4 h3 h2]
  obtain ⟨hm, hl3, hst⟩ := exFlush_drained p hI hex a h2
  rw [hst, (memOut_latch_eq_none p hme).2 hm]
  obtain ⟨d, e, hd, hop, hw, _, he', hope, hxe⟩ := exOut_flush p hex a h2
  have hc := mid_of_ecall_run p hI hex d hd hop hw
  rw [he'] at hc ⊢
  obtain ⟨b, hb⟩ := (cMEM_exit (memOut p).st e hope hxe (latchFlush (some e)) none).2
  have hp : absC p = mid p := by
    have hob : (mid p).red = some b := by rw [hc.1]; exact hb
    rw [absC_eq, bind_of_red_some hob, bind_of_red_some hob]
  -- the exiting ECALL in the new EX/MEM latch survives; it redirects by itself
  apply abs_squash p _ a rfl
  rw [hp, hl3, absC_flushed2, orRed_of_red (cMEM_exit _ e hope hxe none none).2]
  exact (cMEM_sim ((flushSt_sim _ a).trans (stallBump_sim _ _)) (some e) none).trans
    ((cMEM_exit (memOut p).st e hope hxe none (latchFlush (some e))).1 ▸ hc.symm)

end ArchSim.Pipe
