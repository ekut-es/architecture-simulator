/-
Whole lines and programs in any spelling: every legible spelling of an instruction line is tokenized as `itemOf i`; the
default spelling is the printed form `Instr.repr`, and the back end builds a canonical instruction from its item, so
every spelling of a canonical instruction builds that instruction and a text of such lines loads to the program.
`itemBuilds_of_canon` is declared in the namespace `C14` (it speaks of `itemOf`, defined with the spellings).
-/
import ArchSim.Lemmas.C04SpellRender
import ArchSim.Lemmas.C14Load

namespace ArchSim.Lemmas.C04Spell
open ArchSim ArchSim.PP ArchSim.Rv ArchSim.Asm ArchSim.Lemmas.C14

/-! ### every spelling of a line -/

theorem parseLine_of_bodyS (w rest : List Char) (hw : ∀ c ∈ w, isLow c = true) (hne : w ≠ []) (hs : LineSep rest)
    (it : Item) (tr : List Char) (htr : AllWs tr) (hb : pInstrBody (w ++ rest) = .ok it tr) :
    parseLine (w ++ rest) = some { lbl := none, item := it } := by
  have hend : atEnd tr = true := by simp [atEnd, skipWs_allWs tr htr]
  simp only [parseLine, orLongest, parseLine_alts_word w w rest (CaseVar.refl hw) hne hs, hb, map_ok, List.any_cons, List.any_nil,
    Bool.or_false, Bool.false_eq_true, if_false, List.foldl_cons, List.foldl_nil, hend, if_true]

theorem lineSep_tReg (g : List Char) (st : RegStyle) (n : Nat) (rest : List Char) (hg : AllWs g) (hgne : g ≠ [])
    (hn : n < 32) : LineSep (tReg g st n rest) := by
  cases g with
  | nil => exact absurd rfl hgne
  | cons c g' =>
    obtain ⟨d, tl, hd, hl⟩ := regSp_head st n hn
    have hdf := low_operand_facts d hl
    apply lineSep_ws c _ (hg c (by simp))
    show List.head? (skipWs (g' ++ (regSp st n ++ rest))) ≠ some ':'
    rw [skipWs_append g' _ (fun e he => hg e (by simp [he])), hd, List.cons_append,
      skipWs_cons_of_not_ws d _ hdf.2.2.1]
    simpa using hdf.2.2.2

theorem parseLine_spelled_word (m : String) (hm : m ∈ mnWords) (lead : List Char) (hlead : AllWs lead)
    (sel : Nat → Bool) (X : List Char) (hs : LineSep X) (it : Item) (tr : List Char) (htr : AllWs tr)
    (hb : pInstrBody (m.toList ++ X) = .ok it tr) :
    parseLine (lead ++ (recase sel m.toList ++ X)) = some { lbl := none, item := it } := by
  have hlow := mnWords_low m hm
  rw [parseLine_ws lead _ hlead, parseLine_cv m hm _ X (caseVar_recase sel _ hlow.1) hs]
  exact parseLine_of_bodyS m.toList X hlow.1 hlow.2 hs it tr htr hb

theorem body_render_fits (sp : Spelling) (i : Instr) (hs : Legible sp i) :
    pInstrBody (mn i.op ++ operands sp i (blanks sp.trail)) = .ok (itemOf i) (blanks sp.trail) ∧
      LineSep (operands sp i (blanks sp.trail)) := by
  obtain ⟨hrd, hrs1, hrs2, himm, hauxI, hauxC, hf⟩ := hs
  have hg := allWs_gapOf sp
  have hgne := gapOf_ne_nil sp
  have b1 := allWs_blanks sp.c1a
  have b2 := allWs_blanks sp.c1b
  have b3 := allWs_blanks sp.c2a
  have b4 := allWs_blanks sp.c2b
  have p1 := allWs_blanks sp.pa
  have p2 := allWs_blanks sp.pb
  have p3 := allWs_blanks sp.pc
  have htr := allWs_blanks sp.trail
  have sep : ∀ n < 32, ∀ r, LineSep (tReg (gapOf sp) sp.r1 n r) := fun n hn r => lineSep_tReg _ _ _ r hg hgne hn
  cases hcl : cls i.op <;> simp only [operands, itemOf, hcl]
  case r => exact ⟨bodyS_R hg hgne b1 b2 b3 b4 htr i.op hcl hrd hrs1 hrs2, sep _ hrd _⟩
  case imm3 => exact ⟨bodyS_RRI hg hgne b1 b2 b3 b4 htr i.op (Or.inl hcl) hrd hrs1 himm, sep _ hrd _⟩
  case jalr => exact ⟨bodyS_RRI hg hgne b1 b2 b3 b4 htr i.op (Or.inr (Or.inl hcl)) hrd hrs1 himm, sep _ hrd _⟩
  case load => exact ⟨bodyS_MEM hg hgne b1 b2 p1 p2 p3 i.op (Or.inl hcl) hrd hrs1 himm, sep _ hrd _⟩
  case store => exact ⟨bodyS_MEM hg hgne b1 b2 p1 p2 p3 i.op (Or.inr hcl) hrs2 hrs1 himm, sep _ hrs2 _⟩
  case b => exact ⟨bodyS_RRI hg hgne b1 b2 b3 b4 htr i.op (Or.inr (Or.inr hcl)) hrs1 hrs2 himm, sep _ hrs1 _⟩
  case u => exact ⟨bodyS_U hg hgne b1 b2 htr i.op hcl hrd himm, sep _ hrd _⟩
  case jal =>
    have hauxI := hauxI hcl
    rw [cls_jal.mp hcl]
    exact ⟨bodyS_J hg hgne b1 b2 htr hrd hauxI, sep _ hrd _⟩
  case ecall => exact ⟨bodyS_env htr i.op (Or.inl hcl), lineSep_allWs _ htr⟩
  case ebreak => exact ⟨bodyS_env htr i.op (Or.inr hcl), lineSep_allWs _ htr⟩
  case csr =>
    exact ⟨bodyS_CSR hg hgne b1 b2 b3 b4 htr i.op hcl hrd hrs1 (hauxC (.inl hcl)), sep _ hrd _⟩
  case csri =>
    exact ⟨bodyS_CSRI hg hgne b1 b2 b3 b4 htr i.op hcl hrd (hauxC (.inr hcl)) himm, sep _ hrd _⟩
  case fence => exact absurd (cls_fence.mp hcl) hf

theorem parseLine_render (sp : Spelling) (i : Instr) (hs : Legible sp i) :
    parseLine (render sp i) = some { lbl := none, item := itemOf i } := by
  obtain ⟨hb, hsep⟩ := body_render_fits sp i hs
  exact parseLine_spelled_word i.op.mnemonic (mnemonic_mem _) _ (allWs_blanks _) sp.mnCase _ hsep _ _
    (allWs_blanks _) hb

/-! ### the default spelling; canonical instructions -/

theorem toLower_low : ∀ c ∈ lowList, c.toLower = c := by decide +kernel

theorem recase_false_low (w : List Char) (hw : ∀ c ∈ w, isLow c = true) : recase (fun _ => false) w = w := by
  rw [recase_false]
  exact (List.map_congr_left fun c hc => toLower_low c (isLow_mem c (hw c hc))).trans (List.map_id _)

theorem blanks_nil : blanks [] = [] := rfl
theorem blanks_one : blanks [false] = [' '] := rfl
theorem gapOf_default : gapOf {} = [' '] := rfl

theorem render_default (i : Instr) (hf : i.op ≠ .fence)
    (hcsr : i.op.ty = .csr ∨ i.op.ty = .csri → 0 ≤ i.aux) : render {} i = i.repr.toList := by
  have hm : recase (fun _ => false) i.op.mnemonic.toList = i.op.mnemonic.toList :=
    recase_false_low _ (mn_low i.op).1
  have hdec : ∀ v, numSp .dec v = decTxt v := fun _ => rfl
  -- both sides written out as character lists: the default spelling by class, the printed form by type
  simp only [render, blanks_nil, List.nil_append, mn, hm, operands, gapOf_default, blanks_one, tReg, tSep, tNum, regSp,
    hdec, List.cons_append, List.append_nil, regTxt, decTxt]
  unfold Instr.repr
  cases hty : i.op.ty <;>
    simp only [toList_ite, String.toList_append, hexLower_toList, toString_string,
      sp_toList, cs_toList, lp_toList, rp_toList, x_toList, zx_toList, List.append_assoc, List.cons_append,
      List.nil_append]
  case r => simp only [cls_r.mpr hty]
  case i =>
    by_cases he : i.op = .ecall
    · simp only [he, cls, true_or, if_true, List.append_nil]
    · by_cases hb : i.op = .ebreak
      · simp only [hb, cls, or_true, if_true, List.append_nil]
      · by_cases hj : i.op = .jalr
        · simp only [cls_jalr.mpr hj, he, hb, or_self, if_false]
        · simp only [cls_imm3.mpr (.inl ⟨hty, hj, he, hb⟩), he, hb, or_self, if_false]
  case shiftI => simp only [cls_imm3.mpr (.inr hty)]
  case memI => simp only [cls_load.mpr hty]
  case s => simp only [cls_store.mpr hty]
  case b => simp only [cls_b.mpr hty]
  case u => simp only [cls_u.mpr hty]
  case j => simp only [cls_jal.mpr (ty_j i.op hty)]
  case fence => exact absurd (ty_fence i.op hty) hf
  case csr => simp only [cls_csr.mpr hty, numSp_hex_default i.aux (hcsr (.inl hty)), hexTxt, List.cons_append]
  case csri => simp only [cls_csri.mpr hty, numSp_hex_default i.aux (hcsr (.inr hty)), hexTxt, List.cons_append]

theorem spellable_small (i : Instr) (h1 : i.rd < 32) (h2 : i.rs1 < 32) (h3 : i.rs2 < 32)
    (h4 : -(2 : Int) ^ 64 ≤ i.imm ∧ i.imm ≤ (2 : Int) ^ 64) (h5 : -(2 : Int) ^ 64 ≤ i.aux ∧ i.aux ≤ (2 : Int) ^ 64)
    (h6 : i.op ≠ .fence) : Spellable i :=
  ⟨h1, h2, h3, small_natAbs _ h4.1 h4.2, small_natAbs _ h5.1 h5.2, h6⟩

/-- The assembler back end on the item of a canonical instruction: `ecall`/`ebreak` are the bare words, every other
    item is a grouped tree that `instantiate` maps to `i` at address `addr`, by instruction type through `C04.Built`. -/
theorem _root_.ArchSim.Lemmas.C14.itemBuilds_of_canon (i : Instr) (addr : Int) (hc : i.Canon addr) (hf : i.op ≠ .fence) :
    ItemBuilds addr (itemOf i) i := by
  obtain ⟨hrd, hrs1, hrs2, hcan⟩ := hc
  by_cases he : i.op = .ecall
  · simp only [he, Op.ty, if_true] at hcan
    refine .inl ⟨he, by simp only [itemOf, he]; rfl, ?_⟩
    apply instr_ext <;> simp [he, hcan]
  by_cases hb : i.op = .ebreak
  · simp only [hb, Op.ty, reduceCtorEq, if_true, if_false] at hcan
    refine .inr (.inl ⟨hb, by simp only [itemOf, hb]; rfl, ?_⟩)
    apply instr_ext <;> simp [hb, hcan]
  have hm := ofMnemonic_mnemonic i.op
  have grp : ∀ {pi : PInstr}, itemOf i = .grp pi →
      (∀ (ls : Labels) (k : Nat) (line : String), instantiate ls addr k line pi = .ok i) →
      ItemBuilds addr (itemOf i) i := fun hit hi => .inr (.inr ⟨he, hb, _, hit, hi⟩)
  cases hty : i.op.ty with
  | r =>
    simp only [hty] at hcan
    obtain ⟨him, hax⟩ := hcan
    refine grp (by rw [itemOf, cls_r.mpr hty]) fun ls k line => ?_
    rw [(C04.Built.rtype _ _ _ hm).instantiate_eq]
    exact congrArg _ (mkInstr_eq i rfl rfl rfl (by simp [storedImm, hty, him]) hax)
  | i =>
    simp only [hty, he, hb, if_false] at hcan
    obtain ⟨hr2, hax, hcan⟩ := hcan
    have hit : itemOf i = .grp (.rri i.op.mnemonic i.rd i.rs1 i.imm) := by
      by_cases hj : i.op = .jalr
      · simp only [itemOf, cls_jalr.mpr hj]
      · simp only [itemOf, cls_imm3.mpr (Or.inl ⟨hty, hj, he, hb⟩)]
    refine grp hit fun ls k line => ?_
    rw [(C04.Built.rri hm (.i (.inl hty))).instantiate_eq]
    exact congrArg _ (mkInstr_eq i rfl rfl hr2 (by simp [storedImm, hty, he, hb, sextImm_id 12 i.imm (by omega)]) hax)
  | shiftI =>
    simp only [hty] at hcan
    obtain ⟨hr2, hax, h1, h2⟩ := hcan
    refine grp (by rw [itemOf, cls_imm3.mpr (Or.inr hty)]) fun ls k line => ?_
    rw [(C04.Built.rri hm (.i (.inr (.inr hty)))).instantiate_eq]
    exact congrArg _ (mkInstr_eq i rfl rfl hr2 (by simp only [storedImm, hty]; omega) hax)
  | memI =>
    simp only [hty] at hcan
    obtain ⟨hr2, hax, h1, h2⟩ := hcan
    refine grp (by rw [itemOf, cls_load.mpr hty]) fun ls k line => ?_
    rw [(C04.Built.mem hm (.i (.inr (.inl hty)))).instantiate_eq]
    exact congrArg _ (mkInstr_eq i rfl rfl hr2 (by simp [storedImm, hty, he, hb, sextImm_id 12 i.imm (by omega)]) hax)
  | s =>
    simp only [hty] at hcan
    obtain ⟨hr0, hax, h1, h2⟩ := hcan
    refine grp (by rw [itemOf, cls_store.mpr hty]) fun ls k line => ?_
    rw [(C04.Built.mem hm (.s hty)).instantiate_eq]
    exact congrArg _ (mkInstr_eq i hr0 rfl rfl (by simp [storedImm, hty, sextImm_id 12 i.imm (by omega)]) hax)
  | b =>
    simp only [hty] at hcan
    obtain ⟨hr0, hax, hev, h1, h2⟩ := hcan
    refine grp (by rw [itemOf, cls_b.mpr hty]) fun ls k line => ?_
    rw [(C04.Built.rri hm (.b hty hev)).instantiate_eq]
    exact congrArg _ (mkInstr_eq i hr0 rfl rfl (by simp [storedImm, hty, sextImm_id 13 i.imm (by omega)]) hax)
  | u =>
    simp only [hty] at hcan
    obtain ⟨hr1, hr2, hax, h1, h2⟩ := hcan
    refine grp (by rw [itemOf, cls_u.mpr hty]) fun ls k line => ?_
    rw [(C04.Built.utype _ _ hm).instantiate_eq]
    exact congrArg _ (mkInstr_eq i rfl hr1 hr2 (by simp [storedImm, hty, sextImm_id 20 i.imm (by omega)]) hax)
  | j =>
    simp only [hty] at hcan
    obtain ⟨hr1, hr2, hev, him, hv⟩ := hcan
    have hop : i.op = .jal := ty_j i.op hty
    refine grp (by rw [itemOf, cls_jal.mpr hop]) fun ls k line => ?_
    rw [(C04.Built.jalImm _ hev).instantiate_eq]
    congr 1
    apply instr_ext <;> simp [mkInstr, storedImm, hop, Op.ty, hr1, hr2, him]
  | fence =>
    exact absurd (ty_fence i.op hty) hf
  | csr =>
    simp only [hty] at hcan
    obtain ⟨hr2, him, hax⟩ := hcan
    refine grp (by rw [itemOf, cls_csr.mpr hty]) fun ls k line => ?_
    rw [(C04.Built.csr _ _ _ hm).instantiate_eq]
    congr 1
    apply instr_ext <;> simp [hr2, him]
  | csri =>
    simp only [hty] at hcan
    obtain ⟨hr1, hr2, h1, h2, hax⟩ := hcan
    refine grp (by rw [itemOf, cls_csri.mpr hty]) fun ls k line => ?_
    rw [(C04.Built.csri _ _ _ hm).instantiate_eq]
    congr 1
    apply instr_ext <;> simp [hr1, hr2]
    · omega

theorem legible_of_canon (sp : Spelling) (i : Instr) (addr : Int) (hc : i.Canon addr) (hf : i.op ≠ .fence)
    (hcsr : CsrFits sp i) : Legible sp i := by
  have hb := canon_imm_bound i addr hc
  refine ⟨hc.1, hc.2.1, hc.2.2.1, numFits_of_small _ _ (small_natAbs _ (by omega) (by omega)), fun hj => ?_, hcsr, hf⟩
  have hcan := hc.2.2.2
  simp only [cls_jal.mp hj, Op.ty] at hcan
  exact numFits_of_small _ _ hcan.2.2.2.2

theorem render_roundtrip (sp : Spelling) (i : Instr) (addr : Int) (hc : i.Canon addr) (hf : i.op ≠ .fence)
    (hcsr : CsrFits sp i) :
    parseLine (render sp i) = parseLine i.repr.toList ∧
      parseLine (render sp i) = some { lbl := none, item := itemOf i } ∧ ItemBuilds addr (itemOf i) i := by
  have h1 := parseLine_render sp i (legible_of_canon sp i addr hc hf hcsr)
  have h2 := parseLine_render {} i (legible_of_canon {} i addr hc hf fun _ => trivial)
  rw [render_default i hf (canon_csr_nonneg i addr hc)] at h2
  exact ⟨h1.trans h2.symm, h1, itemBuilds_of_canon i addr hc hf⟩

/-! ### whole programs -/

theorem tokenize_good_sp (nl : List (Nat × List Char)) (prog : List Instr) (sps : List Spelling) (addr : Int)
    (hl : nl.map (·.2) = List.zipWith render sps prog) (hlen : sps.length = prog.length)
    (hc : CanonFrom addr prog)
    (hcsr : ∀ p ∈ sps.zip prog, CsrFits p.1 p.2) :
    ∃ es, tokenize nl = .ok es ∧ Good addr es prog := by
  induction nl generalizing prog sps addr with
  | nil =>
    cases prog with
    | nil => exact ⟨[], rfl, trivial⟩
    | cons i is =>
      cases sps with
      | nil => simp at hlen
      | cons sp sps => simp at hl
  | cons p nl ih =>
    cases prog with
    | nil => cases sps <;> simp at hl
    | cons i is =>
      cases sps with
      | nil => simp at hlen
      | cons sp sps =>
        obtain ⟨k, l⟩ := p
        simp only [List.map_cons, List.zipWith_cons_cons, List.cons.injEq] at hl
        obtain ⟨hl1, hl2⟩ := hl
        obtain ⟨hci, hf, hcs⟩ := hc
        obtain ⟨_, hp, hb⟩ := render_roundtrip sp i addr hci hf (hcsr (sp, i) (by simp))
        obtain ⟨es, hes, hg⟩ := ih is sps (addr + 4) hl2 (by simpa using hlen) hcs
          (fun q hq => hcsr q (by simp [hq]))
        refine ⟨(k, String.ofList l, { lbl := none, item := itemOf i }) :: es, ?_, rfl, hb, hg⟩
        simp only [tokenize, hl1, hp, hes]

theorem load_spelled_st (s : St) (text : String) (prog : List Instr) (sps : List Spelling)
    (hl : (sanitize text).map (·.2) = List.zipWith render sps prog) (hlen : sps.length = prog.length)
    (hc : CanonFrom 0 prog)
    (hcsr : ∀ p ∈ sps.zip prog, CsrFits p.1 p.2)
    (hsize : prog.length ≤ 4096) :
    load s text =
      { st := { s with mem := s.mem.reset, imem := { prog := prog, cache := s.imem.cache.map ICache.reset } },
        err := none } := by
  obtain ⟨es, hes, hg⟩ := tokenize_good_sp (sanitize text) prog sps 0 hl hlen hc hcsr
  exact load_good s text prog es hes hg hsize

theorem load_spelled (s : St) (text : String) (prog : List Instr) (sps : List Spelling)
    (hl : (sanitize text).map (·.2) = List.zipWith render sps prog) (hlen : sps.length = prog.length)
    (hc : CanonFrom 0 prog)
    (hcsr : ∀ p ∈ sps.zip prog, CsrFits p.1 p.2)
    (hsize : prog.length ≤ 4096) :
    (load s text).err = none ∧ (load s text).st.imem.prog = prog := by
  rw [load_spelled_st s text prog sps hl hlen hc hcsr hsize]
  exact ⟨rfl, rfl⟩

end ArchSim.Lemmas.C04Spell
