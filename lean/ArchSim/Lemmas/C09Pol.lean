/-
The real policies (LRU, PLRU) satisfy the abstract policy interface of C09 when the associativity suits
the policy (`AssocOK`); the re-read lemma at the level of `Rv.MemSys`, for the single-cycle display re-read;
the geometry, history and counting policy of the examples of `Props/C09.lean`.
-/
import ArchSim.Lemmas.C10Pol
import ArchSim.Lemmas.C09Reread

namespace ArchSim.Lemmas.C09
open ArchSim ArchSim.Cache ArchSim.Spec.TagCache ArchSim.Repl

theorem polOps_access (l : Bool) : (polOps l).access = Pol.access := by cases l <;> rfl
theorem polOps_victim (l : Bool) : (polOps l).victim = Pol.victim := by cases l <;> rfl
theorem polOps_init (l : Bool) : (polOps l).init = Pol.init l := by cases l <;> rfl

/-- The associativity suits the policy: PLRU needs a power of two (as the Python constructor
    asserts). -/
def AssocOK (isLru : Bool) (assoc : Nat) : Prop :=
  0 < assoc ∧ (isLru = false → ∃ d, assoc = 2 ^ d)

theorem polOps_ok {isLru : Bool} {assoc : Nat} (h : AssocOK isLru assoc) :
    PolicyOK (polOps isLru) assoc (Pol.WF assoc) where
  init := by rw [polOps_init]; exact Pol.WF_init isLru assoc h.2
  access := by
    intro s i hs hi
    rw [polOps_access]
    exact Pol.WF.access hs hi
  victim := by
    intro s hs
    rw [polOps_victim]
    exact Pol.WF.victim hs h.1

theorem polOps_idem (isLru : Bool) (assoc : Nat) : PolicyIdem (polOps isLru) (Pol.WF assoc) := by
  intro s s' i hs h
  rw [polOps_access] at h ⊢
  exact Pol.WF.access_idem hs h

open ArchSim.Rv in
theorem memsys_reread {l : Bool} {s : DSys Pol} (ha : AssocOK l s.geo.assoc)
    (hinv : Inv (Pol.WF s.geo.assoc) s) {bits : Nat} {a : Int} (hacc : Accepted bits a)
    (counted : Bool) {a' : Int} (haa : wrap32 a' = wrap32 a) :
    ((MemSys.cached l s).read bits a counted).mem.read bits a' false =
      { mem := ((MemSys.cached l s).read bits a counted).mem,
        res := ((MemSys.cached l s).read bits a counted).res, extra := 0 } := by
  simp only [MemSys.read]
  rw [reread_same_address (polOps_ok ha) (polOps_idem l _) hinv hacc counted haa]

theorem wrap32_wrapU_add (d : Nat) (im : Int) :
    wrap32 ((Rv.wrapU d : Int) + im) = wrap32 ((d : Int) + im) := by
  unfold wrap32 Rv.wrapU
  rw [Int.toNat_of_nonneg (Int.emod_nonneg _ (by decide)), Int.emod_add_emod]

def exGeo : Geo := { idxBits := 1, blkBits := 1, assoc := 2 }

/-- A history mixing widths, counted and uncounted reads, write hits and misses (the write miss is
    where write-back and write-through part ways), conflict misses in one set (four distinct tags
    into a 2-way set), an address that wraps modulo 2^32, and direct writes, one of them to an
    address the lower memory rejects. -/
def exOps : List Op :=
  [ .read 32 16384 true, .write 8 16389 7 false, .read 16 16390 false, .read 32 16400 true,
    .write 16 16434 513 false, .read 16 16434 true, .read 8 16403 true,
    .read 32 (4294967296 + 16384) true, .write 32 0 1 true, .write 32 32768 9 true,
    .read 32 32768 true, .read 8 32775 true ]

/-- A policy that counts how often it is told about an access: total, but not idempotent. -/
def counterOps : PolicyOps Nat :=
  { init := fun _ => 0, access := fun s _ => some (s + 1), victim := fun _ => some 0 }

def counterGeo : Geo := { idxBits := 0, blkBits := 0, assoc := 1 }

def counterState : DSys Nat :=
  ((DSys.init counterOps false counterGeo 3 (Mem.Mem.empty Mem.riscvCfg)).read counterOps 32 16384 true).sys

end ArchSim.Lemmas.C09
