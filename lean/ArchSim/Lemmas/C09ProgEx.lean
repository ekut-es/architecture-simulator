/-
Objects for the non-vacuity examples of `Props/C09Prog.lean`: the example program of `Props/C02.lean` over a small
write-back LRU data cache, with and without an instruction cache; `dHits`, `dLastHit`: the other two data-cache
counters beside `dAcc`.
-/
import ArchSim.Lemmas.C09ProgRun
import ArchSim.Props.C02

namespace ArchSim.Lemmas.C09Prog
open ArchSim ArchSim.Cache ArchSim.Rv ArchSim.Repl ArchSim.Pipe
open ArchSim.Lemmas.C11 ArchSim.Lemmas.C11Prog

def dHits : MemSys → Nat
  | .flat _ => 0
  | .cached _ ds => ds.hits
def dLastHit : MemSys → Bool
  | .flat _ => false
  | .cached _ ds => ds.lastHit

/-- The example program of `Props/C02.lean` (RAW interlock, store/load pair, taken branch, exiting
    ecall) over a 2-set, 2-word-block, 2-way write-back LRU data cache with miss penalty 10. -/
def exDSt : St :=
  { Props.C02.exSt with
    mem := .cached true (DSys.init (polOps true) false C09.exGeo 10 (Mem.Mem.empty Mem.riscvCfg)) }

theorem exDSt_hyp : StepHyp exDSt where
  nocache := rfl
  fits := by decide
  wf := by unfold ProgWF; decide
  inv := ⟨fun _ => by show (0 : Nat) < 4294967296; decide, ⟨true, _, rfl,
    (DOK.of_empty (by constructor <;> decide) ⟨by decide, fun h => by cases h⟩ rfl C03.MemOK_empty).1⟩⟩

/-- `exDSt` with the one-set instruction cache of the C11 examples switched on. -/
def exDStC : St := { exDSt with imem := { prog := exDSt.imem.prog, cache := some exCache1 } }

end ArchSim.Lemmas.C09Prog
