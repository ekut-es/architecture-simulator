/-
What the register pattern makes of a variable name (which may start with, or be, a register name): it reads at most
a prefix of the name, so an operand parser that wants `register ,` there fails.
-/
import ArchSim.Lemmas.C04SpellLabelTarget

namespace ArchSim.Lemmas.C04Spell
open ArchSim ArchSim.PP ArchSim.Rv ArchSim.Asm ArchSim.Lemmas.C14

theorem labelBody_not_ws (c : Char) (h : isLabelBody c = true) : isWs c = false := by
  cases hw : isWs c with
  | false => rfl
  | true => rw [isWs_not_labelBody c hw] at h; cases h

theorem oneOf_word_left (syms : List String) (hs : ∀ s ∈ syms, s.toList ≠ [] ∧ ∀ c ∈ s.toList, isLabelBody c = true)
    (wd rest0 : List Char) (hnw : ∀ c ∈ wd.head?, isWs c = false) (hne : wd ≠ []) (ht : TokEnd rest0) :
    oneOf syms (wd ++ rest0) = .fail ∨
      ∃ s k, 0 < k ∧ k ≤ wd.length ∧ oneOf syms (wd ++ rest0) = .ok s (wd.drop k ++ rest0) := by
  have hskip : skipWs (wd ++ rest0) = wd ++ rest0 := by
    cases wd with
    | nil => exact absurd rfl hne
    | cons c cs => exact skipWs_cons_of_not_ws c _ (hnw c (by simp))
  unfold oneOf
  simp only [hskip, oneOf_go_eq]
  cases hf : (longestFirst syms).find? (fun s => s.toList.isPrefixOf (wd ++ rest0)) with
  | none => left; rfl
  | some s =>
    right
    have hp : s.toList.isPrefixOf (wd ++ rest0) = true := by
      have := List.find?_some hf; simpa using this
    have hm := hs s (mem_longestFirst.mp (List.mem_of_find?_eq_some hf))
    rw [isPrefixOf_append_class isLabelBody _ _ _ hm.2 ht] at hp
    have hle : s.toList.length ≤ wd.length := (List.isPrefixOf_iff_prefix.mp hp).length_le
    refine ⟨s, s.toList.length, List.length_pos_iff.mpr hm.1, hle, ?_⟩
    simp only [List.drop_append_of_le_length hle]

theorem abi_syms_facts (s : String) (hs : s ∈ abiNames.map (·.1)) :
    s.toList ≠ [] ∧ ∀ c ∈ s.toList, isLabelBody c = true :=
  ⟨(abi_sym_table s hs).1, fun c hc => ((abi_sym_table s hs).2.2 c hc).1⟩

theorem regNumbers_ne : ∀ t ∈ regNumbers, t.toList ≠ [] := by decide +kernel

theorem regNumbers_facts (s : String) (hs : s ∈ regNumbers) :
    s.toList ≠ [] ∧ ∀ c ∈ s.toList, isLabelBody c = true :=
  ⟨regNumbers_ne s hs, fun c hc => by
    simp only [isLabelBody, isAlnum, regNumbers_isNum s hs c hc, Bool.or_true, Bool.true_or]⟩

theorem oneOf_regNumbers_fail (rest0 : List Char) (hd : ∀ c ∈ (skipWs rest0).head?, isNum c = false) :
    oneOf regNumbers rest0 = .fail := by
  unfold oneOf
  simp only [oneOf_go_eq]
  rw [find_longestFirst_none]
  intro t ht
  have hne := regNumbers_ne t ht
  have hnum := regNumbers_isNum t ht
  cases htl : t.toList with
  | nil => exact absurd htl hne
  | cons d ds =>
    have hdn : isNum d = true := hnum d (by rw [htl]; simp)
    cases hs : skipWs rest0 with
    | nil => rfl
    | cons e r =>
      have hen : isNum e = false := hd e (by rw [hs]; simp)
      have : d ≠ e := by rintro rfl; rw [hdn] at hen; cases hen
      simp [List.isPrefixOf_cons_cons, this]

/-- `hd` (no digit after BLANKS) is a trap of the grammar: `"x" + one_of(0..31)` is no `Combine`, so the register number
    is looked for after blanks and `x 5` is register 5; a name `x` followed by ` 5` would be read beyond its end. -/
theorem pReg_label_left (name rest0 : List Char) (hl : IsLabel name) (ht : TokEnd rest0)
    (hd : ∀ c ∈ (skipWs rest0).head?, isNum c = false) :
    pReg (name ++ rest0) = .fail ∨
      ∃ n k, 0 < k ∧ k ≤ name.length ∧ pReg (name ++ rest0) = .ok n (name.drop k ++ rest0) := by
  obtain ⟨c, cs, rfl, hc, hcs⟩ := hl
  have hcw := (labelInit_facts c hc).1
  rcases oneOf_word_left (abiNames.map (·.1)) abi_syms_facts (c :: cs) rest0
      (by intro d hd'; simp at hd'; subst hd'; exact hcw) (by simp) ht with h | ⟨s, k, hk0, hk1, h⟩
  · by_cases hx : c = 'x'
    · subst hx
      have hlit : lit "x" ('x' :: cs ++ rest0) = .ok () (cs ++ rest0) := by
        simp [lit, skipWs_cons_of_not_ws 'x' _ (by decide), stripPrefix]
      cases cs with
      | nil =>
        left
        simp only [pReg, h, hlit, bind_ok, List.nil_append, oneOf_regNumbers_fail rest0 hd, map_fail]
      | cons d ds =>
        have hdw : isWs d = false := labelBody_not_ws d (hcs d (by simp))
        rcases oneOf_word_left regNumbers regNumbers_facts (d :: ds) rest0
            (by intro e he; simp at he; subst he; exact hdw) (by simp) ht with h2 | ⟨t, j, hj0, hj1, h2⟩
        · left; simp only [pReg, h, hlit, bind_ok, h2, map_fail]
        · right
          refine ⟨t.toNat!, j + 1, by omega, by simp only [List.length_cons] at hj1 ⊢; omega, ?_⟩
          simp only [pReg, h, hlit, bind_ok, h2, map_ok, List.drop_succ_cons]
    · left
      have hlit : lit "x" (c :: cs ++ rest0) = .fail := by
        simp [lit, skipWs_cons_of_not_ws c _ hcw, stripPrefix, Ne.symm hx]
      simp only [pReg, h, hlit, bind_fail]
  · right
    exact ⟨((abiNames.find? (fun p => p.1 == s)).map (·.2)).getD 0, k, hk0, hk1, by simp only [pReg, h]⟩

theorem pComma_fail_head (c : Char) (r : Inp) (hw : isWs c = false) (hc : c ≠ ',') : pComma (c :: r) = .fail := by
  simp [pComma, lit, skipWs_cons_of_not_ws c r hw, stripPrefix, Ne.symm hc]

theorem isLabel_chars {name : List Char} (hl : IsLabel name) : ∀ c ∈ name, isLabelBody c = true := by
  obtain ⟨c, cs, rfl, hc, hcs⟩ := hl
  intro d hd
  rcases List.mem_cons.mp hd with rfl | h
  · exact labelInit_body _ hc
  · exact hcs d h

/-- An alternative that wants `register , …` where the line has a variable name: whatever part of the name
    `pReg` reads as a register, the alternative fails — because no comma follows inside the name, and because
    of `hk0` when the whole name is a register name. -/
theorem reg_on_label_fail {α : Type} (w name rest0 : List Char) (hw : AllWs w) (hl : IsLabel name)
    (ht : TokEnd rest0) (hd : ∀ c ∈ (skipWs rest0).head?, isNum c = false) (k : Nat → Inp → R α)
    (hk : ∀ n r, pComma r = .fail → k n r = .fail) (hk0 : ∀ n, k n rest0 = .fail) :
    (pReg (w ++ (name ++ rest0))).bind k = .fail := by
  rw [pReg_ws w _ hw]
  rcases pReg_label_left name rest0 hl ht hd with h | ⟨n, j, hj0, hj1, h⟩
  · rw [h]; rfl
  · rw [h, bind_ok]
    by_cases hlt : j < name.length
    · cases hdr : name.drop j with
      | nil =>
        have := congrArg List.length hdr
        simp at this; omega
      | cons e r =>
        have he : isLabelBody e = true :=
          isLabel_chars hl e (List.mem_of_mem_drop (by rw [hdr]; simp))
        apply hk
        exact pComma_fail_head e _ (labelBody_not_ws e he) (by rintro rfl; exact absurd he (by decide))
    · have : name.drop j = [] := List.drop_eq_nil_of_le (by omega)
      rw [this, List.nil_append]
      exact hk0 n

end ArchSim.Lemmas.C04Spell
