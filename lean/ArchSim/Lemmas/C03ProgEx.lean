/-
Concrete objects for the non-vacuity examples of `Props/C03Prog.lean` (namespace `C03Prog.Ex`): one small program on
the smallest cache, with and without the cache, and the two witnesses that acceptance is needed.  `StepAccepted` of a
concrete state is decidable, so acceptance along an example run is one evaluation.
-/
import ArchSim.Lemmas.C03ProgFive

namespace ArchSim.Lemmas.C03Prog.Ex
open ArchSim ArchSim.Cache ArchSim.Mem ArchSim.Rv ArchSim.Spec.CacheAbs ArchSim.Spec.TagCache

/-- x5 := 0x4000; x1 := 5; mem[x5] := x1; x3 := mem[x5]; x2 := (byte) mem[x5+1]; exit(0). -/
def prog : List Instr :=
  [ { op := .lui, rd := 5, imm := 4 },
    { op := .addi, rd := 1, rs1 := 0, imm := 5 },
    { op := .sw, rs1 := 5, rs2 := 1, imm := 0 },
    { op := .lw, rd := 3, rs1 := 5, imm := 0 },
    { op := .lbu, rd := 2, rs1 := 5, imm := 1 },
    { op := .addi, rd := 17, rs1 := 0, imm := 10 },
    { op := .ecall } ]

/-- The smallest cache: one set, one way, one word per block. -/
def geo1 : Geo := { idxBits := 0, blkBits := 0, assoc := 1 }

def base : St :=
  { regs := fun _ => 0, pc := 0, mem := .flat (Mem.empty riscvCfg),
    imem := { prog := prog, cache := none }, output := "", exitCode := none, cycles := 0, instrs := 0,
    branches := 0, procs := 0, stalls := 0, flushes := 0 }

def sf : St := base
/-- Write-back LRU data cache with miss penalty 10 over the empty memory. -/
def sc : St :=
  { base with mem := .cached true (DSys.init (polOps true) false geo1 10 (Mem.empty riscvCfg)) }

theorem geo1_ok : GeoOK geo1 := ⟨by decide, by decide, by decide⟩
theorem assoc1_ok : ArchSim.Lemmas.C09.AssocOK true geo1.assoc := ⟨by decide, fun h => by cases h⟩

theorem rel0 : CacheRel sc sf :=
  cacheRel_init base geo1 geo1_ok true assoc1_ok false 10 [] 0 0 0

theorem stepAccepted_of {s : St} (i : Instr) (hf : fetched s = some i) (h : AccessOK i s) :
    StepAccepted s := by
  intro j hj
  rw [hf] at hj
  cases hj
  exact h

/-- The print-string loop returns a string or an error. -/
@[instance_reducible] def printOKDec (ms : MemSys) (a : Int) : Decidable (PrintOK ms a) :=
  match h : (printStrLoop printStrFuel ms a []).2 with
  | .ok cs => isTrue ⟨cs, h⟩
  | .error e => isFalse fun ⟨cs, hcs⟩ => by rw [h] at hcs; cases hcs

/-- `StepAccepted` of a concrete state is decided by evaluation: the fetched instruction is computed,
    `Accepted` is decidable, and `PrintOK` by `printOKDec`. -/
@[instance_reducible] def stepAcceptedDec (s : St) : Decidable (StepAccepted s) :=
  match h : fetched s with
  | none => isTrue fun i hi => by rw [h] at hi; cases hi
  | some i =>
    have : Decidable (AccessOK i s) := by
      have := printOKDec s.mem (s.regs 10)
      unfold AccessOK; infer_instance
    decidable_of_iff (AccessOK i s) ⟨stepAccepted_of i h, fun hs => hs i h⟩

attribute [local instance] stepAcceptedDec in
theorem acc7 : ∀ j, j < 7 → StepAccepted (singleRun j sf) := by decide

theorem runAccepted_sf : RunAccepted sf :=
  .of_done (k := 7) (by decide +kernel) acc7

theorem progWF : ProgWF prog :=
  ⟨by decide, by decide⟩

theorem stOK_sf : ArchSim.Lemmas.C01.StOK sf :=
  ⟨⟨Mem.empty riscvCfg, rfl, rfl, ArchSim.Lemmas.C18.WF_empty _⟩,
   fun _ => by show (0 : Nat) < 4294967296; decide, rfl, by decide, by decide⟩

/-- A state about to execute the single instruction `i` on the data memory `ms`, with x5 = 0x4000,
    a7 = 4, a0 = 0x3FFF: `lw x3, 1(x5)` is then a word load that crosses a word boundary, `ecall` a
    print-string that starts one byte below the data range. -/
def oddSt (ms : MemSys) (i : Instr) : St :=
  { base with mem := ms, imem := { prog := [i], cache := none },
              regs := fun r => if r = 5 then 0x4000 else if r = 17 then 4 else if r = 10 then 0x3FFF else 0 }

def cache1 : MemSys := .cached true (DSys.init (polOps true) false geo1 10 (Mem.empty riscvCfg))
def flat1 : MemSys := .flat (Mem.empty riscvCfg)

theorem rel_odd (i : Instr) : CacheRel (oddSt cache1 i) (oddSt flat1 i) :=
  cacheRel_init (oddSt flat1 i) geo1 geo1_ok true assoc1_ok false 10 [] 0 0 0

/-- `.data` preload: the string "Hi" at 0x4000 (zero-terminated by the untouched cell behind it). -/
def strData : List Spec.ByteStore.Op := [.write 8 0x4000 72, .write 8 0x4001 105]

end ArchSim.Lemmas.C03Prog.Ex
