/-
TOY assembler: the origin of every error, one `X_err` per pass `X` (as in C15Asm).  Together: every error of
`ToyAsm.load` is a parser error of one of `toyKinds` that carries the number and text of an existing line, or
`MemorySizeError(4096)`, and then the data words (`dataWords`, which is `ToyAsm.dataSize`) alone, or with the
instructions, exceed the memory.
-/
import ArchSim.Lemmas.C15Asm
import ArchSim.Lemmas.ToyAsmSegment
import ArchSim.Lemmas.ToyAsmFront

namespace ArchSim.Lemmas.C15.Toy
open ArchSim ArchSim.PP ArchSim.ToyAsm ArchSim.Lemmas.C15
variable {e : AsmErr}

theorem tokenize_err {xs : List (Nat × List Char)} (h : tokenize xs = .error e) :
    ∃ x ∈ xs, e = .parser "ParserSyntaxException" x.1 (String.ofList x.2) := by
  induction xs with
  | nil => simp [tokenize] at h
  | cons x rest ih =>
    obtain ⟨k, l⟩ := x
    unfold tokenize at h
    split at h
    · cases h; exact ⟨_, List.mem_cons_self, rfl⟩
    · split at h
      · next he => cases h; exact exists_mem_tail (ih he)
      · cases h

/-- Invariant of the `_segment` loop over the entries `toks`. -/
def SegInv (toks : List Entry) : Except AsmErr Seg → Prop
  | .error e => ∃ x ∈ toks, e = .parser "ParserDirectiveException" x.1 x.2.1
  | .ok s => (∀ x ∈ s.data, x ∈ toks) ∧ (∀ x ∈ s.text, x ∈ toks)

theorem segment_inv (toks : List Entry) :
    match segment toks with
    | .error e => ∃ x ∈ toks, e = .parser "ParserDirectiveException" x.1 x.2.1
    | .ok (d, t) => (∀ x ∈ d, x ∈ toks) ∧ (∀ x ∈ t, x ∈ toks) := by
  cases toks with
  | nil => simp [segment]
  | cons first rest =>
    unfold segment
    dsimp only
    generalize hr : List.foldl _ _ rest = r
    have hinv : SegInv (first :: rest) r := by
      rw [← hr]
      refine List.foldlRecOn (motive := SegInv (first :: rest)) rest _ ?_ ?_
      · split
        · exact ⟨fun x hx => List.mem_cons_of_mem _ hx, fun _ hx => (nomatch hx)⟩
        · split
          · exact ⟨fun _ hx => (nomatch hx), fun x hx => List.mem_cons_of_mem _ hx⟩
          · exact ⟨fun _ hx => (nomatch hx), fun x hx => hx⟩
      · intro acc h e he
        have he' : e ∈ first :: rest := List.mem_cons_of_mem _ he
        split
        · exact h
        · next s =>
          obtain ⟨hd, ht⟩ := h
          split
          · split
            · exact ⟨fun x hx => ht x (List.mem_of_mem_drop hx), fun x hx => ht x (List.mem_of_mem_take hx)⟩
            · exact ⟨e, he', rfl⟩
          · split
            · split
              · exact ⟨fun x hx => hd x (List.mem_of_mem_take hx), fun x hx => hd x (List.mem_of_mem_drop hx)⟩
              · exact ⟨e, he', rfl⟩
            · exact ⟨hd, ht⟩
    cases r with
    | error e => exact hinv
    | ok s => exact hinv

theorem segment_err {toks : List Entry} {e : AsmErr} (h : segment toks = .error e) :
    ∃ x ∈ toks, e = .parser "ParserDirectiveException" x.1 x.2.1 := by
  have := segment_inv toks
  rwa [h] at this

theorem segment_ok {toks d t : List Entry} (h : segment toks = .ok (d, t)) :
    (∀ x ∈ d, x ∈ toks) ∧ (∀ x ∈ t, x ∈ toks) := by
  have := segment_inv toks
  rwa [h] at this

theorem addLabel_err {ls : Labels} {n : String} {v : Int} {k : Nat} {line : String} {e : AsmErr}
    (h : addLabel ls n v k line = .error e) : e = .parser "DuplicateLabelException" k line := by
  unfold addLabel at h
  split at h
  · cases h; rfl
  · cases h

theorem processLabels_err {es : List Entry} {ls : Labels} {pc : Nat} {e : AsmErr}
    (h : processLabels es ls pc = .error e) :
    ∃ x ∈ es, e = .parser "DuplicateLabelException" x.1 x.2.1 := by
  induction es generalizing ls pc with
  | nil => cases h
  | cons x rest ih =>
    obtain ⟨k, line, s⟩ := x
    rw [processLabels_cons] at h
    split at h
    · next he' =>
      cases h
      refine ⟨_, List.mem_cons_self, ?_⟩
      unfold declLabel at he'
      split at he'
      · exact addLabel_err he'
      · cases he'
    · exact exists_mem_tail (ih h)

/-- number of data words declared by the entries of the data segment -/
def dataWords : List Entry → Nat
  | [] => 0
  | (_, _, .varDecl _ vals) :: rest => vals.length + dataWords rest
  | _ :: rest => dataWords rest

theorem dataWords_eq (data : List Entry) : dataWords data = dataSize data := by
  induction data with
  | nil => rfl
  | cons x rest ih => obtain ⟨k, line, s⟩ := x; cases s <;> simp [dataWords, dataSize, stmtSize, ih]

theorem writeData_err {data : List Entry} {o : DataOut} {e : AsmErr}
    (h : (writeData data o).err = some e) :
    o.err = some e ∨
    (∃ x ∈ data, e = .parser "ParserDataSyntaxException" x.1 x.2.1 ∨
                 e = .parser "DuplicateLabelException" x.1 x.2.1) ∨
    (e = .memSize 4096 ∧ o.last + 1 < (dataWords data : Int)) := by
  induction data generalizing o with
  | nil => left; exact h
  | cons x rest ih =>
    obtain ⟨k, line, st⟩ := x
    unfold writeData at h
    split at h
    · rename_i name vals
      simp only at h
      split at h
      · rename_i hwa
        cases h
        right; right
        refine ⟨rfl, ?_⟩
        simp only [dataWords]; omega
      · rename_i hwa
        split at h
        · rename_i e' he'
          cases h
          right; left
          exact ⟨_, List.mem_cons_self, .inr (addLabel_err he')⟩
        · rcases ih h with h1 | ⟨x, hx, h2⟩ | ⟨h3, h4⟩
          · left; exact h1
          · exact .inr (.inl (exists_mem_tail ⟨x, hx, h2⟩))
          · right; right
            refine ⟨h3, ?_⟩
            simp only [dataWords] at h4 ⊢; omega
    · cases h
      right; left
      exact ⟨_, List.mem_cons_self, .inl rfl⟩

theorem buildInstrs_err {es : List Entry} {ls : Labels} {e : AsmErr}
    (h : buildInstrs es ls = .error e) :
    ∃ x ∈ es, e = .parser "ParserDataSyntaxException" x.1 x.2.1 ∨
              e = .parser "ParserLabelException" x.1 x.2.1 := by
  induction es with
  | nil => cases h
  | cons x rest ih =>
    obtain ⟨k, line, s⟩ := x
    rw [buildInstrs_cons] at h
    split at h
    · next he' =>
      cases h
      refine ⟨_, List.mem_cons_self, ?_⟩
      cases s with
      | varDecl n v => cases he'; exact .inl rfl
      | instr lbl mn addr ref =>
        simp only [lineInstr] at he'
        split at he'
        · cases he'; exact .inr rfl
        · cases he'
      | _ => cases he'
    · split at h
      · next he' => cases h; exact exists_mem_tail (ih he')
      · cases h

/-- All the parser-error kinds the TOY model can produce. -/
def toyKinds : List String :=
  ["ParserSyntaxException", "ParserDirectiveException", "DuplicateLabelException",
   "ParserDataSyntaxException", "ParserLabelException"]

theorem load_err_shape (t : ArchSim.Toy.TSim) (text : String) (h : (ToyAsm.load t text).2 = some e) :
    (∃ k line kind, LineOf text k line ∧ kind ∈ toyKinds ∧ e = .parser kind k line) ∨
    (e = .memSize 4096 ∧ ∃ toks data text', tokenize (sanitize text) = .ok toks ∧
        segment toks = .ok (data, text') ∧
        (4096 < dataWords data ∨
         ∃ ls is, buildInstrs text' ls = .ok is ∧ 4096 < dataWords data + is.length)) := by
  unfold ToyAsm.load at h
  simp only at h
  split at h
  · next he =>
    cases h
    obtain ⟨x, hm, rfl⟩ := tokenize_err he
    exact .inl ⟨_, _, _, sanitize_mem hm, by simp [toyKinds], rfl⟩
  next toks htoks =>
  have hsrc : ∀ x ∈ toks, LineOf text x.1 x.2.1 := fun x hx => by
    have := List.mem_map_of_mem (f := fun x : Entry => (x.1, x.2.1)) hx
    rw [tokenize_ok_map _ _ htoks] at this
    obtain ⟨y, hy, he⟩ := List.mem_map.1 this
    obtain ⟨h1, h2⟩ := Prod.mk.inj he
    rw [← h1, ← h2]; exact sanitize_mem hy
  split at h
  · next he =>
    cases h
    obtain ⟨x, hx, rfl⟩ := segment_err he
    exact .inl ⟨_, _, _, hsrc x hx, by simp [toyKinds], rfl⟩
  next data text' hseg =>
  obtain ⟨hdata, htext⟩ := segment_ok hseg
  split at h
  · next he =>
    cases h
    obtain ⟨x, hx, rfl⟩ := processLabels_err he
    exact .inl ⟨_, _, _, hsrc x hx, by simp [toyKinds], rfl⟩
  next ls _ =>
  split at h
  · next he =>
    cases h
    rcases writeData_err he with h | ⟨x, hx, h | h⟩ | ⟨h1, h2⟩
    · cases h
    · exact .inl ⟨_, _, _, hsrc x (hdata x hx), by simp [toyKinds], h⟩
    · exact .inl ⟨_, _, _, hsrc x (hdata x hx), by simp [toyKinds], h⟩
    · refine .inr ⟨h1, toks, data, text', htoks, hseg, .inl ?_⟩
      simp only at h2; omega
  next hnone =>
  split at h
  · next he =>
    cases h
    obtain ⟨x, hx, h | h⟩ := buildInstrs_err he
    · exact .inl ⟨_, _, _, hsrc x (htext x hx), by simp [toyKinds], h⟩
    · exact .inl ⟨_, _, _, hsrc x (htext x hx), by simp [toyKinds], h⟩
  next is his =>
  split at h
  · next hlen =>
    cases h
    refine .inr ⟨rfl, toks, data, text', htoks, hseg, .inr ⟨_, is, his, ?_⟩⟩
    rw [(writeData_spec _ _ rfl (Int.le_refl _) hnone).last] at hlen
    simp only at hlen
    rw [dataWords_eq]
    omega
  · cases h

end ArchSim.Lemmas.C15.Toy
