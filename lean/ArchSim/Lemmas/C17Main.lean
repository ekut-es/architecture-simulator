/-
The four strings of `Fmt.nBitRepr` as lists of characters, what is left when the group separators are removed, and
the link of `unsignedVal` / `signedVal` to `BitVec`, whence the bounds on the displayed value.
-/
import ArchSim.Lemmas.C17Digits
import ArchSim.Lemmas.C17Group

namespace ArchSim.Lemmas.C17
open ArchSim.Fmt ArchSim.Spec.Digits

theorem unsignedVal_eq_bitVec (n : Nat) (x : Int) : unsignedVal n x = (BitVec.ofInt n x).toNat := by
  rw [BitVec.toNat_ofInt]; simp [unsignedVal]

theorem unsignedVal_lt (n : Nat) (x : Int) : unsignedVal n x < 2 ^ n := by
  rw [unsignedVal_eq_bitVec]; exact BitVec.isLt _

theorem signedVal_eq_bitVec (n : Nat) (hn : 1 ≤ n) (x : Int) :
    signedVal n x = (BitVec.ofInt n x).toInt := by
  unfold signedVal
  rw [unsignedVal_eq_bitVec, BitVec.toInt_eq_toNat_cond]
  have h4 := Nat.two_pow_pred_mul_two (show 0 < n by omega)
  have h3 : ((2 ^ n : Nat) : Int) = (2 : Int) ^ n := by simp
  rw [h3]
  -- the powers as atoms for `omega`
  generalize (BitVec.ofInt n x).toNat = u
  generalize (2 : Int) ^ n = P at *
  generalize 2 ^ (n - 1) = q at *
  generalize 2 ^ n = p at *
  split <;> split <;> omega

/-- `signedVal n x` is the `toInt` of a bit vector, whence range and congruence. -/
theorem signedVal_range (n : Nat) (hn : 1 ≤ n) (x : Int) :
    -(2 : Int) ^ (n - 1) ≤ signedVal n x ∧ signedVal n x < (2 : Int) ^ (n - 1) ∧
      (signedVal n x - x) % (2 : Int) ^ n = 0 := by
  rw [signedVal_eq_bitVec n hn]
  refine ⟨BitVec.le_toInt _, BitVec.toInt_lt, ?_⟩
  rw [BitVec.toInt_ofInt, ← Int.emod_eq_emod_iff_emod_sub_eq_zero]
  simpa using Int.bmod_emod (x := x) (m := 2 ^ n)

theorem nBitRepr_bin (x : Int) (n : Nat) :
    (nBitRepr x n).bin.toList = groupify 8 (padLeft n (natStr 2 (unsignedVal n x))) := by
  simp [nBitRepr, unsignedVal]

theorem nBitRepr_udec (x : Int) (n : Nat) :
    (nBitRepr x n).udec.toList = natStr 10 (unsignedVal n x) := by
  simp [nBitRepr, unsignedVal]

theorem nBitRepr_hex (x : Int) (n : Nat) :
    (nBitRepr x n).hex.toList = groupify 2 (padLeft ((n + 3) / 4) (natStr 16 (unsignedVal n x))) := by
  simp [nBitRepr, unsignedVal]

theorem nBitRepr_sdec (x : Int) (n : Nat) :
    (nBitRepr x n).sdec.toList = intStr (signedVal n x) := by
  simp [nBitRepr, unsignedVal, signedVal]

theorem unsignedVal_lt_hex (n : Nat) (x : Int) : unsignedVal n x < 16 ^ ((n + 3) / 4) := by
  have h1 := unsignedVal_lt n x
  have h2 : 2 ^ n ≤ 2 ^ (4 * ((n + 3) / 4)) := Nat.pow_le_pow_right (by decide) (by omega)
  rw [Nat.pow_mul] at h2
  exact Nat.lt_of_lt_of_le h1 h2

theorem bin_strip (x : Int) (n : Nat) :
    stripSpaces (nBitRepr x n).bin.toList = padLeft n (natStr 2 (unsignedVal n x)) := by
  rw [nBitRepr_bin]
  exact stripSpaces_groupify_of_no_space 8 (by decide) _
    (padded_natStr_no_space 2 (by decide) (by decide) _ _)

theorem hex_strip (x : Int) (n : Nat) :
    stripSpaces (nBitRepr x n).hex.toList
      = padLeft ((n + 3) / 4) (natStr 16 (unsignedVal n x)) := by
  rw [nBitRepr_hex]
  exact stripSpaces_groupify_of_no_space 2 (by decide) _
    (padded_natStr_no_space 16 (by decide) (by decide) _ _)

end ArchSim.Lemmas.C17
