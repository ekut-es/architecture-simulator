/-
What each operation of a data-cache system computes, given the results of the cache primitives it
calls.  No invariant is assumed: the hypotheses are the equations that fix which branch the model takes,
the conclusion is the resulting `Out` written out; the transparency, accounting and backing-memory proofs
each supply those equations from their own invariant.  The lemmas live in namespace `Lemmas.C03`
(`C03.read_eq`, …), the namespace of their first users.
-/
import ArchSim.Model.Cache
import ArchSim.Spec.ByteStore

namespace ArchSim.Lemmas.C03
open ArchSim ArchSim.Cache ArchSim.Mem

variable {σ : Type} {P : PolicyOps σ}

abbrev dec (s : DSys σ) (a : Int) : DAddr := decode s.geo.idxBits s.geo.blkBits a

/-- Counter update at the end of a counted operation. -/
def bump (s : DSys σ) (hit : Bool) : DSys σ :=
  { s with hits := s.hits + (if hit then 1 else 0), lastHit := hit, accesses := s.accesses + 1 }

/-- `s` with the sets `sets1` and the counters of one more access (`hit`: whether it hit). -/
def countAccess (s : DSys σ) (sets1 : List (CSet σ Nat)) (hit : Bool) : DSys σ :=
  bump { s with sets := sets1 } hit

/-! ### `_read_block`, reads -/

theorem readBlockSys_hit {s : DSys σ} {d : DAddr} {sets1 : List (CSet σ Nat)} {vals : List Nat}
    (h1 : readBlock P s.sets d = .ok (sets1, some vals)) :
    s.readBlockSys P d = ({ s with sets := sets1 }, .ok (vals, true)) := by
  simp only [DSys.readBlockSys, h1]

theorem readBlockSys_fetch_err {s : DSys σ} {d : DAddr} {sets1 : List (CSet σ Nat)} {e : Err}
    (h1 : readBlock P s.sets d = .ok (sets1, none))
    (h2 : readBlockFromMem s.mem d.blockBase s.geo.words 0 = .error e) :
    s.readBlockSys P d = ({ s with sets := sets1 }, .error e) := by
  simp only [DSys.readBlockSys, h1, h2]

/-- Writing back the block `write_block` displaced (if any) to the lower memory `m`: the memory
    afterwards and the error a failing transfer raised. -/
def writeDisplaced (m : Mem) (displaced : Option (Nat × List Nat)) : Mem × Option Err :=
  displaced.elim (m, none) fun bw => writeBlockToMem m bw.1 bw.2 0

theorem readBlockSys_miss {s : DSys σ} {d : DAddr} {sets1 sets2 : List (CSet σ Nat)}
    {vals : List Nat} {hit : Bool} {displaced : Option (Nat × List Nat)} {m' : Mem}
    (h1 : readBlock P s.sets d = .ok (sets1, none))
    (h2 : readBlockFromMem s.mem d.blockBase s.geo.words 0 = .ok vals)
    (h3 : writeBlock P sets1 d vals = .ok (sets2, hit, displaced))
    (h4 : writeDisplaced s.mem displaced = (m', none)) :
    s.readBlockSys P d =
      ({ s with sets := sets2, mem := if s.wt = true then s.mem else m' }, .ok (vals, false)) := by
  unfold DSys.readBlockSys
  simp only [h1, h2, h3]
  cases s.wt with
  | true => rfl
  | false =>
    cases displaced with
    | none => cases h4; rfl
    | some bw =>
      have h4' : writeBlockToMem s.mem bw.1 bw.2 0 = (m', none) := h4
      simp only [h4']
      rfl

theorem readBlockSys_shape (s : DSys σ) (d : DAddr) :
    ∃ sets' m', (s.readBlockSys P d).1 = { s with sets := sets', mem := m' } ∧
      (s.wt = true → m' = s.mem) := by
  unfold DSys.readBlockSys
  split
  · exact ⟨_, _, rfl, fun _ => rfl⟩
  · exact ⟨_, _, rfl, fun _ => rfl⟩
  · split
    · exact ⟨_, _, rfl, fun _ => rfl⟩
    · split
      · exact ⟨_, _, rfl, fun _ => rfl⟩
      · simp only
        split
        · exact ⟨_, _, rfl, fun _ => rfl⟩
        · rename_i hwt
          split
          · exact ⟨_, _, rfl, fun _ => rfl⟩
          · split <;> exact ⟨_, _, rfl, fun h => absurd h hwt⟩

theorem read_sys_cases (s : DSys σ) (bits : Nat) (a : Int) (counted : Bool) :
    ((s.read P bits a counted).sys = (s.readBlockSys P (dec s a)).1 ∧
      (s.read P bits a counted).extra = 0) ∨
    ∃ hit, counted = true ∧
      (s.read P bits a counted).sys = bump (s.readBlockSys P (dec s a)).1 hit := by
  unfold DSys.read
  simp only
  rcases s.readBlockSys P (decode s.geo.idxBits s.geo.blkBits a) with ⟨s1, _ | ⟨vals, hit⟩⟩
  · exact Or.inl ⟨rfl, rfl⟩
  · cases counted
    · exact Or.inl ⟨rfl, rfl⟩
    · exact Or.inr ⟨hit, rfl, rfl⟩

theorem read_sys (s : DSys σ) (bits : Nat) (addr : Int) (counted : Bool) :
    (s.read P bits addr counted).sys.geo = (s.readBlockSys P (dec s addr)).1.geo ∧
    (s.read P bits addr counted).sys.mem = (s.readBlockSys P (dec s addr)).1.mem ∧
    (s.read P bits addr counted).sys.sets = (s.readBlockSys P (dec s addr)).1.sets := by
  rcases read_sys_cases (P := P) s bits addr counted with ⟨h, _⟩ | ⟨_, _, h⟩
  · rw [h]; exact ⟨rfl, rfl, rfl⟩
  · rw [h]; exact ⟨rfl, rfl, rfl⟩

theorem read_err {s s1 : DSys σ} {e : Err} (bits : Nat) (a : Int) (counted : Bool)
    (h : s.readBlockSys P (dec s a) = (s1, .error e)) :
    s.read P bits a counted = { sys := s1, res := .error e, extra := 0 } := by
  simp only [DSys.read, h]

theorem read_eq {s s1 : DSys σ} {vals : List Nat} {hit : Bool} (bits : Nat) (a : Int)
    (counted : Bool) (h : s.readBlockSys P (dec s a) = (s1, .ok (vals, hit))) :
    s.read P bits a counted =
      { sys := if counted then bump s1 hit else s1,
        res := fromBlock bits (dec s a) vals,
        extra := if counted && !hit then s.penalty else 0 } := by
  simp only [DSys.read, h, bump]

/-! ### write-back writes -/

/-- The part of `writeWB` after the current content `block` of the block is known. -/
def wbFinish (P : PolicyOps σ) (s : DSys σ) (sets1 : List (CSet σ Nat)) (d : DAddr) (hit : Bool)
    (bits v : Nat) (block : List Nat) : Out σ :=
  let s1 := { s with sets := sets1 }
  match intoBlock bits d block v with
  | .error e => { sys := s1, res := .error e, extra := 0 }
  | .ok block' =>
    match writeBlock P sets1 d block' with
    | .error e => { sys := s1, res := .error e, extra := 0 }
    | .ok (sets2, _, displaced) =>
      let s2 := { s1 with sets := sets2 }
      let wb : DSys σ × Option Err := match displaced with
        | none => (s2, none)
        | some (b, ws) =>
          match writeBlockToMem s2.mem b ws 0 with
          | (m', e) => ({ s2 with mem := m' }, e)
      match wb with
      | (s3, some e) => { sys := s3, res := .error e, extra := 0 }
      | (s3, none) =>
        { sys := bump s3 hit, res := .ok 0, extra := if hit then 0 else s.penalty }

theorem writeWB_hit (s : DSys σ) (bits : Nat) (addr : Int) (v : Nat) (sets1 : List (CSet σ Nat))
    (vals : List Nat) (h : readBlock P s.sets (dec s addr) = .ok (sets1, some vals)) :
    s.writeWB P bits addr v = wbFinish P s sets1 (dec s addr) true bits v vals := by
  unfold DSys.writeWB
  simp only [h]
  rfl

theorem writeWB_miss (s : DSys σ) (bits : Nat) (addr : Int) (v : Nat) (sets1 : List (CSet σ Nat))
    (ws : List Nat) (h : readBlock P s.sets (dec s addr) = .ok (sets1, none))
    (h2 : readBlockFromMem s.mem (dec s addr).blockBase s.geo.words 0 = .ok ws) :
    s.writeWB P bits addr v = wbFinish P s sets1 (dec s addr) false bits v ws := by
  unfold DSys.writeWB
  simp only [h, h2]
  rfl

theorem writeWB_miss_err (s : DSys σ) (bits : Nat) (addr : Int) (v : Nat)
    (sets1 : List (CSet σ Nat)) (e : Err)
    (h : readBlock P s.sets (dec s addr) = .ok (sets1, none))
    (h2 : readBlockFromMem s.mem (dec s addr).blockBase s.geo.words 0 = .error e) :
    s.writeWB P bits addr v = { sys := { s with sets := sets1 }, res := .error e, extra := 0 } := by
  unfold DSys.writeWB
  simp only [h, h2]

theorem wbFinish_lane_err {s : DSys σ} {sets1 : List (CSet σ Nat)} {d : DAddr} {hit : Bool}
    {bits v : Nat} {block : List Nat} {e : Err} (h1 : intoBlock bits d block v = .error e) :
    wbFinish P s sets1 d hit bits v block =
      { sys := { s with sets := sets1 }, res := .error e, extra := 0 } := by
  unfold wbFinish
  simp only [h1]

theorem wbFinish_eq {s : DSys σ} {sets1 sets2 : List (CSet σ Nat)} {d : DAddr} {hit hit' : Bool}
    {bits v : Nat} {block block' : List Nat} {displaced : Option (Nat × List Nat)} {m' : Mem}
    (h1 : intoBlock bits d block v = .ok block')
    (h2 : writeBlock P sets1 d block' = .ok (sets2, hit', displaced))
    (h3 : writeDisplaced s.mem displaced = (m', none)) :
    wbFinish P s sets1 d hit bits v block =
      { sys := { countAccess s sets2 hit with mem := m' }, res := .ok 0,
        extra := if hit then 0 else s.penalty } := by
  unfold wbFinish
  simp only [h1, h2]
  cases displaced with
  | none => cases h3; rfl
  | some bw =>
    have h3' : writeBlockToMem s.mem bw.1 bw.2 0 = (m', none) := h3
    simp only [h3']
    rfl

/-! ### write-through writes -/

/-- The final store of a write-through write to the lower memory. -/
def wtStore (s2 : DSys σ) (bits : Nat) (addr : Int) (v extra : Nat) : Out σ :=
  match Mem.write s2.mem bits addr v with
  | none => { sys := s2, res := .error .unsupported, extra := extra }
  | some (m', some e) => { sys := { s2 with mem := m' }, res := .error (.addr e.address), extra := extra }
  | some (m', none) => { sys := { s2 with mem := m' }, res := .ok 0, extra := extra }

theorem wtStore_eq {s2 : DSys σ} {bits : Nat} {addr : Int} {v : Nat} {m' : Mem}
    (h : Mem.write s2.mem bits addr v = some (m', none)) (extra : Nat) :
    wtStore s2 bits addr v extra = { sys := { s2 with mem := m' }, res := .ok 0, extra := extra } := by
  simp only [wtStore, h]

theorem wtStore_mem_ok (s2 : DSys σ) (bits : Nat) (addr : Int) (v extra : Nat) (m' : Mem)
    (e : Option Mem.AddrErr) (h : Mem.write s2.mem bits addr v = some (m', e)) :
    (wtStore s2 bits addr v extra).sys.mem = m' := by
  unfold wtStore
  rw [h]
  cases e <;> rfl

theorem writeWT_read_err (s : DSys σ) (bits : Nat) (addr : Int) (v : Nat) (e : Err)
    (h : readBlock P s.sets (dec s addr) = .error e) :
    s.writeWT P bits addr v = { sys := s, res := .error e, extra := 0 } := by
  unfold DSys.writeWT
  simp only [h]

theorem writeWT_miss (s : DSys σ) (bits : Nat) (addr : Int) (v : Nat) (sets1 : List (CSet σ Nat))
    (h : readBlock P s.sets (dec s addr) = .ok (sets1, none)) :
    s.writeWT P bits addr v =
      match laneErr bits (dec s addr) with
      | some e => { sys := countAccess s sets1 false, res := .error e, extra := s.penalty }
      | none => wtStore (countAccess s sets1 false) bits addr v s.penalty := by
  unfold DSys.writeWT
  simp only [h]
  cases laneErr bits (dec s addr) <;> rfl

theorem writeWT_hit (s : DSys σ) (bits : Nat) (addr : Int) (v : Nat) (sets1 : List (CSet σ Nat))
    (block : List Nat) (h : readBlock P s.sets (dec s addr) = .ok (sets1, some block)) :
    s.writeWT P bits addr v =
      match intoBlock bits (dec s addr) block v with
      | .error e => { sys := countAccess s sets1 true, res := .error e, extra := 0 }
      | .ok block' =>
        match writeBlock P sets1 (dec s addr) block' with
        | .error e => { sys := countAccess s sets1 true, res := .error e, extra := 0 }
        | .ok (sets2, _, _) => wtStore { countAccess s sets1 true with sets := sets2 } bits addr v 0 := by
  unfold DSys.writeWT
  simp only [h]
  cases intoBlock bits (dec s addr) block v with
  | error e => rfl
  | ok block' =>
    simp only
    cases writeBlock P sets1 (dec s addr) block' with
    | error e => rfl
    | ok r => rfl

theorem writeDirect_sys (s : DSys σ) (bits : Nat) (addr : Int) (v : Nat) :
    (s.writeDirect bits addr v).sys =
        { s with mem := Spec.ByteStore.applyOp s.mem (.write bits addr v) } ∧
      (s.writeDirect bits addr v).extra = 0 := by
  simp only [DSys.writeDirect, Spec.ByteStore.applyOp]
  cases h : Mem.write s.mem bits addr v with
  | none => exact ⟨rfl, rfl⟩
  | some r =>
    obtain ⟨m', e⟩ := r
    cases e <;> exact ⟨rfl, rfl⟩

theorem write_eq (s : DSys σ) (bits : Nat) (addr : Int) (v : Nat) :
    s.write P bits addr v false =
      if s.wt = true then s.writeWT P bits addr v else s.writeWB P bits addr v := by
  unfold DSys.write
  rw [if_neg Bool.false_ne_true]

end ArchSim.Lemmas.C03
