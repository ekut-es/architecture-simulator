/-
What the cache proofs use of the replacement policies (C10), stated in the namespace of the model's
`Repl.Pol`: a well-formedness predicate `Pol.WF assoc` that every reachable policy state satisfies, and the
facts that under it `access` / `victim` never fail, stay in range, and `access` is idempotent.
-/
import ArchSim.Model.Repl
import ArchSim.Spec.LruAge
import ArchSim.Spec.PlruTree
import ArchSim.Lemmas.C10Lru
import ArchSim.Lemmas.C10Plru

namespace ArchSim.Repl
open ArchSim.Spec.Lru ArchSim.Spec.Plru ArchSim.Lemmas.C10

/-- Well-formed policy state for a set of `assoc` ways.
    LRU: the order list is a permutation of `0 … assoc-1`.
    PLRU: `assoc = 2^depth` and the bit list has `assoc - 1` entries. -/
def Pol.WF (assoc : Nat) : Pol → Prop
  | .lru l  => l.Perm (List.range assoc)
  | .plru p => p.assoc = assoc ∧ assoc = 2 ^ p.depth ∧ p.tree.length = assoc - 1

instance (assoc : Nat) (p : Pol) : Decidable (Pol.WF assoc p) := by
  cases p <;> unfold Pol.WF <;> infer_instance

theorem Pol.WF.plru {assoc : Nat} {p : Plru} (h : Pol.WF assoc (.plru p)) :
    assoc = 2 ^ p.depth ∧ PlruWF p.depth p :=
  ⟨h.2.1, rfl, h.1.trans h.2.1, h.2.1 ▸ h.2.2⟩

theorem Pol.WF.of_plru {d : Nat} {p : Plru} (h : PlruWF d p) : Pol.WF (2 ^ d) (.plru p) :=
  ⟨h.2.1, by rw [h.1], h.2.2⟩

theorem Pol.WF_init_lru (assoc : Nat) : Pol.WF assoc (Pol.init true assoc) := by
  simp [Pol.init, Pol.WF, lruInit]

theorem Pol.WF_init_plru (d : Nat) : Pol.WF (2 ^ d) (Pol.init false (2 ^ d)) :=
  .of_plru (plruInit_wf d)

/-- Every policy the cache constructs is well formed (PLRU requires a power-of-two associativity,
    as the Python constructor asserts). -/
theorem Pol.WF_init (isLru : Bool) (assoc : Nat) (h : isLru = false → ∃ d, assoc = 2 ^ d) :
    Pol.WF assoc (Pol.init isLru assoc) := by
  cases isLru with
  | true => exact Pol.WF_init_lru assoc
  | false => obtain ⟨d, rfl⟩ := h rfl; exact Pol.WF_init_plru d

theorem Pol.WF.access {assoc : Nat} {p : Pol} (hp : Pol.WF assoc p) {i : Nat} (hi : i < assoc) :
    ∃ p', p.access i = some p' ∧ Pol.WF assoc p' := by
  cases p with
  | lru l =>
    obtain ⟨l', h1, h2⟩ := lruAccess_perm (show l.Perm (List.range assoc) from hp) hi
    exact ⟨.lru l', by simp [Pol.access, h1], h2⟩
  | plru q =>
    obtain ⟨rfl, hw⟩ := hp.plru
    have ha := plruAccess_eq hw hi
    exact ⟨_, by simp [Pol.access, ha], .of_plru (plruAccess_wf hw ha)⟩

theorem Pol.WF.of_access {assoc : Nat} {p p' : Pol} (hp : Pol.WF assoc p) {i : Nat}
    (h : p.access i = some p') : Pol.WF assoc p' := by
  cases p with
  | lru l =>
    obtain ⟨l', hl, rfl⟩ := Option.map_eq_some_iff.mp h
    have hp' : l.Perm (List.range assoc) := hp
    obtain ⟨l'', h1, h2⟩ := lruAccess_perm hp' ((perm_range_mem hp').mp (lruAccess_eq_some.mp hl).1)
    rw [hl] at h1
    cases h1
    exact h2
  | plru q =>
    obtain ⟨q', hq, rfl⟩ := Option.map_eq_some_iff.mp h
    obtain ⟨rfl, hw⟩ := hp.plru
    exact .of_plru (plruAccess_wf hw hq)

theorem Pol.WF.access_idem {assoc : Nat} {p p' : Pol} (hp : Pol.WF assoc p) {i : Nat}
    (h : p.access i = some p') : p'.access i = some p' := by
  cases p with
  | lru l =>
    obtain ⟨l', hl, rfl⟩ := Option.map_eq_some_iff.mp h
    simp [Pol.access, lruAccess_idem (perm_range_nodup (show l.Perm (List.range assoc) from hp)) hl]
  | plru q =>
    obtain ⟨q', hq, rfl⟩ := Option.map_eq_some_iff.mp h
    simp only [Pol.access, plruAccess_idem hp.plru.2 hq, Option.map_some]

theorem Pol.WF.victim {assoc : Nat} {p : Pol} (hp : Pol.WF assoc p) (ha : 0 < assoc) :
    ∃ v, p.victim = some v ∧ v < assoc := by
  cases p with
  | lru l =>
    have hp' : l.Perm (List.range assoc) := hp
    cases l with
    | nil => have := perm_range_length hp'; simp at this; omega
    | cons v l => exact ⟨v, rfl, (perm_range_mem hp').mp (by simp)⟩
  | plru q =>
    obtain ⟨rfl, hw⟩ := hp.plru
    exact ⟨_, plruVictim_eq hw, victimT_lt _⟩

end ArchSim.Repl
