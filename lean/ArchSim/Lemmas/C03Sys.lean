/-
The memory system as a whole: the logical contents `logical` under the cache primitives.  Two facts carry
everything: installing a block (`write_block` plus the write-back of the displaced one) changes `logical`
only at that block, and the current content of a block, resident or fetched, is its logical content
(`Holds`).  `Eff` is the shape of every statement about an operation.
-/
import ArchSim.Lemmas.C03Sets
import ArchSim.Lemmas.C03Mem
import ArchSim.Lemmas.CacheForms

namespace ArchSim.Lemmas.C03
open ArchSim ArchSim.Cache ArchSim.Mem ArchSim.Spec.ByteStore ArchSim.Lemmas.C18 ArchSim.Spec.CacheAbs

variable {σ : Type} {P : PolicyOps σ} {WFp : σ → Prop}

theorem CInvS_memOK {s : DSys σ} (h : CInvS WFp s) : MemOK s.mem := ⟨h.cfg, h.wf⟩

theorem logical_of_some {s : DSys σ} {a : Int} {w : Way Nat}
    (h : lookup s.sets (dec s a).setIdx (dec s a).tag = some w) :
    logical s a = byteOf (wordAt w.vals (dec s a).blockOff) (dec s a).byteOff := by
  unfold logical; rw [h]

theorem logical_of_none {s : DSys σ} {a : Int}
    (h : lookup s.sets (dec s a).setIdx (dec s a).tag = none) :
    logical s a = s.mem.cells ((wrap32 a : Nat) : Int) := by
  unfold logical; rw [h]; rfl

theorem CInv_transfer {s : DSys σ} (hs : CInv WFp s) (s' : DSys σ) (hg : s'.geo = s.geo)
    (hwt : s'.wt = s.wt) (hm : s'.mem = s.mem) (hsets : SetsOK s.geo WFp s'.sets)
    (hl : ∀ k t, lookup s'.sets k t = lookup s.sets k t) :
    CInv WFp s' ∧ ∀ a, logical s' a = logical s a := by
  -- `logical` depends on the state only through the geometry, the lookup function and the cells
  have hlog : ∀ a, logical s' a = logical s a := fun a => by unfold logical; rw [hg, hl, hm]
  refine ⟨⟨⟨hg ▸ hs.geo, hg ▸ hsets, hm ▸ hs.cfg, hm ▸ hs.wf⟩, ?_⟩, hlog⟩
  intro h a
  rw [hlog, hm]
  exact hs.wtc (hwt ▸ h) a

theorem logical_setMem (s s' : DSys σ) (hg : s'.geo = s.geo) (hsets : s'.sets = s.sets)
    (h : ∀ a, resident s a = true → logical s a = s'.mem.cells ((wrap32 a : Nat) : Int)) (a : Int) :
    logical s' a = s'.mem.cells ((wrap32 a : Nat) : Int) := by
  have h' := h a
  unfold logical resident at h'
  unfold logical
  rw [hg, hsets]
  cases hl : lookup s.sets (dec s a).setIdx (dec s a).tag with
  | none => rfl
  | some w => rw [hl] at h'; exact h' rfl

/-! ### installing a block -/

/-- `logical` after the lookup function changed as `writeBlock` changes it, given what the backing
    memory holds afterwards at the evicted block (H1) and elsewhere (H2). -/
theorem logical_after_put (s s3 : DSys σ) (hg : s3.geo = s.geo) (d : DAddr) (new old : Way Nat)
    (hl : ∀ k tag, lookup s3.sets k tag =
        if k = d.setIdx ∧ tag = d.tag then some new
        else if k = d.setIdx ∧ old.valid = true ∧ tag = old.tag then none
        else lookup s.sets k tag)
    (H1 : ∀ a, old.valid = true → (dec s a).setIdx = d.setIdx → (dec s a).tag = old.tag →
        ¬ (dec s a).tag = d.tag → s3.mem.cells ((wrap32 a : Nat) : Int) = logical s a)
    (H2 : ∀ a, ¬ (old.valid = true ∧ (dec s a).setIdx = d.setIdx ∧ (dec s a).tag = old.tag) →
        s3.mem.cells ((wrap32 a : Nat) : Int) = s.mem.cells ((wrap32 a : Nat) : Int))
    (a : Int) :
    logical s3 a =
      if (dec s a).setIdx = d.setIdx ∧ (dec s a).tag = d.tag then
        byteOf (wordAt new.vals (dec s a).blockOff) (dec s a).byteOff
      else logical s a := by
  by_cases c1 : (dec s a).setIdx = d.setIdx ∧ (dec s a).tag = d.tag
  · rw [if_pos c1]
    unfold logical
    rw [hg, hl, if_pos c1]
  · rw [if_neg c1]
    unfold logical
    rw [hg, hl, if_neg c1]
    by_cases c2 : (dec s a).setIdx = d.setIdx ∧ old.valid = true ∧ (dec s a).tag = old.tag
    · rw [if_pos c2]
      exact H1 a c2.2.1 c2.1 c2.2.2 (fun e => c1 ⟨c2.1, e⟩)
    · rw [if_neg c2]
      cases hlk : lookup s.sets (dec s a).setIdx (dec s a).tag with
      | none => exact H2 a (fun h => c2 ⟨h.2.1, h.1, h.2.2⟩)
      | some w => rfl

/-- Installing the block `vals` for the valid data address `addr`; `s3` is any state with the new sets,
    its backing memory `m'` under write-back, unchanged under write-through.
    This contains the C12 fact that an eviction never loses a written value. -/
theorem putBlock_spec {s : DSys σ} (hP : PolicyOK P s.geo.assoc WFp) (hs : CInv WFp s) (addr : Int)
    (hin : inData addr) (vals : List Nat) (hlen : vals.length = 2 ^ s.geo.blkBits)
    (hlt : ∀ x, x ∈ vals → x < 4294967296) :
    ∃ sets2 displaced m',
      writeBlock P s.sets (dec s addr) vals =
        .ok (sets2, (lookup s.sets (dec s addr).setIdx (dec s addr).tag).isSome, displaced) ∧
      writeDisplaced s.mem displaced = (m', none) ∧
      (∀ x, x ∈ s.mem.keys → x ∈ m'.keys) ∧
      ∀ s3 : DSys σ, s3.geo = s.geo → s3.sets = sets2 →
        (∃ w, lookup s3.sets (dec s addr).setIdx (dec s addr).tag = some w ∧ w.vals = vals) ∧
        (∀ a, resident s a = true → resident s3 a = true ∨ ((wrap32 a : Nat) : Int) ∈ m'.keys) ∧
        (s3.mem = (if s.wt = true then s.mem else m') →
          CInvS WFp s3 ∧
          ∀ a, logical s3 a =
            if (dec s a).setIdx = (dec s addr).setIdx ∧ (dec s a).tag = (dec s addr).tag then
              byteOf (wordAt vals (dec s a).blockOff) (dec s a).byteOff
            else logical s a) := by
  have hk : (dec s addr).setIdx < 2 ^ s.geo.idxBits := decode_setIdx_lt _ _ _
  have hrange := decode_range s.geo.idxBits s.geo.blkBits addr hs.geo.blk hin
  have hnew : WayOK s.geo (dec s addr).setIdx (C09.newWay (dec s addr) vals) :=
    ⟨rfl, fun _ => (decode_base _ _ _).symm, fun _ => hrange.1, fun _ => hrange.2, fun _ => hlen,
     fun _ => hlt⟩
  obtain ⟨sets', old, hw, hsets', hold_ok, hold_lk, hl⟩ :=
    writeBlock_spec hP hs.sets (dec s addr) hk vals hnew
  have hmOK := CInvS_memOK hs.toCInvS
  -- the memory `m'` left by the (possible) write-back: the victim's block holds its logical bytes,
  -- as stored cells; everything else is as in `s.mem`
  obtain ⟨m', hwb, hm'OK, hmono, F1, F2⟩ : ∃ m',
      writeDisplaced s.mem (if old.valid = true ∧ old.tag ≠ (dec s addr).tag
        then some (old.base, old.vals) else none) = (m', none) ∧
      MemOK m' ∧ (∀ x, x ∈ s.mem.keys → x ∈ m'.keys) ∧
      (∀ a, old.valid = true → (dec s a).setIdx = (dec s addr).setIdx → (dec s a).tag = old.tag →
        ¬ (dec s a).tag = (dec s addr).tag →
        m'.cells ((wrap32 a : Nat) : Int) = logical s a ∧ ((wrap32 a : Nat) : Int) ∈ m'.keys) ∧
      (∀ a, ¬ (old.valid = true ∧ (dec s a).setIdx = (dec s addr).setIdx ∧ (dec s a).tag = old.tag) →
        m'.cells ((wrap32 a : Nat) : Int) = s.mem.cells ((wrap32 a : Nat) : Int)) := by
    by_cases hc : old.valid = true ∧ old.tag ≠ (dec s addr).tag
    · -- the overwritten way holds another block: it is displaced and written back
      have hlen' := hold_ok.len hc.1
      have hhi := hold_ok.hi hc.1
      rw [pow_blk] at hhi
      obtain ⟨m', e1, e2c, e2w, e3, e4⟩ := writeBlockToMem_ok hmOK.cfg old.base old.vals 0 (hold_ok.lo hc.1)
        (by rw [hlen']; omega)
      have hmono := writeBlockToMem_keys_mono s.mem old.base old.vals 0
      rw [e1] at hmono
      rw [if_pos hc]
      refine ⟨m', e1, ⟨e2c, e2w hmOK.wf⟩, hmono, fun a hv h1 h2 _ => ?_, fun a hne => ?_⟩
      · have hlk : lookup s.sets (dec s a).setIdx (dec s a).tag = some old := by
          rw [h1, h2]; exact hold_lk hv
        rw [logical_of_some hlk, addr_in_way hold_ok hv a h1 h2]
        have := e3 (dec s a).blockOff (dec s a).byteOff
          (by rw [hlen']; exact decode_blockOff_lt _ _ _) (decode_byteOff_lt _ _ _)
        rw [Nat.zero_add] at this
        exact this
      · apply e4
        have := addr_not_in_way hk hold_ok hc.1 a (fun h => hne ⟨hc.1, h.1, h.2⟩)
        rw [pow_blk] at this
        rw [hlen']
        omega
    · -- the block itself (a hit), or an invalid way: nothing is displaced
      rw [if_neg hc]
      exact ⟨s.mem, rfl, hmOK, fun _ h => h,
        fun a hv _ h2 h3 => absurd ⟨hv, fun e => h3 (h2.trans e)⟩ hc, fun _ _ => rfl⟩
  refine ⟨sets', _, m', hw, hwb, hmono, fun s3 hg hsets =>
    ⟨⟨_, by rw [hsets, hl, if_pos ⟨rfl, rfl⟩], rfl⟩, fun a ha => ?_, fun hmem => ?_⟩⟩
  · unfold resident at ha ⊢
    rw [hg, hsets, hl]
    by_cases c1 : (dec s a).setIdx = (dec s addr).setIdx ∧ (dec s a).tag = (dec s addr).tag
    · rw [if_pos c1]; exact Or.inl rfl
    · rw [if_neg c1]
      by_cases c2 : (dec s a).setIdx = (dec s addr).setIdx ∧ old.valid = true ∧ (dec s a).tag = old.tag
      · exact Or.inr (F1 a c2.2.1 c2.1 c2.2.2 (fun e => c1 ⟨c2.1, e⟩)).2
      · rw [if_neg c2]; exact Or.inl ha
  · have hmem3 : MemOK s3.mem := by
      rw [hmem]; split
      · exact hmOK
      · exact hm'OK
    refine ⟨⟨hg ▸ hs.geo, by rw [hg, hsets]; exact hsets', hmem3.cfg, hmem3.wf⟩, fun a => ?_⟩
    refine logical_after_put s s3 hg (dec s addr) _ old (by rw [hsets]; exact hl) ?_ ?_ a
    · intro a hv h1 h2 h3
      rw [hmem]
      by_cases hwt : s.wt = true
      · rw [if_pos hwt]; exact (hs.wtc hwt a).symm
      · rw [if_neg hwt]; exact (F1 a hv h1 h2 h3).1
    · intro a hne
      rw [hmem]
      split
      · rfl
      · exact F2 a hne

/-! ### the current content of a block -/

theorem wordAt_eq_getElem (ws : List Nat) (j : Nat) (h : j < ws.length) : wordAt ws j = ws[j] := by
  simp [wordAt, h]

/-- `block` holds the logical contents of the block of `addr`: it has the full length, its words
    are below `2^32`, and each byte lane is the logical byte at the address that decodes to it. -/
structure Holds (s : DSys σ) (addr : Int) (block : List Nat) : Prop where
  len : block.length = 2 ^ s.geo.blkBits
  lt : ∀ x, x ∈ block → x < 4294967296
  bytes : ∀ a, (dec s a).setIdx = (dec s addr).setIdx → (dec s a).tag = (dec s addr).tag →
    byteOf (wordAt block (dec s a).blockOff) (dec s a).byteOff = logical s a

theorem fetch_spec {s : DSys σ} (hs : CInv WFp s) (addr : Int) (hin : inData addr)
    (hmiss : lookup s.sets (dec s addr).setIdx (dec s addr).tag = none) :
    ∃ ws, readBlockFromMem s.mem (dec s addr).blockBase s.geo.words 0 = .ok ws ∧
      Holds s addr ws := by
  have hmOK := CInvS_memOK hs.toCInvS
  have hrange : 16384 ≤ (dec s addr).blockBase ∧
      (dec s addr).blockBase + 2 ^ (s.geo.blkBits + 2) ≤ 4294967296 :=
    decode_range s.geo.idxBits s.geo.blkBits addr hs.geo.blk hin
  rw [pow_blk] at hrange
  obtain ⟨ws, h1, h2, h3⟩ := readBlockFromMem_ok hmOK.cfg (dec s addr).blockBase (2 ^ s.geo.blkBits) 0
    hrange.1 (by omega)
  replace h3 := h3 hmOK.wf
  refine ⟨ws, h1, h2, ?_, ?_⟩
  · intro x hx
    obtain ⟨j, hj, rfl⟩ := List.getElem_of_mem hx
    rw [← wordAt_eq_getElem ws j hj, h3 j (h2 ▸ hj)]
    exact memWord_lt hmOK _
  · intro a e1 e2
    have hl : lookup s.sets (dec s a).setIdx (dec s a).tag = none := by rw [e1, e2]; exact hmiss
    rw [logical_of_none hl, h3 _ (decode_blockOff_lt _ _ _),
      byteOf_memWord hmOK _ _ (decode_byteOff_lt _ _ _)]
    have := decode_full_eq s.geo.idxBits s.geo.blkBits a
    rw [blockBase_eq _ _ a addr e1 e2] at this
    rw [this, Nat.zero_add]

theorem hit_spec {s : DSys σ} (hs : CInv WFp s) (addr : Int) (w : Way Nat)
    (hhit : lookup s.sets (dec s addr).setIdx (dec s addr).tag = some w) :
    Holds s addr w.vals := by
  obtain ⟨_, hok, hv, _⟩ := lookup_some_valid hs.sets hhit
  refine ⟨hok.len hv, hok.lt hv, ?_⟩
  intro a e1 e2
  have hl : lookup s.sets (dec s a).setIdx (dec s a).tag = some w := by rw [e1, e2]; exact hhit
  rw [logical_of_some hl]

/-! ### the block read (first step of every operation); the shape `Eff`; reads up to the lane extraction -/

/-- The counters take no part in the invariant (nor in `logical`, by `rfl`). -/
theorem CInv_counters {s : DSys σ} (h : CInv WFp s) (hits accesses : Nat) (lastHit : Bool) :
    CInv WFp { s with hits := hits, accesses := accesses, lastHit := lastHit } :=
  ⟨⟨h.geo, h.sets, h.cfg, h.wf⟩, h.wtc⟩

theorem readBlock_dec {s : DSys σ} (hP : PolicyOK P s.geo.assoc WFp) (hs : CInv WFp s) (addr : Int) :
    ∃ sets1, readBlock P s.sets (dec s addr) =
        .ok (sets1, (lookup s.sets (dec s addr).setIdx (dec s addr).tag).map (·.vals)) ∧
      (∀ k t, lookup sets1 k t = lookup s.sets k t) ∧
      CInv WFp { s with sets := sets1 } ∧ ∀ a, logical { s with sets := sets1 } a = logical s a := by
  obtain ⟨sets1, hrb, hsets1, hl1⟩ :=
    readBlock_spec hP hs.sets (dec s addr) (decode_setIdx_lt _ _ _)
  exact ⟨sets1, hrb, hl1, CInv_transfer hs { s with sets := sets1 } rfl rfl rfl hsets1 hl1⟩

theorem fetch_bad {s : DSys σ} (hs : CInvS WFp s) (addr : Int) (hin : ¬ inData addr) :
    readBlockFromMem s.mem (dec s addr).blockBase s.geo.words 0 =
      .error (.addr (((dec s addr).blockBase : Nat) : Int)) := by
  obtain ⟨n, hn⟩ : ∃ n, s.geo.words = n + 1 :=
    ⟨2 ^ s.geo.blkBits - 1, by have := Nat.two_pow_pos s.geo.blkBits; unfold Geo.words; omega⟩
  rw [hn]
  exact readBlockFromMem_bad hs.cfg _ n (blockBase_lt_of_not_inData _ _ addr hin)

theorem not_resident_of_bad {s : DSys σ} (hs : CInvS WFp s) (addr : Int) (h : ¬ inData addr) :
    lookup s.sets (dec s addr).setIdx (dec s addr).tag = none := by
  cases hlk : lookup s.sets (dec s addr).setIdx (dec s addr).tag with
  | none => rfl
  | some w =>
    obtain ⟨_, hok, hv, ht⟩ := lookup_some_valid hs.sets hlk
    have h1 := hok.lo hv
    rw [hok.base hv, ht, decode_base] at h1
    exact absurd (blockBase_lt_of_not_inData _ _ addr h) (Nat.not_lt.mpr h1)

theorem readBlockSys_spec {s : DSys σ} (hP : PolicyOK P s.geo.assoc WFp) (hs : CInv WFp s)
    (addr : Int) (hin : inData addr) :
    ∃ s1 vals hit, s.readBlockSys P (dec s addr) = (s1, .ok (vals, hit)) ∧ CInv WFp s1 ∧
      s1.geo = s.geo ∧ s1.wt = s.wt ∧ (∀ a, logical s1 a = logical s a) ∧
      Holds s addr vals ∧ resident s1 addr = true := by
  obtain ⟨sets1, hrb, hl1, hs1, hlog1⟩ := readBlock_dec hP hs addr
  cases hlk : lookup s.sets (dec s addr).setIdx (dec s addr).tag with
  | some w =>
    rw [hlk] at hrb
    refine ⟨_, _, _, readBlockSys_hit hrb, hs1, rfl, rfl, hlog1, hit_spec hs addr w hlk, ?_⟩
    unfold resident
    rw [hl1, hlk]
    rfl
  | none =>
    rw [hlk] at hrb
    obtain ⟨ws, hf, hblk⟩ := fetch_spec hs addr hin hlk
    obtain ⟨sets2, displaced, m', hwb, hback, _, hall⟩ :=
      putBlock_spec (s := { s with sets := sets1 }) hP hs1 addr hin ws hblk.len hblk.lt
    obtain ⟨⟨w, c2, _⟩, _, hc⟩ :=
      hall { s with sets := sets2, mem := if s.wt = true then s.mem else m' } rfl rfl
    obtain ⟨c1, c3⟩ := hc rfl
    have hlog : ∀ a, logical { s with sets := sets2, mem := if s.wt = true then s.mem else m' } a =
        logical s a := by
      intro a
      rw [c3 a]
      split
      · rename_i h
        exact hblk.bytes a h.1 h.2
      · exact hlog1 a
    refine ⟨_, _, _, readBlockSys_miss hrb hf hwb hback, ⟨c1, fun hwt a => ?_⟩, rfl, rfl, hlog,
      hblk, ?_⟩
    · rw [hlog a]
      show _ = (if s.wt = true then s.mem else m').cells _
      rw [if_pos hwt]
      exact hs.wtc hwt a
    · unfold resident
      rw [c2]
      rfl

/-- The operation returned `res`, left a state satisfying the invariant whose logical contents are
    `L`, and did not change geometry or write policy. -/
def Eff (WFp : σ → Prop) (s : DSys σ) (o : Out σ) (res : Except Err Nat) (L : Int → Nat) : Prop :=
  o.res = res ∧ CInv WFp o.sys ∧ (∀ a, logical o.sys a = L a) ∧ o.sys.geo = s.geo ∧ o.sys.wt = s.wt

theorem Eff.core {s : DSys σ} {o : Out σ} {res : Except Err Nat} {L : Int → Nat}
    (h : Eff WFp s o res L) : o.res = res ∧ CInv WFp o.sys ∧ ∀ a, logical o.sys a = L a :=
  ⟨h.1, h.2.1, h.2.2.1⟩

theorem read_inData {s : DSys σ} (hP : PolicyOK P s.geo.assoc WFp) (hs : CInv WFp s)
    (bits : Nat) (addr : Int) (counted : Bool) (hin : inData addr) :
    ∃ vals, Holds s addr vals ∧
      Eff WFp s (s.read P bits addr counted) (fromBlock bits (dec s addr) vals) (logical s) := by
  obtain ⟨s1, vals, hit, hr, hs1, hg1, hwt1, hlog1, hblk, _⟩ := readBlockSys_spec hP hs addr hin
  rw [read_eq bits addr counted hr]
  refine ⟨vals, hblk, rfl, ?_⟩
  cases counted with
  | false => exact ⟨hs1, hlog1, hg1, hwt1⟩
  | true =>
    obtain ⟨c1, c2⟩ := CInv_transfer hs1 (bump s1 hit) rfl rfl rfl hs1.sets (fun _ _ => rfl)
    exact ⟨c1, fun a => (c2 a).trans (hlog1 a), hg1, hwt1⟩

/-! ### the effect of a lane update on the logical contents -/

theorem upd_eq {s : DSys σ} {addr : Int} {block : List Nat} (hblk : Holds s addr block) (bits v : Nat)
    (hb : widthOK bits) (hoff : inWord bits addr) (hv : v < 2 ^ bits) (L' : Int → Nat)
    (hL' : ∀ a, L' a =
      if (dec s a).setIdx = (dec s addr).setIdx ∧ (dec s a).tag = (dec s addr).tag then
        byteOf (wordAt (block.set (dec s addr).blockOff
          (newWord bits (dec s addr).byteOff (wordAt block (dec s addr).blockOff) v))
          (dec s a).blockOff) (dec s a).byteOff
      else logical s a) (a : Int) :
    L' a = updBytes (logical s) addr (bits / 8) v a := by
  have hlen : (dec s addr).blockOff < block.length := by
    rw [hblk.len]; exact decode_blockOff_lt _ _ _
  have hoff' : (dec s addr).byteOff + bits / 8 ≤ 4 := hoff
  have hoff4 : wrap32 addr % 4 + bits / 8 ≤ 4 := hoff
  rw [hL' a]
  unfold updBytes
  by_cases hc : wrap32 addr ≤ wrap32 a ∧ wrap32 a < wrap32 addr + bits / 8
  · -- a written byte: it decodes like `addr`, with the byte offset advanced
    rw [if_pos hc, show dec s a = _ from decode_inAccess _ _ addr a (bits / 8) hoff hc,
      if_pos ⟨rfl, rfl⟩, wordAt_set _ _ _ _ hlen, if_pos rfl,
      byteOf_newWord bits _ _ v _ hb hoff' hv
        (show wrap32 addr % 4 + (wrap32 a - wrap32 addr) < 4 by omega),
      if_pos ⟨Nat.le_add_right _ _, Nat.add_lt_add_left (by omega) _⟩]
    exact congrArg _ (Nat.add_sub_cancel_left ..)
  · rw [if_neg hc]
    split
    · rename_i hsame
      rw [wordAt_set _ _ _ _ hlen]
      split
      · -- another byte of the written word: it keeps its lane
        rename_i hbo
        rw [byteOf_newWord bits _ _ v _ hb hoff' hv (decode_byteOff_lt _ _ _),
          if_neg (fun hr => hc ((inAccess_iff s.geo.idxBits s.geo.blkBits addr a _ hoff).mpr
            ⟨hsame.1, hsame.2, hbo.symm, hr.1, hr.2⟩)), hbo]
        exact hblk.bytes a hsame.1 hsame.2
      · exact hblk.bytes a hsame.1 hsame.2
    · rfl

end ArchSim.Lemmas.C03
