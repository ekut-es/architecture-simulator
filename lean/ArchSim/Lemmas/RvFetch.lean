/-
What `instrAt` and `fetch` return: `instrAt` looks at the stored program only and finds word `m` at address
`4 * m`; a fetch without cache returns the instruction at the pc; no fetch changes the stored program.
-/
import ArchSim.Model.Rv

namespace ArchSim.Rv

theorem IMem.instrAt_some {im : IMem} {pc : Int} {i : Instr} (h : im.instrAt pc = some i) :
    0 ≤ pc ∧ pc % 4 = 0 ∧ (pc / 4).toNat < im.prog.length ∧ im.prog[(pc / 4).toNat]? = some i ∧ i ∈ im.prog := by
  simp only [IMem.instrAt] at h
  split at h
  · next hc => exact ⟨hc.1, hc.2, (List.getElem?_eq_some_iff.1 h).1, h, List.mem_of_getElem? h⟩
  · cases h

theorem IMem.instrAt_lt {im : IMem} {pc : Int} {i : Instr} (h : im.instrAt pc = some i) :
    (pc / 4).toNat < im.prog.length := (IMem.instrAt_some h).2.2.1

theorem IMem.instrAt_mem {im : IMem} {pc : Int} {i : Instr} (h : im.instrAt pc = some i) : i ∈ im.prog :=
  (IMem.instrAt_some h).2.2.2.2

theorem instrAt_congr {im im' : IMem} (h : im.prog = im'.prog) (pc : Int) : im.instrAt pc = im'.instrAt pc := by
  unfold IMem.instrAt; rw [h]

theorem instrAt_word (im : IMem) (m : Nat) : im.instrAt (4 * (m : Int)) = im.prog[m]? := by
  unfold IMem.instrAt
  rw [if_pos ⟨Int.mul_nonneg (by decide) (Int.natCast_nonneg m), Int.mul_emod_right 4 m⟩,
    Int.mul_ediv_cancel_left _ (by decide), Int.toNat_natCast]

/-- `16384`: the range the uncached memory accepts -/
theorem IMem.fetch_uncached {im : IMem} {pc : Int} {i : Instr} (hc : im.cache = none)
    (hi : im.instrAt pc = some i) (h1 : pc < 16384) :
    im.fetch pc = { imem := im, res := .ok (some i), extra := 0 } := by
  simp only [IMem.fetch, hc, (IMem.instrAt_some hi).1, h1, and_self, if_true, hi]

theorem IMem.fetch_prog (im : IMem) (pc : Int) : (im.fetch pc).imem.prog = im.prog := by
  unfold IMem.fetch
  cases im.cache with
  | none =>
    dsimp only
    split
    · split <;> rfl
    · rfl
  | some c =>
    dsimp only
    split
    · rfl
    · rfl
    · split <;> rfl

end ArchSim.Rv
