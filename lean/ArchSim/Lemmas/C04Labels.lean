/-
`processLabels` binds every stand-alone label to the address of the next emitted instruction, and an in-line label
once, at the first entry of its line; every label is bound to a multiple of 4.
-/
import ArchSim.Model.Asm

namespace ArchSim.Lemmas.C04
open ArchSim ArchSim.Asm ArchSim.Rv

/-- the mnemonic of a grouped instruction (the inner `match` of `itemMnemonic`) -/
def piMnemonic (pi : PInstr) : String :=
  match pi with
  | .rtype mn .. => mn | .utype mn .. => mn | .btypeLabel mn .. => mn | .mem mn .. => mn
  | .memPseudo mn .. => mn | .sPseudo mn .. => mn | .csr mn .. => mn | .csri mn .. => mn
  | .rri mn .. => mn | .fence .. => "fence" | .jalImm .. => "jal" | .jalLabel .. => "jal"
  | .li .. => "li" | .mv .. => "mv"

/-- an expanded text entry produces an instruction: a group with a real (base-ISA) mnemonic, or one of
    the bare words `ecall` / `ebreak` -/
def emits : Item → Bool
  | .str s => decide (s = "ecall" ∨ s = "ebreak")
  | .grp pi => isRealMnemonic (piMnemonic pi)
  | _ => false

/-- an expanded text entry is a stand-alone label -/
def isLabel : Item → Bool
  | .str s => decide (s ≠ "ecall" ∧ s ≠ "ebreak")
  | _ => false

def countE (es : List TEntry) : Nat := es.countP (fun e => emits e.2.2)

theorem countE_nil : countE [] = 0 := rfl

theorem countE_cons (e : TEntry) (es : List TEntry) :
    countE (e :: es) = (if emits e.2.2 then 1 else 0) + countE es := by
  simp only [countE, List.countP_cons]; omega

theorem countE_append (l₁ l₂ : List TEntry) : countE (l₁ ++ l₂) = countE l₁ + countE l₂ := by
  simp only [countE, List.countP_append]

theorem itemMnemonic_grp (pi : PInstr) : itemMnemonic (.grp pi) = some (piMnemonic pi) := by
  cases pi <;> rfl

/-! ### label tables -/

theorem lookupLabel_append_some (ls ws : Labels) (n : String) (v : Int) (h : lookupLabel ls n = some v) :
    lookupLabel (ls ++ ws) n = some v := by
  simp only [lookupLabel, Option.map_eq_some_iff] at h
  obtain ⟨p, hp, rfl⟩ := h
  simp only [lookupLabel, List.find?_append, hp, Option.some_or, Option.map_some]

theorem lookupLabel_append_none (ls ws : Labels) (n : String) (h : lookupLabel ls n = none) :
    lookupLabel (ls ++ ws) n = lookupLabel ws n := by
  simp only [lookupLabel, Option.map_eq_none_iff] at h
  simp only [lookupLabel, List.find?_append, h, Option.none_or]

theorem addLabel_ok (ls ls' : Labels) (n : String) (v : Int) (k : Nat) (line : String)
    (h : addLabel ls n v k line = .ok ls') :
    lookupLabel ls n = none ∧ ls' = ls ++ [(n, v)] ∧ lookupLabel ls' n = some v ∧
      (∀ n' v', lookupLabel ls n' = some v' → lookupLabel ls' n' = some v') := by
  simp only [addLabel] at h
  split at h
  · cases h
  · next hn =>
    simp only [Except.ok.injEq] at h
    subst h
    have hn' : lookupLabel ls n = none := by
      cases hl : lookupLabel ls n with
      | none => rfl
      | some x => rw [hl] at hn; simp at hn
    refine ⟨hn', rfl, ?_, fun n' v' h' => lookupLabel_append_some ls _ n' v' h'⟩
    rw [lookupLabel_append_none _ _ _ hn']
    simp [lookupLabel]

/-! ### one step of `processLabels` -/

def stepAddr (addr : Int) (it : Item) : Int := if emits it then addr + 4 else addr

section
variable (k : Nat) (line : String) (it : Item) (rest : List TEntry) (pending : List (Nat × String))

omit it in
theorem processLabels_cons_label (ls : Labels) (addr : Int) (s : String) (hl : isLabel (.str s) = true) :
    processLabels ((k, line, .str s) :: rest) pending ls addr =
      match addLabel ls s addr k line with
      | .error e => .error e
      | .ok ls' => processLabels rest pending ls' addr := by
  simp only [isLabel, decide_eq_true_eq] at hl
  simp only [processLabels, hl, ne_eq, not_false_eq_true, and_self, if_true]
  rfl

theorem processLabels_cons_other (ls : Labels) (addr : Int) (hl : isLabel it = false) :
    processLabels ((k, line, it) :: rest) pending ls addr =
      match pending.find? (fun p => p.1 == k) with
      | some (_, l) =>
        match addLabel ls l addr k line with
        | .error e => .error e
        | .ok ls' => processLabels rest (pending.filter (fun p => p.1 != k)) ls' (stepAddr addr it)
      | none => processLabels rest pending ls (stepAddr addr it) := by
  cases it with
  | str s =>
    simp only [isLabel, decide_eq_false_iff_not] at hl
    have he : emits (.str s) = true := by
      simp only [emits, decide_eq_true_eq]
      by_cases h1 : s = "ecall"
      · exact Or.inl h1
      · by_cases h2 : s = "ebreak"
        · exact Or.inr h2
        · exact absurd ⟨h1, h2⟩ hl
    simp only [processLabels, hl, if_false, stepAddr, he, if_true]
    rfl
  | grp pi =>
    simp only [processLabels, stepAddr, emits, itemMnemonic_grp]
    rfl
  | _ => rfl

end

/-! ### the label pass binds every label to the address of the next emitted instruction -/

theorem countE_take_succ (e : TEntry) (es : List TEntry) (p : Nat) :
    countE ((e :: es).take (p + 1)) = (if emits e.2.2 then 1 else 0) + countE (es.take p) := by
  rw [List.take_succ_cons, countE_cons]

theorem stepAddr_eq (addr : Int) (it : Item) :
    stepAddr addr it = addr + 4 * ((if emits it then 1 else 0 : Nat) : Int) := by
  simp only [stepAddr]; split <;> simp

theorem isLabel_not_emits (it : Item) (h : isLabel it = true) : emits it = false := by
  cases it with
  | str s =>
    simp only [isLabel, decide_eq_true_eq] at h
    simp only [emits, decide_eq_false_iff_not, not_or]
    exact h
  | grp pi => cases h
  | _ => rfl

theorem find_filter_ne (pending : List (Nat × String)) (k k0 : Nat) (h : k0 ≠ k) :
    (pending.filter (fun p => p.1 != k0)).find? (fun p => p.1 == k) = pending.find? (fun p => p.1 == k) := by
  rw [List.find?_filter]
  congr 1
  funext q
  by_cases hq : q.1 = k
  · simp [hq, Ne.symm h]
  · simp [hq]

theorem isLabel_str {it : Item} (h : isLabel it = true) : ∃ s, it = .str s := by
  cases it with
  | str s => exact ⟨s, rfl⟩
  | _ => cases h

section
variable (k : Nat) (line : String) (it : Item) (rest : List TEntry) (pending : List (Nat × String))

/-- A successful step hands the rest of the pass a table `ls1` that extends `ls` by at most one binding, to `addr`: the
    entry itself if it is a label, else the pending label of line `k`, which only such an entry consumes. -/
theorem processLabels_cons_ok (ls ls' : Labels) (addr : Int)
    (h : processLabels ((k, line, it) :: rest) pending ls addr = .ok ls') :
    ∃ pending' ls1, processLabels rest pending' ls1 (stepAddr addr it) = .ok ls' ∧
      (ls1 = ls ∨ ∃ l, addLabel ls l addr k line = .ok ls1) ∧
      (∀ n v, lookupLabel ls n = some v → lookupLabel ls1 n = some v) ∧
      (∀ s, it = .str s → isLabel it = true → lookupLabel ls1 s = some addr) ∧
      (∀ k', isLabel it = true ∨ k' ≠ k →
        pending'.find? (fun q => q.1 == k') = pending.find? (fun q => q.1 == k')) ∧
      (isLabel it = false → ∀ k0 l, pending.find? (fun q => q.1 == k) = some (k0, l) →
        lookupLabel ls1 l = some addr) := by
  by_cases hl : isLabel it = true
  · obtain ⟨s, rfl⟩ := isLabel_str hl
    rw [processLabels_cons_label k line rest pending ls addr s hl] at h
    cases ha : addLabel ls s addr k line with
    | error x => rw [ha] at h; cases h
    | ok ls1 =>
      rw [ha] at h
      obtain ⟨_, _, hself, hkeep⟩ := addLabel_ok ls ls1 s addr k line ha
      refine ⟨pending, ls1, ?_, Or.inr ⟨s, ha⟩, hkeep, ?_, fun _ _ => rfl, fun hn => ?_⟩
      · simpa only [stepAddr, isLabel_not_emits _ hl, Bool.false_eq_true, if_false] using h
      · intro s' hs' _; cases hs'; exact hself
      · rw [hl] at hn; cases hn
  · have hl' : isLabel it = false := by simpa using hl
    rw [processLabels_cons_other k line it rest pending ls addr hl'] at h
    cases hf : pending.find? (fun p => p.1 == k) with
    | none =>
      rw [hf] at h
      exact ⟨pending, ls, h, Or.inl rfl, fun _ _ hv => hv, fun _ _ hx => absurd hx hl, fun _ _ => rfl,
        fun _ k0 l hx => by cases hx⟩
    | some q =>
      obtain ⟨k0, l⟩ := q
      rw [hf] at h
      simp only at h
      cases ha : addLabel ls l addr k line with
      | error x => rw [ha] at h; cases h
      | ok ls1 =>
        rw [ha] at h
        obtain ⟨_, _, hself, hkeep⟩ := addLabel_ok ls ls1 l addr k line ha
        exact ⟨_, ls1, h, Or.inr ⟨l, ha⟩, hkeep, fun _ _ hx => absurd hx hl,
          fun k' hk => find_filter_ne pending k' k (fun e => hk.elim (absurd · hl) (· e.symm)),
          fun _ k0' l' hx => by cases hx; exact hself⟩

end

/-- Generalised over the state of the pass: `addr` = address of the next instruction, `ls` = labels bound so far,
    `pending` = in-line labels not yet bound. -/
theorem processLabels_spec (es : List TEntry) (pending : List (Nat × String)) (ls ls' : Labels) (addr : Int)
    (h : processLabels es pending ls addr = .ok ls') :
    (∀ n v, lookupLabel ls n = some v → lookupLabel ls' n = some v) ∧
    (∀ (p : Nat) (hp : p < es.length) (s : String), es[p].2.2 = .str s → isLabel (.str s) = true →
      lookupLabel ls' s = some (addr + 4 * (countE (es.take p) : Int))) ∧
    (∀ (k k0 : Nat) (l : String), pending.find? (fun q => q.1 == k) = some (k0, l) →
      ∀ (p : Nat) (hp : p < es.length), es[p].1 = k → isLabel es[p].2.2 = false →
        (∀ (q : Nat) (hq : q < p), (es[q]'(by omega)).1 = k → isLabel (es[q]'(by omega)).2.2 = true) →
        lookupLabel ls' l = some (addr + 4 * (countE (es.take p) : Int))) := by
  induction es generalizing pending ls addr with
  | nil =>
    simp only [processLabels, Except.ok.injEq] at h
    subst h
    exact ⟨fun _ _ hv => hv, fun p hp => absurd hp (Nat.not_lt_zero _), fun _ _ _ _ p hp => absurd hp (Nat.not_lt_zero _)⟩
  | cons e rest ih =>
    obtain ⟨k1, line, it⟩ := e
    obtain ⟨pending', ls1, hrec, _, hkeep, hlab, hpend, hbound⟩ :=
      processLabels_cons_ok k1 line it rest pending ls ls' addr h
    have hstep := stepAddr_eq addr it
    obtain ⟨ih1, ih2, ih3⟩ := ih pending' ls1 (stepAddr addr it) hrec
    refine ⟨fun n v hv => ih1 n v (hkeep n v hv), ?_, ?_⟩
    · intro p hp s' hs' hls'
      cases p with
      | zero =>
        simp only [List.getElem_cons_zero] at hs'
        simp only [List.take_zero, countE_nil, Int.natCast_zero, Int.mul_zero, Int.add_zero]
        exact ih1 s' addr (hlab s' hs' (by rw [hs']; exact hls'))
      | succ p' =>
        simp only [List.getElem_cons_succ] at hs'
        rw [countE_take_succ, ih2 p' (Nat.lt_of_succ_lt_succ hp) s' hs' hls', hstep]
        congr 1
        simp only [Int.natCast_add]
        omega
    · intro k k0 l hf p hp hk hnl hfirst
      cases p with
      | zero =>
        simp only [List.getElem_cons_zero] at hk hnl
        subst hk
        simp only [List.take_zero, countE_nil, Int.natCast_zero, Int.mul_zero, Int.add_zero]
        exact ih1 l addr (hbound hnl k0 l hf)
      | succ p' =>
        simp only [List.getElem_cons_succ] at hk hnl
        have hor : isLabel it = true ∨ k ≠ k1 := by
          by_cases hl : isLabel it = true
          · exact Or.inl hl
          · exact Or.inr fun e => hl (hfirst 0 (Nat.succ_pos _) e.symm)
        rw [countE_take_succ, ih3 k k0 l (by rw [hpend k hor]; exact hf) p' (Nat.lt_of_succ_lt_succ hp) hk hnl
          (fun q hq hqk => hfirst (q + 1) (Nat.succ_lt_succ hq) hqk), hstep]
        congr 1
        simp only [Int.natCast_add]
        omega

/-! ### the entries of one source line: an in-line label is bound once, at the first of them -/

/-- all entries of `g` belong to source line `k` and are instruction entries (not stand-alone labels) -/
def lineGroup (k : Nat) (g : List TEntry) : Prop := ∀ e ∈ g, e.1 = k ∧ isLabel e.2.2 = false

theorem find_filter_self (pending : List (Nat × String)) (k : Nat) :
    (pending.filter (fun p => p.1 != k)).find? (fun p => p.1 == k) = none := by
  rw [List.find?_eq_none]
  intro x hx
  simp only [List.mem_filter, bne_iff_ne, ne_eq] at hx
  simp [hx.2]

theorem processLabels_skip (k : Nat) (g rest : List TEntry) (pending : List (Nat × String)) (ls : Labels)
    (addr : Int) (hg : lineGroup k g) (hp : pending.find? (fun p => p.1 == k) = none) :
    processLabels (g ++ rest) pending ls addr = processLabels rest pending ls (addr + 4 * (countE g : Int)) := by
  induction g generalizing addr with
  | nil => simp [countE_nil]
  | cons e g' ih =>
    obtain ⟨k1, line, it⟩ := e
    have he := hg (k1, line, it) (List.mem_cons_self ..)
    simp only at he
    obtain ⟨rfl, hl⟩ := he
    rw [List.cons_append, processLabels_cons_other k1 line it _ pending ls addr hl, hp]
    simp only
    rw [ih _ (fun e he => hg e (List.mem_cons_of_mem _ he)), countE_cons, stepAddr_eq]
    congr 1
    simp only [Int.natCast_add]
    omega

/-! ### every label is a multiple of 4 -/

def Aligned4 (ls : Labels) : Prop := ∀ p ∈ ls, p.2 % 4 = 0

theorem Aligned4.lookup {ls : Labels} (h : Aligned4 ls) {l : String} {L : Int} (hl : lookupLabel ls l = some L) :
    L % 4 = 0 := by
  simp only [lookupLabel, Option.map_eq_some_iff] at hl
  obtain ⟨p, hp, rfl⟩ := hl
  exact h p (List.mem_of_find?_eq_some hp)

theorem Aligned4.addLabel {ls ls' : Labels} (h : Aligned4 ls) {n : String} {v : Int} {k : Nat} {line : String}
    (hv : v % 4 = 0) (ha : addLabel ls n v k line = .ok ls') : Aligned4 ls' := by
  rw [(addLabel_ok ls ls' n v k line ha).2.1]
  intro p hp
  rcases List.mem_append.mp hp with hp | hp
  · exact h p hp
  · simp only [List.mem_singleton] at hp; subst hp; exact hv

theorem stepAddr_mod4 (addr : Int) (it : Item) (h : addr % 4 = 0) : stepAddr addr it % 4 = 0 := by
  simp only [stepAddr]; split <;> omega

theorem processLabels_aligned (es : List TEntry) : ∀ (pending : List (Nat × String)) (ls ls' : Labels) (addr : Int),
    processLabels es pending ls addr = .ok ls' → addr % 4 = 0 → Aligned4 ls → Aligned4 ls' := by
  induction es with
  | nil => intro pending ls ls' addr h _ hls; simp only [processLabels, Except.ok.injEq] at h; subst h; exact hls
  | cons e rest ih =>
    obtain ⟨k, line, it⟩ := e
    intro pending ls ls' addr h ha hls
    obtain ⟨pending', ls1, hrec, hls1, _⟩ := processLabels_cons_ok k line it rest pending ls ls' addr h
    refine ih _ _ _ _ hrec (stepAddr_mod4 addr it ha) ?_
    rcases hls1 with rfl | ⟨l, hadd⟩
    · exact hls
    · exact hls.addLabel ha hadd

end ArchSim.Lemmas.C04
