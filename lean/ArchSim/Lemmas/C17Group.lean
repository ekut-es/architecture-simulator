/-
`Fmt.groupify` (separator after every `g` characters counted from the right): `groupify g s` is the space-join
`joinSp` of the pieces `groupsOf g s`, which form the right-aligned grouping of `s`; reading a space-join back gives
the pieces.
-/
import ArchSim.Model.Fmt
import ArchSim.Spec.Digits

namespace ArchSim.Lemmas.C17
open ArchSim.Fmt ArchSim.Spec.Digits

/-! ### joining with single spaces -/

/-- `" ".join(L)` written by plain recursion. -/
def joinSp : List (List Char) → List Char
  | [] => []
  | [x] => x
  | x :: y :: r => x ++ ' ' :: joinSp (y :: r)

theorem intercalate_eq_joinSp (L : List (List Char)) : List.intercalate [' '] L = joinSp L := by
  fun_induction joinSp L with
  | case1 => simp [List.intercalate]
  | case2 x => simp [List.intercalate]
  | case3 x y r ih =>
    simp only [List.intercalate] at ih ⊢
    simp [List.intersperse, ih]

theorem joinSp_cons_of_ne_nil (x : List Char) (L : List (List Char)) (h : L ≠ []) :
    joinSp (x :: L) = x ++ ' ' :: joinSp L := by
  cases L with
  | nil => exact absurd rfl h
  | cons y r => rfl

theorem joinSp_append_singleton (A : List (List Char)) (x : List Char) (h : A ≠ []) :
    joinSp (A ++ [x]) = joinSp A ++ ' ' :: x := by
  induction A with
  | nil => exact absurd rfl h
  | cons a A ih =>
    cases A with
    | nil => simp [joinSp]
    | cons b B =>
      have := ih (by simp)
      simp only [List.cons_append] at this ⊢
      simp [joinSp, this]

theorem reverse_joinSp (L : List (List Char)) :
    (joinSp L).reverse = joinSp ((L.map List.reverse).reverse) := by
  induction L with
  | nil => simp [joinSp]
  | cons a A ih =>
    cases A with
    | nil => simp [joinSp]
    | cons b B =>
      rw [joinSp_cons_of_ne_nil a (b :: B) (by simp)]
      rw [List.map_cons, List.reverse_cons,
        joinSp_append_singleton _ _ (by simp), ← ih]
      simp

/-! ### reading a joined string -/

theorem stripSpaces_append (a b : List Char) : stripSpaces (a ++ b) = stripSpaces a ++ stripSpaces b := by
  simp [stripSpaces]

theorem stripSpaces_of_no_space (s : List Char) (h : ' ' ∉ s) : stripSpaces s = s := by
  unfold stripSpaces
  rw [List.filter_eq_self]
  intro c hc
  have : c ≠ ' ' := fun e => h (e ▸ hc)
  simpa using this

theorem stripSpaces_joinSp (L : List (List Char)) : stripSpaces (joinSp L) = stripSpaces L.flatten := by
  fun_induction joinSp L with
  | case1 => rfl
  | case2 x => simp
  | case3 x y r ih =>
    rw [List.flatten_cons, stripSpaces_append, stripSpaces_append, ← ih]
    simp [stripSpaces]

theorem splitSpaces_ne_nil (s : List Char) : splitSpaces s ≠ [] := by
  induction s with
  | nil => simp [splitSpaces]
  | cons c cs ih =>
    unfold splitSpaces
    split
    · simp
    · split <;> simp

theorem splitSpaces_of_no_space (x : List Char) (h : ' ' ∉ x) : splitSpaces x = [x] := by
  induction x with
  | nil => rfl
  | cons c cs ih =>
    have hc : c ≠ ' ' := fun e => h (by simp [e])
    have hcs : ' ' ∉ cs := fun e => h (by simp [e])
    simp [splitSpaces, hc, ih hcs]

theorem splitSpaces_append_space (x rest : List Char) (h : ' ' ∉ x) :
    splitSpaces (x ++ ' ' :: rest) = x :: splitSpaces rest := by
  induction x with
  | nil => simp [splitSpaces]
  | cons c cs ih =>
    have hc : c ≠ ' ' := fun e => h (by simp [e])
    have hcs : ' ' ∉ cs := fun e => h (by simp [e])
    simp [splitSpaces, hc, ih hcs]

theorem splitSpaces_joinSp (L : List (List Char)) (hne : L ≠ []) (hsp : ∀ x ∈ L, ' ' ∉ x) :
    splitSpaces (joinSp L) = L := by
  fun_induction joinSp L with
  | case1 => exact absurd rfl hne
  | case2 x => exact splitSpaces_of_no_space x (hsp x (by simp))
  | case3 x y r ih =>
    rw [splitSpaces_append_space x _ (hsp x (by simp)),
      ih (by simp) (fun z hz => hsp z (List.mem_cons_of_mem _ hz))]

/-! ### cutting into groups from the right: `groupify` joins the groups, and the joined string reads back -/

theorem chunks_of_ne_nil (g fuel : Nat) (l : List Char) (h : l ≠ []) :
    chunks g (fuel + 1) l = l.take g :: chunks g fuel (l.drop g) := by
  cases l with
  | nil => exact absurd rfl h
  | cons a l => simp [chunks]

theorem chunks_nil (g fuel : Nat) : chunks g fuel [] = [] := by
  cases fuel <;> simp [chunks]

theorem chunks_spec (g : Nat) (hg : 1 ≤ g) (fuel : Nat) (l : List Char) (hf : l.length < fuel) :
    (chunks g fuel l).flatten = l ∧ (∀ c ∈ chunks g fuel l, 1 ≤ c.length ∧ c.length ≤ g) ∧
      ∀ c ∈ (chunks g fuel l).dropLast, c.length = g := by
  induction fuel generalizing l with
  | zero => omega
  | succ fuel ih =>
    by_cases hl : l = []
    · subst hl; simp [chunks]
    · have hpos : 0 < l.length := List.length_pos_iff.mpr hl
      obtain ⟨h1, h2, h3⟩ := ih (l.drop g) (by simp only [List.length_drop]; omega)
      rw [chunks_of_ne_nil g fuel l hl]
      refine ⟨by rw [List.flatten_cons, h1, List.take_append_drop], fun c hc => ?_, fun c hc => ?_⟩
      · rcases List.mem_cons.mp hc with rfl | hc
        · simp only [List.length_take]; omega
        · exact h2 c hc
      · by_cases hr : chunks g fuel (l.drop g) = []
        · simp [hr] at hc
        · rw [List.dropLast_cons_of_ne_nil hr] at hc
          rcases List.mem_cons.mp hc with rfl | hc
          · -- a further chunk exists, so more than `g` elements were there
            have hd : 0 < (l.drop g).length :=
              List.length_pos_iff.mpr (fun e => hr (by rw [e, chunks_nil]))
            simp only [List.length_drop] at hd
            simp only [List.length_take]; omega
          · exact h3 c hc

theorem chunks_ne_nil (g fuel : Nat) (l : List Char) (hl : l ≠ []) (hf : l.length < fuel) :
    chunks g fuel l ≠ [] := by
  cases fuel with
  | zero => omega
  | succ fuel => rw [chunks_of_ne_nil g fuel l hl]; simp

/-- The pieces of `groupify g s`. -/
def groupsOf (g : Nat) (s : List Char) : List (List Char) :=
  ((chunks g (s.reverse.length + 1) s.reverse).map List.reverse).reverse

theorem groupify_eq_joinSp (g : Nat) (s : List Char) : groupify g s = joinSp (groupsOf g s) := by
  unfold groupify groupsOf
  simp only [intercalate_eq_joinSp, reverse_joinSp]

theorem groupsOf_flatten (g : Nat) (hg : 1 ≤ g) (s : List Char) : (groupsOf g s).flatten = s := by
  unfold groupsOf
  rw [← List.reverse_flatten, (chunks_spec g hg _ _ (by omega)).1, List.reverse_reverse]

theorem groupsOf_isRightGrouping (g : Nat) (hg : 1 ≤ g) (s : List Char) (hs : s ≠ []) :
    IsRightGrouping g s (groupsOf g s) := by
  have hfl := groupsOf_flatten g hg s
  obtain ⟨-, hmem, hdl⟩ := chunks_spec g hg (s.reverse.length + 1) s.reverse (by omega)
  have hne := chunks_ne_nil g (s.reverse.length + 1) s.reverse (by simpa using hs) (by omega)
  unfold groupsOf at hfl ⊢
  -- the chunks of the reversed string: the last one becomes the leftmost group
  obtain ⟨init, last, hcs⟩ : ∃ init last, chunks g (s.reverse.length + 1) s.reverse = init ++ [last] :=
    ⟨_, _, (List.dropLast_concat_getLast hne).symm⟩
  rw [hcs] at hfl hmem hdl ⊢
  refine ⟨last.reverse, (init.map List.reverse).reverse, by simp, by rw [← hfl]; simp, ?_, ?_, ?_⟩
  · simpa using (hmem last (by simp)).1
  · simpa using (hmem last (by simp)).2
  · intro c hc
    simp only [List.mem_reverse, List.mem_map] at hc
    obtain ⟨d, hd, rfl⟩ := hc
    simpa using hdl d (by simpa using hd)

theorem groupsOf_no_space (g : Nat) (hg : 1 ≤ g) (s : List Char) (hsp : ' ' ∉ s) :
    ∀ x ∈ groupsOf g s, ' ' ∉ x := by
  intro x hx hc
  apply hsp
  rw [← groupsOf_flatten g hg s]
  exact List.mem_flatten.mpr ⟨x, hx, hc⟩

theorem groupsOf_ne_nil (g : Nat) (hg : 1 ≤ g) (s : List Char) (hs : s ≠ []) : groupsOf g s ≠ [] := by
  obtain ⟨h, t, e, _⟩ := groupsOf_isRightGrouping g hg s hs
  rw [e]; simp

theorem stripSpaces_groupify (g : Nat) (hg : 1 ≤ g) (s : List Char) :
    stripSpaces (groupify g s) = stripSpaces s := by
  rw [groupify_eq_joinSp, stripSpaces_joinSp]
  exact congrArg stripSpaces (groupsOf_flatten g hg s)

theorem stripSpaces_groupify_of_no_space (g : Nat) (hg : 1 ≤ g) (s : List Char) (hsp : ' ' ∉ s) :
    stripSpaces (groupify g s) = s := by
  rw [stripSpaces_groupify g hg, stripSpaces_of_no_space s hsp]

theorem splitSpaces_groupify (g : Nat) (hg : 1 ≤ g) (s : List Char) (hs : s ≠ []) (hsp : ' ' ∉ s) :
    IsRightGrouping g s (splitSpaces (groupify g s)) := by
  rw [groupify_eq_joinSp, splitSpaces_joinSp _ (groupsOf_ne_nil g hg s hs) (groupsOf_no_space g hg s hsp)]
  exact groupsOf_isRightGrouping g hg s hs

/-! ### number and lengths of the groups -/

theorem length_flatten_of_length_eq {g : Nat} {t : List (List Char)} (ht : ∀ c ∈ t, c.length = g) :
    t.flatten.length = g * t.length := by
  rw [List.length_flatten, List.map_eq_replicate_iff.mpr ht, List.sum_replicate_nat, Nat.mul_comm]

theorem IsRightGrouping.length_eq {g : Nat} {s : List Char} {L : List (List Char)}
    (h : IsRightGrouping g s L) :
    ∃ k, L.length = k + 1 ∧ g * k < s.length ∧ s.length ≤ g * (k + 1) := by
  obtain ⟨hd, t, rfl, rfl, h1, h2, ht⟩ := h
  have hsum := length_flatten_of_length_eq ht
  refine ⟨t.length, by simp, ?_, ?_⟩
  · rw [List.length_append, hsum]; omega
  · rw [List.length_append, hsum, Nat.mul_add, Nat.mul_one]; omega

theorem IsRightGrouping.map_length {g : Nat} (hg : 1 ≤ g) {s : List Char} {L : List (List Char)}
    (h : IsRightGrouping g s L) :
    L.map List.length
      = (s.length - g * ((s.length - 1) / g)) :: List.replicate ((s.length - 1) / g) g := by
  obtain ⟨hd, t, rfl, rfl, h1, h2, ht⟩ := h
  have hsum := length_flatten_of_length_eq ht
  have hk : ((hd ++ t.flatten).length - 1) / g = t.length := by
    rw [List.length_append, hsum]
    have : hd.length + g * t.length - 1 = (hd.length - 1) + g * t.length := by omega
    rw [this, Nat.add_mul_div_left _ _ (by omega), Nat.div_eq_of_lt (by omega)]
    omega
  rw [hk, List.length_append, hsum]
  simp only [List.map_cons, Nat.add_sub_cancel]
  congr 1
  exact List.map_eq_replicate_iff.mpr ht

end ArchSim.Lemmas.C17
