/-
The scanners of `Model.PP` on inputs of the shape `word ++ rest`: `oneOf` is a search for the longest symbol that is a
prefix, and on a lower-case word in any letter case (`CaseVar`) followed by an ASCII non-letter (`MnSep`) the caseless
scanners return what they return on the lower-case word. A fact about "any letter" is a decided table over a list of
characters, reached through `forall_char_range`. The second half of the file is `namespace C04Spell`.
-/
import ArchSim.Model.Asm
import ArchSim.Lemmas.PPFacts

namespace ArchSim.Lemmas.C14
open ArchSim ArchSim.PP ArchSim.Rv ArchSim.Asm

@[simp] theorem bind_ok {α β : Type} (a : α) (r : Inp) (f : α → Inp → R β) : (R.ok a r).bind f = f a r := rfl
@[simp] theorem bind_fail {α β : Type} (f : α → Inp → R β) : (R.fail : R α).bind f = .fail := rfl
@[simp] theorem bind_abort {α β : Type} (f : α → Inp → R β) : (R.abort : R α).bind f = .abort := rfl
@[simp] theorem map_ok {α β : Type} (a : α) (r : Inp) (f : α → β) : (R.ok a r).map f = .ok (f a) r := rfl
@[simp] theorem map_fail {α β : Type} (f : α → β) : (R.fail : R α).map f = .fail := rfl
@[simp] theorem map_abort {α β : Type} (f : α → β) : (R.abort : R α).map f = .abort := rfl

theorem map_bind {α β γ : Type} (r : R α) (f : α → Inp → R β) (g : β → γ) :
    (r.bind f).map g = r.bind fun a i => (f a i).map g := by cases r <;> rfl

theorem bind_map {α β γ : Type} (r : R α) (g : α → β) (f : β → Inp → R γ) :
    (r.map g).bind f = r.bind fun a i => f (g a) i := by cases r <;> rfl

theorem mem_longestFirst {syms : List String} {s : String} : s ∈ longestFirst syms ↔ s ∈ syms :=
  List.mem_mergeSort

theorem pairwise_longestFirst (syms : List String) :
    (longestFirst syms).Pairwise (fun a b => b.length ≤ a.length) := by
  have h := List.pairwise_mergeSort (le := fun (a b : String) => decide (a.length ≥ b.length))
    (by intro a b c; simp only [decide_eq_true_eq]; omega)
    (by intro a b; simp only [Bool.or_eq_true, decide_eq_true_eq]; omega) syms
  refine List.Pairwise.imp ?_ h
  intro a b hab; simpa using hab

theorem find_longestFirst_none (syms : List String) (p : String → Bool)
    (h : ∀ t ∈ syms, p t = false) : (longestFirst syms).find? p = none := by
  rw [List.find?_eq_none]
  intro x hx
  simp [h x (mem_longestFirst.mp hx)]

theorem find_longestFirst_some (syms : List String) (p : String → Bool) (s : String)
    (hs : s ∈ syms) (hp : p s = true)
    (hbest : ∀ t ∈ syms, p t = true → t.length < s.length ∨ t = s) :
    (longestFirst syms).find? p = some s := by
  have hsL : s ∈ longestFirst syms := mem_longestFirst.mpr hs
  cases hf : (longestFirst syms).find? p with
  | none =>
    rw [List.find?_eq_none] at hf
    exact absurd hp (hf s hsL)
  | some t =>
    have hf' := hf
    rw [List.find?_eq_some_iff_append] at hf'
    obtain ⟨hpt, as, bs, hL, hno⟩ := hf'
    have htL : t ∈ syms := mem_longestFirst.mp (by rw [hL]; simp)
    rcases hbest t htL hpt with hlt | rfl
    · exfalso
      have hpw := pairwise_longestFirst syms
      rw [hL] at hpw hsL
      rw [List.pairwise_append] at hpw
      obtain ⟨_, hpw2, _⟩ := hpw
      rw [List.pairwise_cons] at hpw2
      rcases List.mem_append.mp hsL with h1 | h2
      · have := hno s h1; simp [hp] at this
      · rcases List.mem_cons.mp h2 with rfl | h3
        · omega
        · have := hpw2.1 s h3; omega
    · rfl

theorem isPrefixOf_append_split (t w rest : List Char) (h : t.isPrefixOf (w ++ rest) = true) :
    t.isPrefixOf w = true ∨
      (w.isPrefixOf t = true ∧ w.length < t.length ∧ rest.head? = t[w.length]?) := by
  induction t generalizing w with
  | nil => left; simp
  | cons a t ih =>
    cases w with
    | nil =>
      right
      cases rest with
      | nil => simp at h
      | cons c r =>
        simp only [List.nil_append, List.isPrefixOf_cons_cons, Bool.and_eq_true, beq_iff_eq] at h
        simp [h.1]
    | cons b w =>
      simp only [List.cons_append, List.isPrefixOf_cons_cons, Bool.and_eq_true, beq_iff_eq] at h
      rcases ih w h.2 with h1 | ⟨h1, h2, h3⟩
      · left; simp [h.1, h1]
      · right
        refine ⟨by simp [h.1, h1], by simp only [List.length_cons]; omega, ?_⟩
        simpa using h3

theorem isPrefixOf_append_class (P : Char → Bool) (s ds rest : List Char)
    (hs : ∀ c ∈ s, P c = true) (hr : ∀ c ∈ rest.head?, P c = false) :
    s.isPrefixOf (ds ++ rest) = s.isPrefixOf ds := by
  rw [Bool.eq_iff_iff]
  refine ⟨fun h => ?_, fun h => ?_⟩
  · rcases isPrefixOf_append_split s ds rest h with h | ⟨_, hlt, hh⟩
    · exact h
    · -- the character of `s` that `rest` would have to begin with is of the class
      rw [List.getElem?_eq_getElem hlt] at hh
      have := hr _ hh
      rw [hs _ (List.getElem_mem hlt)] at this
      cases this
  · exact List.isPrefixOf_iff_prefix.mpr (List.prefix_append_of_prefix (List.isPrefixOf_iff_prefix.mp h))

theorem oneOf_go_eq (i : Inp) (l : List String) :
    oneOf.go i l =
      match l.find? (fun s => s.toList.isPrefixOf i) with
      | some s => .ok s (i.drop s.toList.length)
      | none => .fail := by
  induction l with
  | nil => simp [oneOf.go]
  | cons s l ih =>
    simp only [oneOf.go, stripPrefix_eq, List.find?_cons]
    by_cases h : s.toList.isPrefixOf i = true
    · simp [h]
    · simp only [h]; simpa using ih

theorem skipWs_cons_of_not_ws (c : Char) (r : Inp) (h : isWs c = false) : skipWs (c :: r) = c :: r := by
  simp [skipWs, h]

@[simp] theorem skipWs_nil : skipWs [] = [] := rfl

def isLow (c : Char) : Bool := 'a' ≤ c && c ≤ 'z'

def lowList : List Char := "abcdefghijklmnopqrstuvwxyz".toList

theorem forall_char_range {P : Char → Prop} (lo hi : Char)
    (h : ∀ n < hi.toNat + 1, lo.toNat ≤ n → P (Char.ofNat n)) (c : Char)
    (hc : (decide (lo ≤ c) && decide (c ≤ hi)) = true) : P c := by
  simp only [Bool.and_eq_true, decide_eq_true_eq, Char.le_def, UInt32.le_iff_toNat_le] at hc
  rw [← Char.ofNat_toNat c]
  exact h c.toNat (Nat.lt_succ_of_le hc.2) hc.1

theorem isLow_mem (c : Char) (h : isLow c = true) : c ∈ lowList :=
  forall_char_range 'a' 'z' (by decide +kernel) c h

theorem low_facts : ∀ p ∈ lowList, isWs p = false ∧ lowersTo [p] = true := by decide +kernel

theorem low_upper_inj : ∀ p ∈ lowList, ∀ c ∈ lowList, upperAscii c = upperAscii p → p = c := by decide +kernel

/-- `rest` is empty or starts with a blank. -/
def WordEnd (rest : Inp) : Prop := rest = [] ∨ ∃ r, rest = ' ' :: r

def LowSyms (L : List String) : Prop := ∀ s ∈ L, ∀ c ∈ s.toList, isLow c = true

/-- what follows a printed mnemonic: nothing, or a blank and a register -/
def MnEnd (rest : Inp) : Prop := rest = [] ∨ ∃ r, rest = ' ' :: 'x' :: r

theorem MnEnd.wordEnd {rest : Inp} (h : MnEnd rest) : WordEnd rest := by
  rcases h with h | ⟨r, h⟩
  · exact Or.inl h
  · exact Or.inr ⟨_, h⟩

/-- A result that cannot beat a complete match: a failure, or a match that leaves input. -/
def Lose {α : Type} : R α → Prop
  | .fail => True
  | .abort => False
  | .ok _ rest => rest ≠ []

def NoAbort {α : Type} : R α → Prop
  | .abort => False
  | _ => True

@[simp] theorem noAbort_ok {α : Type} (a : α) (r : Inp) : NoAbort (R.ok a r) := trivial

theorem lose_map {α β : Type} (f : α → β) (r : R α) (h : Lose r) : Lose (r.map f) := by
  cases r <;> simp_all [Lose, R.map]

theorem noAbort_map {α β : Type} (f : α → β) (r : R α) (h : NoAbort r) : NoAbort (r.map f) := by
  cases r <;> simp_all [NoAbort, R.map]

def orStep {α : Type} (best r : R α) : R α :=
  match best, r with
  | .ok _ rb, .ok a ra => if ra.length < rb.length then .ok a ra else best
  | .ok _ _, _ => best
  | _, r => r

def isAbort {α : Type} : R α → Bool
  | .abort => true
  | _ => false

/-- What `orLongest` selects from the results of its alternatives. -/
def pick {α : Type} (rs : List (R α)) : R α :=
  if rs.any isAbort then .abort else rs.foldl orStep .fail

theorem orLongest_pickOf {α : Type} (ps : List (Inp → R α)) (i : Inp) :
    orLongest ps i = pick (ps.map (fun p => p i)) := rfl

def notFail {α : Type} : R α → Bool
  | .fail => false
  | _ => true

theorem orStep_fail {α : Type} (b : R α) (hb : isAbort b = false) : orStep b .fail = b := by
  cases b with
  | fail => rfl
  | abort => cases hb
  | ok a r => rfl

theorem foldl_orStep_filter {α : Type} (rs : List (R α)) (b : R α) (hb : isAbort b = false)
    (hrs : rs.any isAbort = false) : rs.foldl orStep b = (rs.filter notFail).foldl orStep b := by
  induction rs generalizing b with
  | nil => rfl
  | cons r rs ih =>
    simp only [List.any_cons, Bool.or_eq_false_iff] at hrs
    cases r with
    | fail => simp only [List.foldl_cons, orStep_fail b hb, List.filter_cons, notFail]; exact ih b hb hrs.2
    | abort => cases hrs.1
    | ok a x =>
      simp only [List.foldl_cons, List.filter_cons, notFail, if_true]
      refine ih _ ?_ hrs.2
      cases b with
      | fail => rfl
      | abort => cases hb
      | ok a' y => simp only [orStep]; split <;> rfl

theorem pick_filter {α : Type} (rs : List (R α)) : pick rs = pick (rs.filter notFail) := by
  have hany : (rs.filter notFail).any isAbort = rs.any isAbort := by
    induction rs with
    | nil => rfl
    | cons r rs ih => cases r <;> simp [List.filter_cons, notFail, isAbort, ih]
  unfold pick
  rw [hany]
  cases h : rs.any isAbort with
  | true => rfl
  | false => simp only [Bool.false_eq_true, if_false]; exact foldl_orStep_filter rs .fail rfl h

end ArchSim.Lemmas.C14

namespace ArchSim.Lemmas.C04Spell
open ArchSim ArchSim.PP ArchSim.Rv ArchSim.Asm ArchSim.Lemmas.C14

def upList : List Char := "ABCDEFGHIJKLMNOPQRSTUVWXYZ".toList
def letterList : List Char := lowList ++ upList

theorem isUp_mem (c : Char) (h1 : 'A' ≤ c) (h2 : c ≤ 'Z') : c ∈ upList :=
  forall_char_range (P := (· ∈ upList)) 'A' 'Z' (by decide +kernel) c (by simp [h1, h2])

/-- `w'` is a case variant of the lower-case word `w` -/
def CaseVar (w' w : List Char) : Prop := w'.map toLowerAscii = w ∧ ∀ c ∈ w, isLow c = true

theorem letter_of_lower (c' : Char) (h : isLow (toLowerAscii c') = true) : c' ∈ letterList := by
  unfold toLowerAscii at h
  split at h
  · next hu =>
    simp only [Bool.and_eq_true, decide_eq_true_eq] at hu
    exact List.mem_append_right _ (isUp_mem c' hu.1 hu.2)
  · exact List.mem_append_left _ (isLow_mem c' h)

/-- what the proofs use of an ASCII letter -/
structure Letter (c : Char) : Prop where
  ascii : c.toNat < 128
  notWs : isWs c = false
  lowers : lowersTo [c] = true
  upper : upperAscii c = upperAscii (toLowerAscii c)
  notDot : c ≠ '.'
  labelInit : isLabelInit c = true
  labelBody : isLabelBody c = true

theorem letter_table : ∀ c ∈ letterList,
    c.toNat < 128 ∧ isWs c = false ∧ lowersTo [c] = true ∧
    upperAscii c = upperAscii (toLowerAscii c) ∧ c ≠ '.' ∧ isLabelInit c = true ∧ isLabelBody c = true := by
  decide +kernel

theorem letter_facts (c : Char) (h : c ∈ letterList) : Letter c :=
  let ⟨h1, h2, h3, h4, h5, h6, h7⟩ := letter_table c h
  ⟨h1, h2, h3, h4, h5, h6, h7⟩

theorem low_fixed : ∀ c ∈ lowList, toLowerAscii c = c ∧ c.toNat < 128 := by decide +kernel

theorem reCharMatch_ascii (p c : Char) (h : c.toNat < 128) :
    reCharMatch p c = decide (toLowerAscii c = toLowerAscii p) := by
  have h1 : (c.toNat = 0x17F) = False := by simp; omega
  have h2 : (c.toNat = 0x212A) = False := by simp; omega
  have h3 : (c.toNat = 0x130) = False := by simp; omega
  have h4 : (c.toNat = 0x131) = False := by simp; omega
  simp only [reCharMatch, h, h1, h2, h3, h4, decide_true, Bool.true_and, decide_false, Bool.and_false,
    Bool.or_false]

theorem CaseVar.of_nil {w : List Char} (h : CaseVar [] w) : w = [] := by
  simpa using h.1.symm

theorem CaseVar.eq_nil {w' : List Char} (h : CaseVar w' []) : w' = [] :=
  List.map_eq_nil_iff.mp h.1

theorem CaseVar.cons {c' : Char} {cs' w : List Char} (h : CaseVar (c' :: cs') w) :
    ∃ c cs, w = c :: cs ∧ toLowerAscii c' = c ∧ c ∈ lowList ∧ c' ∈ letterList ∧ CaseVar cs' cs := by
  obtain ⟨h1, h2⟩ := h
  simp only [List.map_cons] at h1
  subst h1
  have hc := h2 (toLowerAscii c') (by simp)
  exact ⟨_, _, rfl, rfl, isLow_mem _ hc, letter_of_lower c' hc, rfl, fun x hx => h2 x (by simp [hx])⟩

theorem CaseVar.length {w' w : List Char} (h : CaseVar w' w) : w'.length = w.length := by
  rw [← h.1]; simp

theorem CaseVar.refl {w : List Char} (h : ∀ c ∈ w, isLow c = true) : CaseVar w w := by
  refine ⟨?_, h⟩
  induction w with
  | nil => rfl
  | cons c cs ih =>
    simp only [List.map_cons, (low_fixed c (isLow_mem c (h c (by simp)))).1,
      ih (fun x hx => h x (by simp [hx]))]

theorem CaseVar.letters {w' w : List Char} (h : CaseVar w' w) : ∀ c ∈ w', c ∈ letterList := by
  intro c hc
  apply letter_of_lower
  apply h.2
  rw [← h.1]
  exact List.mem_map_of_mem hc

theorem CaseVar.lowers_ok {w' w : List Char} (h : CaseVar w' w) : PP.lowersTo w' = true := by
  simp only [PP.lowersTo, List.all_eq_true]
  intro c hc
  have := (letter_facts c (h.letters c hc)).lowers
  simpa [PP.lowersTo] using this

theorem CaseVar.upper {w' w : List Char} (h : CaseVar w' w) : w'.map upperAscii = w.map upperAscii := by
  rw [← h.1, List.map_map]
  apply List.map_congr_left
  intro c hc
  exact (letter_facts c (h.letters c hc)).upper

theorem CaseVar.drop {w' w : List Char} (h : CaseVar w' w) (n : Nat) : CaseVar (w'.drop n) (w.drop n) := by
  refine ⟨?_, fun c hc => h.2 c (List.mem_of_mem_drop hc)⟩
  rw [← h.1, List.map_drop]

theorem CaseVar.take {w' w : List Char} (h : CaseVar w' w) (n : Nat) : CaseVar (w'.take n) (w.take n) := by
  refine ⟨?_, fun c hc => h.2 c (List.mem_of_mem_take hc)⟩
  rw [← h.1, List.map_take]

/-- What follows the word: nothing, or an ASCII character that is not a letter. -/
def MnSep (rest : Inp) : Prop := ∀ c ∈ rest.head?, c.toNat < 128 ∧ isAlpha c = false

theorem low_alpha : ∀ p ∈ lowList, isAlpha p = true ∧ ∀ u ∈ upperAscii p, isAlpha u = true := by
  decide +kernel

/-- A lower-case letter matches no ASCII non-letter, with `re.IGNORECASE` or after `str.upper()`: both
    maps send letters to letters and leave the rest of ASCII alone. -/
theorem sep_facts (e : Char) (h : e.toNat < 128 ∧ isAlpha e = false) (p : Char) (hp : p ∈ lowList) :
    reCharMatch p e = false ∧ upperAscii e ≠ upperAscii p := by
  obtain ⟨hpa, hpu⟩ := low_alpha p hp
  have hne : e ≠ p := by rintro rfl; rw [hpa] at h; exact absurd h.2 (by decide)
  obtain ⟨hlo, hup⟩ : ('a' ≤ e && e ≤ 'z') = false ∧ ('A' ≤ e && e ≤ 'Z') = false := by
    simpa [isAlpha] using h.2
  constructor
  · rw [reCharMatch_ascii p e h.1, (low_fixed p hp).1]
    simp [toLowerAscii, hup, hne]
  · have he : upperAscii e = some e := by simp [upperAscii, hlo, h.1]
    intro hc
    have := hpu e (by rw [← hc]; exact he)
    rw [h.2] at this
    cases this

theorem reCharMatch_var (p c' c : Char) (hp : p ∈ lowList) (hc' : c' ∈ letterList) (hl : toLowerAscii c' = c) :
    reCharMatch p c' = (p == c) := by
  rw [reCharMatch_ascii p c' (letter_facts c' hc').ascii, hl, (low_fixed p hp).1]
  by_cases h : c = p
  · subst h; simp
  · have : p ≠ c := fun h' => h h'.symm
    simp [h, this]

theorem rePrefix_var (sym w' w rest : List Char) (hs : ∀ c ∈ sym, isLow c = true) (hv : CaseVar w' w)
    (hr : MnSep rest) :
    rePrefix sym (w' ++ rest) =
      if sym.isPrefixOf w then some (w'.take sym.length, w'.drop sym.length ++ rest) else none := by
  induction sym generalizing w' w with
  | nil => simp [rePrefix]
  | cons p ps ih =>
    have hpl := isLow_mem p (hs p (by simp))
    cases w' with
    | nil =>
      have hw := hv.of_nil
      subst hw
      cases rest with
      | nil => simp [rePrefix]
      | cons e r =>
        have := sep_facts e (hr e (by simp)) p hpl
        simp [rePrefix, this.1]
    | cons c' cs' =>
      obtain ⟨c, cs, rfl, hlc, hcl, hc'l, hv'⟩ := hv.cons
      have hm := reCharMatch_var p c' c hpl hc'l hlc
      simp only [List.cons_append, rePrefix, hm, List.isPrefixOf_cons_cons, List.length_cons,
        List.take_succ_cons, List.drop_succ_cons]
      rw [ih cs' cs (fun c hc => hs c (by simp [hc])) hv']
      by_cases hpc : p = c
      · subst hpc
        by_cases h2 : ps.isPrefixOf cs = true
        · simp [h2]
        · simp [h2]
      · simp [hpc]

theorem oneOfCaseless_go_var (l : List String) (w' w rest : List Char)
    (hl : LowSyms l) (hv : CaseVar w' w) (hr : MnSep rest) :
    oneOfCaseless.go (w' ++ rest) l =
      match l.find? (fun s => s.toList.isPrefixOf w) with
      | some s => .ok s (w'.drop s.toList.length ++ rest)
      | none => .fail := by
  induction l with
  | nil => simp [oneOfCaseless.go]
  | cons s l ih =>
    have hs := hl s (by simp)
    simp only [oneOfCaseless.go, rePrefix_var s.toList w' w rest hs hv hr, List.find?_cons]
    by_cases h : s.toList.isPrefixOf w = true
    · simp [h, (hv.take s.toList.length).lowers_ok]
    · simp only [h]
      simpa using ih (fun t ht => hl t (by simp [ht]))

theorem skipWs_var (w' w rest : List Char) (hv : CaseVar w' w) (hne : w ≠ []) :
    skipWs (w' ++ rest) = w' ++ rest := by
  cases w' with
  | nil => exact absurd hv.of_nil hne
  | cons c cs => exact skipWs_cons_of_not_ws c _ (letter_facts c (hv.letters c (by simp))).notWs

theorem oneOfCaseless_var (syms : List String) (w' w rest : List Char) (hl : LowSyms syms)
    (hv : CaseVar w' w) (hne : w ≠ []) (hr : MnSep rest) :
    oneOfCaseless syms (w' ++ rest) =
      match (longestFirst syms).find? (fun s => s.toList.isPrefixOf w) with
      | some s => .ok s (w'.drop s.toList.length ++ rest)
      | none => .fail := by
  unfold oneOfCaseless
  simp only [skipWs_var w' w rest hv hne]
  exact oneOfCaseless_go_var _ w' w rest (fun s hs => hl s (mem_longestFirst.mp hs)) hv hr

theorem caseless_aux_var (k w' w rest : List Char) (hk : ∀ c ∈ k, isLow c = true) (hv : CaseVar w' w)
    (hr : MnSep rest) :
    (((w' ++ rest).take k.length).length = k.length ∧
      ((w' ++ rest).take k.length).map upperAscii = k.map (fun c => upperAscii c)) ↔
    k.isPrefixOf w = true := by
  induction k generalizing w' w with
  | nil => simp
  | cons a k ih =>
    have hal := isLow_mem a (hk a (by simp))
    cases w' with
    | nil =>
      have hw := hv.of_nil
      subst hw
      cases rest with
      | nil => simp
      | cons e r =>
        have := (sep_facts e (hr e (by simp)) a hal).2
        simp only [List.nil_append, List.length_cons, List.take_succ_cons, List.map_cons, List.cons.injEq]
        constructor
        · rintro ⟨_, h, _⟩; exact absurd h this
        · intro h; simp [List.isPrefixOf] at h
    | cons c' cs' =>
      obtain ⟨c, cs, rfl, hlc, hcl, hc'l, hv'⟩ := hv.cons
      have hup : upperAscii c' = upperAscii c := by rw [← hlc]; exact (letter_facts c' hc'l).upper
      have hm : upperAscii c = upperAscii a ↔ a = c :=
        ⟨low_upper_inj a hal c hcl, fun h => by rw [h]⟩
      have ih' := ih cs' cs (fun c hc => hk c (by simp [hc])) hv'
      simp only [List.cons_append, List.length_cons, List.take_succ_cons, List.map_cons,
        List.cons.injEq, List.isPrefixOf_cons_cons, Bool.and_eq_true, beq_iff_eq, Nat.add_right_cancel_iff]
      rw [hup, hm, ← ih']
      exact and_left_comm

theorem caselessLit_var (kw : String) (w' w rest : List Char) (hk : ∀ c ∈ kw.toList, isLow c = true)
    (hv : CaseVar w' w) (hne : w ≠ []) (hr : MnSep rest) :
    caselessLit kw (w' ++ rest) =
      if kw.toList.isPrefixOf w then .ok () (w'.drop kw.toList.length ++ rest) else .fail := by
  unfold caselessLit
  simp only [skipWs_var w' w rest hv hne]
  have h := caseless_aux_var kw.toList w' w rest hk hv hr
  by_cases hpre : kw.toList.isPrefixOf w = true
  · rw [if_pos (h.mpr hpre), if_pos hpre]
    congr 1
    have hle : kw.toList.length ≤ w'.length := by
      have := (List.isPrefixOf_iff_prefix.mp hpre).length_le
      rw [hv.length]; exact this
    rw [List.drop_append_of_le_length hle]
  · rw [if_neg (fun hc => hpre (h.mp hc)), if_neg hpre]

end ArchSim.Lemmas.C04Spell
