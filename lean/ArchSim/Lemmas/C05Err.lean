/-
The errors of the data pass. A failed write reports a memory address, and on the RISC-V data memory an address below
the data range (`0 ≤ x < 16384`); the later writes of a run find the configuration of the first because direct writes
keep it (`DirectReach.cfg_eq`). Conversely, a data pass that reports no error was given declarations with distinct
names.
-/
import ArchSim.Lemmas.C05Read
import ArchSim.Lemmas.C13Load

namespace ArchSim.Lemmas.C05
open ArchSim ArchSim.Asm ArchSim.Rv

theorem riscv_out_of_range {a x : Int} (h1 : x = Mem.wrapAddr Mem.riscvCfg a)
    (h2 : Mem.inRange Mem.riscvCfg x = false) : 0 ≤ x ∧ x < 16384 := by
  simp [Mem.wrapAddr, Mem.riscvCfg] at h1
  have := Int.emod_nonneg a (b := 4294967296) (by decide)
  have := Int.emod_lt_of_pos a (b := 4294967296) (by decide)
  by_cases hx : (16384 : Int) ≤ x
  · exfalso
    have hy : x < 4294967296 := by omega
    simp [Mem.inRange, Mem.riscvCfg, hx, hy] at h2
  · omega

theorem writeNFrom_err {m : Mem.Mem} {a : Int} {n i v : Nat} {e : Mem.AddrErr}
    (h : (Mem.writeNFrom m a n i v).2 = some e) :
    ∃ j, e.address = Mem.wrapAddr m.cfg (a + j) ∧ Mem.inRange m.cfg e.address = false := by
  obtain ⟨j, hj, -, -, hbad⟩ :=
    ArchSim.Lemmas.C18.takeWhile_range_spec (fun j => Spec.ByteStore.cellOk m.cfg a (i + j)) n
  rw [ArchSim.Lemmas.C18.writeNFrom_eq, hj, List.length_range] at h
  by_cases hlt : j < n
  · rw [if_pos hlt] at h
    cases h
    exact ⟨(i + j : Nat), rfl, hbad hlt⟩
  · rw [if_neg hlt] at h
    cases h

theorem write_direct_err {ms : MemSys} (hcfg : ms.backing.cfg = Mem.riscvCfg) {bits : Nat} (hb : 8 ≤ bits)
    {a : Int} {v : Nat} {e : Cache.Err} (h : (ms.write bits a v true).res = .error e) :
    ∃ x, e = .addr x ∧ 0 ≤ x ∧ x < 16384 := by
  have hc : ¬ ms.backing.cfg.cellBits > bits := by rw [hcfg]; show ¬ 8 > bits; omega
  rw [write_direct_eq, Mem.write, if_neg hc] at h
  generalize hw : Mem.writeN ms.backing a _ v = w at h
  obtain ⟨m', _ | e'⟩ := w
  · cases h
  · cases h
    obtain ⟨j, h1, h2⟩ := writeNFrom_err (congrArg Prod.snd hw)
    rw [hcfg] at h1 h2
    exact ⟨_, rfl, riscv_out_of_range h1 h2⟩

theorem writeSeq_err {bits : Nat} {vs : List Int} {m : MemSys} {a : Int} {m' a' e}
    (h : writeSeq bits vs m a = (m', a', some e)) :
    ∃ x, e = .memAddr x ∧ (8 ≤ bits → m.backing.cfg = Mem.riscvCfg → 0 ≤ x ∧ x < 16384) := by
  induction vs generalizing m a with
  | nil => simp [writeSeq] at h
  | cons v vs ih =>
    unfold writeSeq at h
    simp only at h
    split at h
    · next x hx =>
      cases h
      refine ⟨_, rfl, fun hb hc => ?_⟩
      obtain ⟨x', hx', hr⟩ := write_direct_err hc hb hx
      cases hx'
      exact hr
    · next e' hne he' =>
      -- any other error of the write would be reported with the unwrapped address; there is none
      cases h
      refine ⟨_, rfl, fun hb hc => ?_⟩
      obtain ⟨x', hx', -⟩ := write_direct_err hc hb he'
      exact absurd hx' (hne x')
    · obtain ⟨x, rfl, hr⟩ := ih h
      exact ⟨x, rfl, fun hb hc => hr hb (((DirectReach.refl m).step bits a _).cfg_eq.trans hc)⟩

theorem declWrite_err {it : Item} {m m' : MemSys} {a a' : Int} {e : AsmErr}
    (h : declWrite it m a = (m', a', some e)) :
    ∃ x, e = .memAddr x ∧ (m.backing.cfg = Mem.riscvCfg → 0 ≤ x ∧ x < 16384) := by
  rcases declWrite_cases it m a with ⟨bits, vs, hb, hs⟩ | ⟨c, hs⟩ <;> rw [hs] at h
  · obtain ⟨x, rfl, hr⟩ := writeSeq_err h
    exact ⟨x, rfl, hr hb⟩
  · cases h

theorem writeData_no_error (es : List Entry) (o : DataOut) (hv : (o.vars.map (·.1)).Nodup)
    (h : (writeData es o).err = none) :
    (∀ e ∈ es, e.2.2.lbl = none ∧ isDeclKind e.2.2.item = true) ∧
      (o.vars.map (·.1) ++ (itemsOf es).map declName).Nodup := by
  induction es generalizing o with
  | nil => exact ⟨by simp, by simpa [itemsOf] using hv⟩
  | cons e rest ih =>
    obtain ⟨k, line, t⟩ := e
    by_cases hbad : t.lbl.isSome = true ∨ isDeclKind t.item = false
    · rw [writeData_cons_bad k line t rest o hbad] at h; cases h
    · obtain ⟨h1, h2⟩ := not_or.mp hbad
      have hl : t.lbl = none := Option.not_isSome_iff_eq_none.mp h1
      have hk : isDeclKind t.item = true := by simpa using h2
      cases hf : lookupVar o.vars (declName t.item) with
      | some r =>
        rw [writeData_cons_dup k line t rest o hl hk (by rw [hf]; rfl)] at h; cases h
      | none =>
        rw [writeData_cons_kind k line t rest o hl hk hf] at h
        generalize declWrite t.item o.mem (align4 o.ctr) = r at h
        obtain ⟨m, a', e⟩ := r
        cases e with
        | some x => cases h
        | none =>
          simp only at h
          -- the new name is not in the table, so the table stays duplicate-free; the rest is associativity
          have hv' : ((o.vars ++ [(declName t.item, align4 o.ctr, declSize t.item)]).map (·.1)).Nodup := by
            rw [List.map_append]
            refine List.nodup_append.2 ⟨hv, List.nodup_cons.2 ⟨List.not_mem_nil, .nil⟩, fun a ha b hb e => ?_⟩
            cases List.mem_singleton.1 hb
            subst e
            exact (lookupVar_none_iff _ _).1 hf ha
          obtain ⟨ih1, ih2⟩ := ih _ hv' h
          refine ⟨List.forall_mem_cons.2 ⟨⟨hl, hk⟩, ih1⟩, ?_⟩
          simpa [declared, itemsOf, List.append_assoc] using ih2

/-- All `.zero` counts are non-negative. The grammar reads the count as a digit string, but no lemma here derives
    this from `parseLine`; it stays the hypothesis `hz` of `Props.C05.layout_of_no_error`. -/
def zerosNonneg (es : List Entry) : Prop := ∀ e ∈ es, ∀ n c, e.2.2.item = .zeroDecl n c → 0 ≤ c

end ArchSim.Lemmas.C05
