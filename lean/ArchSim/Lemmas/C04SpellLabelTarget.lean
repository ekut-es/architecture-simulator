/-
Branch and jump lines whose target is a label, or a label plus a hexadecimal offset (`OffSp`), in any spelling of the
rest of the line.
-/
import ArchSim.Lemmas.C04SpellPseudo

namespace ArchSim.Lemmas.C04Spell
open ArchSim ArchSim.PP ArchSim.Rv ArchSim.Asm ArchSim.Lemmas.C14

/-- the text of an optional offset: nothing, or `+ 0x<hex digits>` with blanks around the `+` -/
inductive OffSp where
  | none
  | some (wa wb ds : List Char)

def offTxt : OffSp → List Char
  | .none => []
  | .some wa wb ds => wa ++ '+' :: (wb ++ '0' :: 'x' :: ds)

def offVal : OffSp → Int
  | .none => 0
  | .some _ _ ds => (digitsVal 16 ds : Nat)

def OffOk : OffSp → Prop
  | .none => True
  | .some wa wb ds => AllWs wa ∧ AllWs wb ∧ (∀ c ∈ ds, isHexNum c = true) ∧ ds ≠ []

theorem tokEnd_offTxt (o : OffSp) (ho : OffOk o) (tr : List Char) (htr : AllWs tr) : TokEnd (offTxt o ++ tr) := by
  cases o with
  | none => exact tokEnd_allWs tr htr
  | some wa wb ds =>
    simp only [offTxt, List.append_assoc, List.cons_append]
    exact tokEnd_ws_append wa _ ho.1 (tokEnd_cons '+' _ (by decide))

theorem pOffset_offTxt (o : OffSp) (ho : OffOk o) (tr : List Char) (htr : AllWs tr) :
    pOffset (offTxt o ++ tr) = .ok (offVal o) tr := by
  cases o with
  | none =>
    have : lit "+" tr = .fail := by simp [lit, skipWs_allWs tr htr, stripPrefix]
    simp only [offTxt, List.nil_append, pOffset, this, bind_fail, offVal]
  | some wa wb ds =>
    obtain ⟨ha, hb, hds, hne⟩ := ho
    have hend : HexEnd tr := (tokEnd_allWs tr htr).hexEnd
    have e : offTxt (.some wa wb ds) ++ tr = tSep wa '+' (wb ++ '0' :: 'x' :: (ds ++ tr)) := by
      simp [offTxt, tSep, List.append_assoc]
    have hplus := lit_tSep "+" '+' rfl (by decide) wa (wb ++ '0' :: 'x' :: (ds ++ tr)) ha
    have hval := natOfDigits_valid 16 ds (validDigits_hex _ hds)
    have hsk : skipWs (wb ++ '0' :: 'x' :: (ds ++ tr)) = '0' :: 'x' :: (ds ++ tr) := by
      rw [skipWs_append wb _ hb]; exact skipWs_cons_of_not_ws '0' _ (by decide)
    have hin : (lit "+" (tSep wa '+' (wb ++ '0' :: 'x' :: (ds ++ tr)))).bind (fun _ r =>
        let r := skipWs r
        (litAdj "0x" r).bind fun _ r2 => wordAdj isHexNum isHexNum r2) = .ok (String.ofList ds) tr := by
      rw [hplus]
      simp only [bind_ok, hsk, hexWord ds tr hne hds hend]
    rw [e]
    simp only [pOffset, hin, String.toList_ofList, hval, Option.getD_some, offVal]

section
variable (g w1 w2 w3 w4 tr : List Char) (hg : AllWs g) (hgne : g ≠ []) (h1 : AllWs w1) (h2 : AllWs w2)
  (h3 : AllWs w3) (h4 : AllWs w4) (htr : AllWs tr)

include hg hgne h1 h2 h3 h4 htr in
theorem bodyS_BL (op : Op) (h : cls op = .b) (a b : Nat) (ha : a < 32) (hb : b < 32) (s1 s2 : RegStyle)
    (lab : List Char) (hl : IsLabel lab) (o : OffSp) (ho : OffOk o) :
    pInstrBody (mn op ++ tReg g s1 a (tSep w1 ',' (tReg w2 s2 b (tSep w3 ',' (tLab w4 lab (offTxt o ++ tr))))))
      = .ok (.grp (.btypeLabel op.mnemonic a b (String.ofList lab) (offVal o))) tr := by
  have hB : tailB op.mnemonic (tReg g s1 a (tSep w1 ',' (tReg w2 s2 b (tSep w3 ',' (tLab w4 lab (offTxt o ++ tr))))))
      = .ok (.grp (.btypeLabel op.mnemonic a b (String.ofList lab) (offVal o))) tr := by
    simp only [tailB, bind_ok, pReg_tReg g s1 a _ hg ha (tokEnd_tSep w1 ',' _ h1 comma_nlb), pComma_tSep w1 _ h1,
      pReg_tReg w2 s2 b _ h2 hb (tokEnd_tSep w3 ',' _ h3 comma_nlb), pComma_tSep w3 _ h3,
      pLabel_tLab w4 lab _ h4 hl (tokEnd_offTxt o ho tr htr), pOffset_offTxt o ho tr htr, map_ok]
  -- `mn r, r, imm` shares the mnemonic but finds a label where it wants a number
  have hI : tailRRI op.mnemonic (tReg g s1 a (tSep w1 ',' (tReg w2 s2 b (tSep w3 ',' (tLab w4 lab (offTxt o ++ tr))))))
      = .fail := by
    simp only [tailRRI, bind_ok, pReg_tReg g s1 a _ hg ha (tokEnd_tSep w1 ',' _ h1 comma_nlb), pComma_tSep w1 _ h1,
      pReg_tReg w2 s2 b _ h2 hb (tokEnd_tSep w3 ',' _ h3 comma_nlb), pComma_tSep w3 _ h3,
      pImm_fail_tLab w4 lab _ h4 hl, map_fail]
  rw [pInstrBody_cls op _ (wordSep_tReg g s1 a _ hg hgne), h]
  simp [clsRows, Row.tail, pick, hB, hI, orStep, isAbort]

include hg hgne h1 h2 htr in
theorem bodyS_JL (a : Nat) (ha : a < 32) (s1 : RegStyle) (lab : List Char) (hl : IsLabel lab) (o : OffSp)
    (ho : OffOk o) :
    pInstrBody (mn .jal ++ tReg g s1 a (tSep w1 ',' (tLab w2 lab (offTxt o ++ tr))))
      = .ok (.grp (.jalLabel a (String.ofList lab) (offVal o))) tr := by
  -- of the two target forms of `jal` the label is read; a label is no number
  have hJ : ∀ m, tailJal m (tReg g s1 a (tSep w1 ',' (tLab w2 lab (offTxt o ++ tr))))
      = .ok (.grp (.jalLabel a (String.ofList lab) (offVal o))) tr := by
    intro m
    simp only [tailJal, bind_ok, pReg_tReg g s1 a _ hg ha (tokEnd_tSep w1 ',' _ h1 comma_nlb), pComma_tSep w1 _ h1]
    rw [orLongest_pickOf, pick]
    simp only [List.map_cons, List.map_nil, pImm_fail_tLab w2 lab _ h2 hl, map_fail,
      pLabel_tLab w2 lab _ h2 hl (tokEnd_offTxt o ho tr htr), bind_ok, pOffset_offTxt o ho tr htr, map_ok]
    rfl
  rw [pInstrBody_cls .jal _ (wordSep_tReg g s1 a _ hg hgne)]
  simp [cls, clsRows, Row.tail, pick, hJ, orStep, isAbort]

end

end ArchSim.Lemmas.C04Spell
