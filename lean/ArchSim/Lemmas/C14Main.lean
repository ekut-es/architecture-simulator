/-
The canonical-instruction predicate `Instr.Canon`, the relation `ItemBuilds` between a token item and the instruction
the assembler back end builds from it, and the string constants of the printer as character lists.
-/
import ArchSim.Lemmas.C04Build
import ArchSim.Lemmas.RvBits

namespace ArchSim.Rv
open ArchSim

/-- An instruction object as the constructors leave it (what `Asm.instantiate`/`mkInstr` produce for
    numeric operands), placed at address `addr`: register numbers below 32, the stored immediate in
    the range of its format, unused fields zero. For `jal`, `aux` is the absolute target (even, at
    most 4300 decimal digits) and `imm` the sign-extended displacement `aux - addr`; for the CSR
    forms `aux` is the (non-negative) csr number. -/
def Instr.Canon (addr : Int) (i : Instr) : Prop :=
  i.rd < 32 ∧ i.rs1 < 32 ∧ i.rs2 < 32 ∧
  (match i.op.ty with
   | .r => i.imm = 0 ∧ i.aux = 0
   | .i => i.rs2 = 0 ∧ i.aux = 0 ∧
       (if i.op = .ecall then i.rd = 0 ∧ i.rs1 = 0 ∧ i.imm = 0
        else if i.op = .ebreak then i.rd = 0 ∧ i.rs1 = 0 ∧ i.imm = 1
        else -2048 ≤ i.imm ∧ i.imm ≤ 2047)
   | .memI => i.rs2 = 0 ∧ i.aux = 0 ∧ -2048 ≤ i.imm ∧ i.imm ≤ 2047
   | .shiftI => i.rs2 = 0 ∧ i.aux = 0 ∧ 0 ≤ i.imm ∧ i.imm ≤ 31
   | .s => i.rd = 0 ∧ i.aux = 0 ∧ -2048 ≤ i.imm ∧ i.imm ≤ 2047
   | .b => i.rd = 0 ∧ i.aux = 0 ∧ i.imm % 2 = 0 ∧ -4096 ≤ i.imm ∧ i.imm ≤ 4094
   | .u => i.rs1 = 0 ∧ i.rs2 = 0 ∧ i.aux = 0 ∧ -524288 ≤ i.imm ∧ i.imm ≤ 524287
   | .j => i.rs1 = 0 ∧ i.rs2 = 0 ∧ i.aux % 2 = 0 ∧ i.imm = sextImm 21 (i.aux - addr) ∧
       i.aux.natAbs < 10 ^ 4300
   | .fence => i.rd = 0 ∧ i.rs1 = 0 ∧ i.rs2 = 0 ∧ i.imm = 0 ∧ i.aux = 0
   | .csr => i.rs2 = 0 ∧ i.imm = 0 ∧ 0 ≤ i.aux
   | .csri => i.rs1 = 0 ∧ i.rs2 = 0 ∧ 0 ≤ i.imm ∧ i.imm ≤ 31 ∧ 0 ≤ i.aux)

end ArchSim.Rv

namespace ArchSim.Lemmas.C14
open ArchSim ArchSim.PP ArchSim.Rv ArchSim.Asm

/-- the immediate of a canonical instruction fits the widest format (21 bits) -/
theorem canon_imm_bound (i : Instr) (addr : Int) (hc : i.Canon addr) : -1048576 ≤ i.imm ∧ i.imm < 1048576 := by
  obtain ⟨-, -, -, hcan⟩ := hc
  have := sextImm_range 21 (i.aux - addr)
  cases hty : i.op.ty <;> simp only [hty] at hcan
  case i =>
    obtain ⟨-, -, hcan⟩ := hcan
    split at hcan
    · omega
    · split at hcan <;> omega
  all_goals omega

theorem canon_csr_nonneg (i : Instr) (addr : Int) (hc : i.Canon addr) :
    i.op.ty = .csr ∨ i.op.ty = .csri → 0 ≤ i.aux := by
  obtain ⟨-, -, -, hcan⟩ := hc
  rintro (hty | hty)
  · simp only [hty] at hcan; obtain ⟨-, -, h⟩ := hcan; exact h
  · simp only [hty] at hcan; obtain ⟨-, -, -, -, h⟩ := hcan; exact h

theorem toString_string (s : String) : toString s = s := rfl

theorem sp_toList : (" " : String).toList = [' '] := rfl
theorem cs_toList : (", " : String).toList = [',', ' '] := rfl
theorem lp_toList : ("(" : String).toList = ['('] := rfl
theorem rp_toList : (")" : String).toList = [')'] := rfl
theorem x_toList : ("x" : String).toList = ['x'] := rfl
theorem zx_toList : (", 0x" : String).toList = [',', ' ', '0', 'x'] := rfl

theorem toList_ite (c : Prop) [Decidable c] (a b : String) :
    (if c then a else b).toList = if c then a.toList else b.toList := by
  split <;> rfl

/-- Python's limit of 4300 decimal digits is far away: `2 ^ 64` is an arbitrary round bound (20 digits) that covers every
    immediate the instruction formats hold and every number of the examples. -/
theorem small_natAbs (v : Int) (h1 : -(2 : Int) ^ 64 ≤ v) (h2 : v ≤ (2 : Int) ^ 64) : v.natAbs < 10 ^ 4300 := by
  have h3 : (2 : Nat) ^ 64 < 10 ^ 20 := by decide
  have h4 : (10 : Nat) ^ 20 ≤ 10 ^ 4300 :=
    Nat.pow_le_pow_right (n := 10) (i := 20) (j := 4300) (Nat.zero_lt_succ 9) (by omega)
  have h5 : v.natAbs ≤ 2 ^ 64 := by
    have : ((2 : Nat) ^ 64 : Nat) = ((2 : Int) ^ 64) := by norm_cast
    omega
  exact Nat.lt_of_lt_of_le (Nat.lt_of_le_of_lt h5 h3) h4

/-- The item `it` builds the instruction `i` at `addr`: the bare word `ecall`/`ebreak` and the object `buildInstrs` makes
    of it, or a grouped tree that `instantiate` maps to `i` whatever the labels, line number and line text. The clauses
    about `i.op` make the three cases exclusive (the shape of the statements of Props/C14). -/
def ItemBuilds (addr : Int) (it : Item) (i : Instr) : Prop :=
  (i.op = .ecall ∧ it = .str "ecall" ∧ i = { op := .ecall }) ∨
  (i.op = .ebreak ∧ it = .str "ebreak" ∧ i = { op := .ebreak, imm := 1 }) ∨
  (i.op ≠ .ecall ∧ i.op ≠ .ebreak ∧ ∃ pi, it = .grp pi ∧
    ∀ (ls : Labels) (k : Nat) (line : String), instantiate ls addr k line pi = .ok i)

theorem instr_ext (i j : Instr) (h1 : i.op = j.op) (h2 : i.rd = j.rd) (h3 : i.rs1 = j.rs1)
    (h4 : i.rs2 = j.rs2) (h5 : i.imm = j.imm) (h6 : i.aux = j.aux) : i = j := by
  cases i; cases j; simp_all

theorem mkInstr_eq (i : Instr) {a b c : Nat} {v aux : Int} (h1 : i.rd = a) (h2 : i.rs1 = b) (h3 : i.rs2 = c)
    (h4 : storedImm i.op v = i.imm) (h5 : i.aux = aux) : mkInstr i.op a b c v aux = i := by
  subst h1 h2 h3 h5
  exact instr_ext _ _ rfl rfl rfl rfl h4 rfl

end ArchSim.Lemmas.C14
