/-
What a row of the displayed tables is made of: the hex text `upHex w n` reads back as `n` in exactly `w` upper-case
digits; the four strings of the formatter show the `n`-bit pattern of the number (`nBitRepr_shows` bundles the
per-string theorems of `Props/C17.lean` into `Spec.Shown.Shows`); each table is a map over its sorted entry list.
-/
import ArchSim.Spec.Shown
import ArchSim.Lemmas.C17ViewsData
import ArchSim.Props.C17

namespace ArchSim.Lemmas.C17Views
open ArchSim ArchSim.Mem ArchSim.Views ArchSim.Fmt ArchSim.Toy
open ArchSim.Spec.Digits ArchSim.Spec.Shown ArchSim.Lemmas.C17 ArchSim.Props.C17

theorem upHex_toList (w n : Nat) : (upHex w n).toList = padLeft w (natStr 16 n) := by
  simp [upHex]

theorem upHex_spec (w n : Nat) :
    ofDigits 16 (upHex w n).toList = some n ∧
    (∀ c ∈ (upHex w n).toList, isUpperHexDigit c) ∧
    (1 ≤ w → n < 16 ^ w → (upHex w n).toList.length = w) := by
  rw [upHex_toList]
  refine ⟨?_, padded_natStr_upperHex 16 (by decide) (by decide) w n, fun hw hn => ?_⟩
  · rw [ofDigits_padLeft 16 (by decide) w _ (natStr_ne_nil 16 n),
      ofDigits_natStr 16 (by decide) (by decide) n]
  · exact (padded_natStr 16 (by decide) (by decide) w n hw hn).2

theorem nBitRepr_shows (n : Nat) (hn : 1 ≤ n) (x : Int) :
    Shows n (nBitRepr x n) (unsignedVal n x) where
  lt := unsignedVal_lt n x
  bin_val := (bin_denotes n hn x).1
  bin_len := (bin_denotes n hn x).2
  bin_groups := (bin_grouping n x).2
  udec_val := (udec_denotes n x).1
  udec_canon := (udec_denotes n x).2
  hex_val := (hex_denotes n hn x).1
  hex_len := (hex_denotes n hn x).2.1
  hex_upper := (hex_denotes n hn x).2.2
  hex_groups := (hex_grouping n x).2
  sdec_val := (sdec_denotes n x).1

theorem unsignedVal_natCast (n w : Nat) : unsignedVal n (w : Int) = w % 2 ^ n := by
  unfold unsignedVal; norm_cast

theorem nBitRepr_shows_nat (n : Nat) (hn : 1 ≤ n) (w : Nat) :
    Shows n (nBitRepr (w : Int) n) (w % 2 ^ n) := by
  rw [← unsignedVal_natCast]; exact nBitRepr_shows n hn _

theorem nBitRepr_shows_lt (n : Nat) (hn : 1 ≤ n) (w : Nat) (hw : w < 2 ^ n) :
    Shows n (nBitRepr (w : Int) n) w := by
  have := nBitRepr_shows_nat n hn w
  rwa [Nat.mod_eq_of_lt hw] at this

theorem addrText_shows (w : Nat) (hw : 1 ≤ w) (a : Int) :
    ShowsAddr w (addrText w a) a.toNat := by
  obtain ⟨h1, h2, h3⟩ := upHex_spec w a.toNat
  rw [upHex_toList] at h1 h2 h3
  exact ⟨_, by simp [addrText, upHex_toList], h1, h2, h3 hw⟩

theorem addrText_digits (w : Nat) (hw : 1 ≤ w) (a : Int) (h0 : 0 ≤ a) (hlt : a.toNat < 16 ^ w) :
    ∃ ds, (addrText w a).toList = '0' :: 'x' :: ds ∧ ds.length = w ∧
      (∀ c ∈ ds, isUpperHexDigit c) ∧ (ofDigits 16 ds).map Int.ofNat = some a := by
  obtain ⟨ds, hds, hval, hup, hlen⟩ := addrText_shows w hw a
  refine ⟨ds, hds, hlen hlt, hup, ?_⟩
  rw [hval, Option.map_some, Option.some.injEq]
  exact Int.toNat_of_nonneg h0

theorem toyDecode_bounds (w : Nat) : (decode w).opcode ≤ 12 ∧ (decode w).addr < 4096 := by
  simp only [decode]
  constructor
  · split <;> omega
  · omega

theorem mnemonic_length (op : Nat) : 2 ≤ (mnemonic op).length := by
  unfold mnemonic; split <;> decide +kernel

/-- Shape of `str(instruction)`: the mnemonic, followed by `" 0x"` and three hex digits of the address
section exactly for the opcodes 0–7 (the instructions with an operand). -/
theorem toyInstrRepr_eq (w : Nat) :
    toyInstrRepr w =
      if (decode w).opcode ≤ 7 then mnemonic (decode w).opcode ++ " 0x" ++ upHex 3 (decode w).addr
      else mnemonic (decode w).opcode := rfl

theorem toyInstrRepr_length (w : Nat) : 2 ≤ (toyInstrRepr w).length := by
  rw [toyInstrRepr_eq]
  have := mnemonic_length (decode w).opcode
  split
  · simp only [String.length_append]; omega
  · exact this

theorem toyInstrRepr_ne_dash (w : Nat) : toyInstrRepr w ≠ "-" := by
  intro h
  have := toyInstrRepr_length w
  rw [h] at this
  revert this; decide

theorem cycleText_ne_empty (t : TSim) : cycleText t ≠ "" := by
  unfold cycleText; split <;> decide

theorem isCurrent_iff (t : TSim) (a : Int) :
    isCurrent t a = true ↔ 0 ≤ a ∧ t.s.addrCur = some a.toNat := by
  simp only [isCurrent, decide_eq_true_eq, and_comm]

theorem isInstrAddr_iff (t : TSim) (a : Int) :
    isInstrAddr t a = true ↔ ∃ mp, t.s.maxPc = some mp ∧ a ≤ mp := by
  fun_cases isInstrAddr t a <;> simp [*]

theorem regTable_length (regs : Nat → Nat) : (regTable regs).length = 32 := by
  simp [regTable]

theorem regTable_getElem? (regs : Nat → Nat) (r : Nat) (hr : r < 32) :
    (regTable regs)[r]? = some (Fmt.nBitRepr (regs r) 32) := by
  simp [regTable, List.getElem?_map, List.getElem?_range hr]

theorem dataTable_ok {m : Mem} {rows : List DataRow} (h : dataTable m = .ok rows) :
    ∃ l, sortedEntries m 32 = .ok l ∧ rows = l.map dataRow := by
  revert h
  fun_cases dataTable m <;> intro h <;> cases h
  exact ⟨_, by assumption, rfl⟩

theorem dataTable_of_ok {m : Mem} {l : List (Int × Nat)} (h : sortedEntries m 32 = .ok l) :
    dataTable m = .ok (l.map dataRow) := by
  unfold dataTable; rw [h]

theorem dataTable_error_iff (m : Mem) (e : AddrErr) :
    dataTable m = .error e ↔ sortedEntries m 32 = .error e := by
  fun_cases dataTable m <;> simp [*]

theorem map_addr_dataRow (l : List (Int × Nat)) :
    (l.map dataRow).map (·.addr) = l.map Prod.fst := by
  simp [List.map_map, Function.comp_def, dataRow]

theorem toyMemTable_ok {t : TSim} {rows : List ToyRow} (h : toyMemTable t = .ok rows) :
    ∃ l, sortedEntries t.s.mem 16 = .ok l ∧ rows = l.map (toyRow t) := by
  revert h
  fun_cases toyMemTable t <;> intro h <;> cases h
  exact ⟨_, by assumption, rfl⟩

theorem toyMemTable_of_ok {t : TSim} {l : List (Int × Nat)}
    (h : sortedEntries t.s.mem 16 = .ok l) : toyMemTable t = .ok (l.map (toyRow t)) := by
  unfold toyMemTable; rw [h]

theorem toyMemTable_error_iff (t : TSim) (e : AddrErr) :
    toyMemTable t = .error e ↔ sortedEntries t.s.mem 16 = .error e := by
  fun_cases toyMemTable t <;> simp [*]

theorem map_addr_toyRow (t : TSim) (l : List (Int × Nat)) :
    (l.map (toyRow t)).map (·.addr) = l.map Prod.fst := by
  simp [List.map_map, Function.comp_def, toyRow]

end ArchSim.Lemmas.C17Views
