/-
The data pass `writeData` against its specification: `addrOf`, `layoutEnd`, `layoutVars` say where the declarations
go, `DeclAt` / `LaidOut` what the memory holds there. One entry of the pass is one equation (`writeData_cons_eq` over
`declWrite`); the pass realises the specification because every cell from the counter upward is still zero.
-/
import ArchSim.Lemmas.C05Write

namespace ArchSim.Lemmas.C05
open ArchSim ArchSim.Asm ArchSim.Rv ArchSim.Mem ArchSim.Lemmas.C18
open ArchSim.Spec.ByteStore (cellVal cellOk leSum)

/-! ### specification vocabulary -/

/-- element width in bits of a `.byte` / `.half` / `.word` declaration (the model's inline `if`) -/
def tyBits (ty : String) : Nat := if ty = "byte" then 8 else if ty = "half" then 16 else 32

theorem tyBits_byte : tyBits "byte" = 8 := by decide +kernel
theorem tyBits_half : tyBits "half" = 16 := by decide +kernel
theorem tyBits_word : tyBits "word" = 32 := by decide +kernel

theorem tyBits_cases (ty : String) : tyBits ty = 8 ∨ tyBits ty = 16 ∨ tyBits ty = 32 := by
  simp only [tyBits]; split
  · exact Or.inl rfl
  · split
    · exact Or.inr (Or.inl rfl)
    · exact Or.inr (Or.inr rfl)

/-- a data-segment item is a declaration (`.zero` with a non-negative count: `zerosNonneg`, a hypothesis, not proved
    from the grammar) -/
def isDecl : Item → Bool
  | .varDecl .. => true
  | .strDecl .. => true
  | .zeroDecl _ n => decide (0 ≤ n)
  | _ => false

def declName : Item → String
  | .varDecl n _ _ => n
  | .strDecl n _ => n
  | .zeroDecl n _ => n
  | _ => ""

/-- the element size recorded in the variable table -/
def declSize : Item → Int
  | .varDecl _ ty _ => ((tyBits ty / 8 : Nat) : Int)
  | .strDecl .. => 1
  | .zeroDecl .. => 4
  | _ => 0

/-- the number of bytes the declaration occupies (what the address counter advances by) -/
def declLen : Item → Int
  | .varDecl _ ty vals => (vals.length : Int) * ((tyBits ty / 8 : Nat) : Int)
  | .strDecl _ body => (body.length : Int) + 1
  | .zeroDecl _ n => 4 * n
  | _ => 0

theorem declLen_nonneg (it : Item) (h : isDecl it = true) : 0 ≤ declLen it := by
  cases it with
  | varDecl n ty vals => exact Int.mul_nonneg (by omega) (by omega)
  | strDecl n body => simp only [declLen]; omega
  | zeroDecl n k => simp only [isDecl, decide_eq_true_eq] at h; simp only [declLen]; omega
  | _ => cases h

/-- address of declaration `k` when the counter stands at `ctr` before declaration 0 -/
def addrOf : List Item → Int → Nat → Int
  | [], ctr, _ => align4 ctr
  | _ :: _, ctr, 0 => align4 ctr
  | it :: rest, ctr, k + 1 => addrOf rest (align4 ctr + declLen it) k

/-- the counter after all declarations -/
def layoutEnd : List Item → Int → Int
  | [], ctr => ctr
  | it :: rest, ctr => layoutEnd rest (align4 ctr + declLen it)

/-- the variable table the pass should produce -/
def layoutVars : List Item → Int → Vars
  | [], _ => []
  | it :: rest, ctr => (declName it, align4 ctr, declSize it) :: layoutVars rest (align4 ctr + declLen it)

/-- the values a declaration stores and their width in bits (a string: its bytes and the terminating zero); `.zero`
    stores nothing -/
def declVals : Item → Option (Nat × List Int)
  | .varDecl _ ty vals => some (tyBits ty, vals)
  | .strDecl _ body => some (8, body.map (fun (c : Char) => (c.toNat : Int)) ++ [0])
  | _ => none

/-- what the memory holds for a declaration placed at `a`: the bytes of its values (for `.zero`: zeros throughout),
    and zeros in the padding up to the next 4-byte boundary -/
def DeclAt (m : Mem) (it : Item) (a : Int) : Prop :=
  (match declVals it with
   | some (bits, vals) =>
     ∀ (i : Nat) (hi : i < vals.length) (j : Nat), j < bits / 8 →
       m.cells (a + (i : Int) * ((bits / 8 : Nat) : Int) + (j : Int)) =
         cellVal riscvCfg ((vals[i] % (2 : Int) ^ bits).toNat) j
   | none => ∀ x, a ≤ x → x < a + declLen it → m.cells x = 0) ∧
  (∀ x, a + declLen it ≤ x → x < align4 (a + declLen it) → m.cells x = 0)

def LaidOut (m : Mem) : List Item → Int → Prop
  | [], _ => True
  | it :: rest, ctr => DeclAt m it (align4 ctr) ∧ LaidOut m rest (align4 ctr + declLen it)

theorem align4_spec (a : Int) : a ≤ align4 a ∧ align4 a < a + 4 ∧ align4 a % 4 = 0 := by
  simp only [align4]; split <;> omega

theorem align4_of_aligned (a : Int) (h : a % 4 = 0) : align4 a = a := by
  simp only [align4]; split <;> omega

/-! ### facts about the specification -/

theorem layoutEnd_ge (items : List Item) (ctr : Int) (h : ∀ it ∈ items, isDecl it = true) :
    ctr ≤ layoutEnd items ctr := by
  induction items generalizing ctr with
  | nil => exact Int.le_refl _
  | cons it rest ih =>
    simp only [layoutEnd]
    have h1 := ih (align4 ctr + declLen it) (fun x hx => h x (List.mem_cons_of_mem _ hx))
    have h2 := declLen_nonneg it (h it (List.mem_cons_self ..))
    have := (align4_spec ctr).1
    omega

theorem addrOf_zero (items : List Item) (ctr : Int) : addrOf items ctr 0 = align4 ctr := by
  cases items <;> rfl

theorem addrOf_succ (items : List Item) (ctr : Int) (k : Nat) (hk : k + 1 < items.length) :
    addrOf items ctr (k + 1) = align4 (addrOf items ctr k + declLen (items[k]'(by omega))) := by
  induction items generalizing ctr k with
  | nil => simp at hk
  | cons it rest ih =>
    cases k with
    | zero =>
      simp only [addrOf, List.getElem_cons_zero]
      exact addrOf_zero rest _
    | succ k' =>
      simp only [List.length_cons] at hk
      simp only [addrOf, List.getElem_cons_succ]
      exact ih _ k' (by omega)

theorem addrOf_aligned (items : List Item) (ctr : Int) (k : Nat) : addrOf items ctr k % 4 = 0 := by
  induction items generalizing ctr k with
  | nil => exact (align4_spec ctr).2.2
  | cons it rest ih =>
    cases k with
    | zero => exact (align4_spec ctr).2.2
    | succ k' => exact ih _ k'

theorem layoutVars_length (items : List Item) (ctr : Int) : (layoutVars items ctr).length = items.length := by
  induction items generalizing ctr with
  | nil => rfl
  | cons it rest ih => simp [layoutVars, ih]

theorem layoutVars_get (items : List Item) (ctr : Int) (k : Nat) (hk : k < items.length) :
    (layoutVars items ctr)[k]'(by rw [layoutVars_length]; exact hk) =
      (declName items[k], addrOf items ctr k, declSize items[k]) := by
  induction items generalizing ctr k with
  | nil => simp at hk
  | cons it rest ih =>
    cases k with
    | zero => simp [layoutVars, addrOf]
    | succ k' =>
      simp only [List.length_cons] at hk
      simp only [layoutVars, List.getElem_cons_succ, addrOf]
      exact ih _ k' (by omega)

theorem layoutVars_names (items : List Item) (ctr : Int) :
    (layoutVars items ctr).map (·.1) = items.map declName := by
  induction items generalizing ctr with
  | nil => rfl
  | cons it rest ih => simp [layoutVars, ih]

theorem LaidOut_get (m : Mem) (items : List Item) (ctr : Int) (h : LaidOut m items ctr) (k : Nat)
    (hk : k < items.length) : DeclAt m items[k] (addrOf items ctr k) := by
  induction items generalizing ctr k with
  | nil => simp at hk
  | cons it rest ih =>
    cases k with
    | zero => exact h.1
    | succ k' =>
      simp only [List.length_cons] at hk
      simp only [List.getElem_cons_succ, addrOf]
      exact ih _ h.2 k' (by omega)

/-! ### the variable table as a lookup -/

theorem lookupVar_none_iff (vs : Vars) (n : String) : lookupVar vs n = none ↔ n ∉ vs.map (·.1) := by
  simp only [lookupVar, Option.map_eq_none_iff, List.find?_eq_none, List.mem_map, not_exists, not_and]
  constructor
  · intro h p hp e; exact h p hp (by simp [e])
  · intro h p hp e; exact h p hp (by simpa using e)

theorem lookupVar_append_none (vs ws : Vars) (n : String) (h : lookupVar vs n = none) :
    lookupVar (vs ++ ws) n = lookupVar ws n := by
  simp only [lookupVar, Option.map_eq_none_iff] at h
  simp only [lookupVar, List.find?_append, h, Option.none_or]

theorem lookupVar_append_some (vs ws : Vars) (n : String) (r : Int × Int) (h : lookupVar vs n = some r) :
    lookupVar (vs ++ ws) n = some r := by
  simp only [lookupVar, Option.map_eq_some_iff] at h
  obtain ⟨p, hp, rfl⟩ := h
  simp only [lookupVar, List.find?_append, hp, Option.some_or, Option.map_some]

theorem lookupVar_cons_self (vs : Vars) (n : String) (r : Int × Int) : lookupVar ((n, r) :: vs) n = some r := by
  simp [lookupVar]

theorem lookupVar_cons_ne (vs : Vars) (n n' : String) (r : Int × Int) (h : n' ≠ n) :
    lookupVar ((n', r) :: vs) n = lookupVar vs n := by
  simp [lookupVar, h]

theorem lookupVar_layoutVars (items : List Item) (ctr : Int) (hn : (items.map declName).Nodup) (k : Nat)
    (hk : k < items.length) :
    lookupVar (layoutVars items ctr) (declName items[k]) = some (addrOf items ctr k, declSize items[k]) := by
  induction items generalizing ctr k with
  | nil => simp at hk
  | cons it rest ih =>
    simp only [List.map_cons, List.nodup_cons] at hn
    cases k with
    | zero => simp only [layoutVars, List.getElem_cons_zero, addrOf, lookupVar_cons_self]
    | succ k' =>
      simp only [List.length_cons] at hk
      simp only [layoutVars, List.getElem_cons_succ, addrOf]
      rw [lookupVar_cons_ne]
      · exact ih _ hn.2 k' (by omega)
      · intro e
        apply hn.1
        rw [e]
        exact List.mem_map_of_mem (List.getElem_mem _)

/-! ### `writeData` realises the layout -/

/-- the writes one declaration performs, from address `a` -/
def declWrite (it : Item) (ms : MemSys) (a : Int) : MemSys × Int × Option AsmErr :=
  match it with
  | .varDecl _ ty vals => writeSeq (tyBits ty) vals ms a
  | .strDecl _ body => writeSeq 8 (body.map (fun (c : Char) => (c.toNat : Int)) ++ [0]) ms a
  | .zeroDecl _ n => (ms, a + 4 * n, none)
  | _ => (ms, a, none)

theorem declWrite_eq (it : Item) (ms : MemSys) (a : Int) :
    declWrite it ms a =
      match declVals it with
      | some (bits, vals) => writeSeq bits vals ms a
      | none => (ms, a + declLen it, none) := by
  cases it <;> simp [declWrite, declVals, declLen]

theorem declVals_width_len {it : Item} {bits : Nat} {vals : List Int} (h : declVals it = some (bits, vals)) :
    (bits = 8 ∨ bits = 16 ∨ bits = 32) ∧ declLen it = (vals.length : Int) * ((bits / 8 : Nat) : Int) := by
  cases it with
  | varDecl n ty vs => cases h; exact ⟨tyBits_cases ty, rfl⟩
  | strDecl n body => cases h; exact ⟨.inl rfl, by simp [declLen]⟩
  | _ => cases h

/-- a data entry is well formed: no in-line label, and a declaration -/
def entryOk (e : Entry) : Bool := e.2.2.lbl.isNone && isDecl e.2.2.item

def itemsOf (es : List Entry) : List Item := es.map (·.2.2.item)

/-- the item is one of the three kinds of declaration -/
def isDeclKind : Item → Bool
  | .varDecl .. => true
  | .strDecl .. => true
  | .zeroDecl .. => true
  | _ => false

theorem isDeclKind_of_isDecl (it : Item) (h : isDecl it = true) : isDeclKind it = true := by
  cases it <;> first | rfl | cases h

/-- `declWrite_eq` for callers that do not ask which values are written. -/
theorem declWrite_cases (it : Item) (m : MemSys) (a : Int) :
    (∃ bits vs, 8 ≤ bits ∧ declWrite it m a = writeSeq bits vs m a) ∨ ∃ c, declWrite it m a = (m, c, none) := by
  rw [declWrite_eq]
  cases hv : declVals it with
  | none => exact .inr ⟨_, rfl⟩
  | some p => exact .inl ⟨p.1, p.2, by have := (declVals_width_len hv).1; omega, rfl⟩

/-- the state after the declaration `it` has been entered and its writes, which ended at `a'` in `m`, are done -/
def declared (o : DataOut) (it : Item) (m : MemSys) (a' : Int) : DataOut :=
  { o with mem := m, ctr := a', vars := o.vars ++ [(declName it, align4 o.ctr, declSize it)] }

theorem writeData_cons_kind (k : Nat) (line : String) (t : Tok) (rest : List Entry) (o : DataOut)
    (hl : t.lbl = none) (hk : isDeclKind t.item = true) (hf : lookupVar o.vars (declName t.item) = none) :
    writeData ((k, line, t) :: rest) o =
      match declWrite t.item o.mem (align4 o.ctr) with
      | (m, a', some e) => { declared o t.item m a' with err := some e }
      | (m, a', none) => writeData rest (declared o t.item m a') := by
  obtain ⟨lbl, item⟩ := t
  subst hl
  cases item with
  | varDecl n ty vals | strDecl n body | zeroDecl n c =>
    have hf' : (lookupVar o.vars n).isSome = false := by rw [show lookupVar o.vars n = none from hf]; rfl
    simp only [writeData, Option.isSome_none, Bool.false_eq_true, if_false, hf']
    rfl
  | _ => cases hk

theorem writeData_cons_bad (k : Nat) (line : String) (t : Tok) (rest : List Entry) (o : DataOut)
    (hbad : t.lbl.isSome = true ∨ isDeclKind t.item = false) :
    writeData ((k, line, t) :: rest) o = { o with err := some (.parser "ParserDataSyntaxException" k line) } := by
  obtain ⟨lbl, item⟩ := t
  simp only at hbad
  by_cases hl : lbl.isSome = true
  · simp only [writeData, hl, if_true]
  · have hk : isDeclKind item = false := by
      rcases hbad with h | h
      · exact absurd h hl
      · exact h
    simp only [writeData, hl, Bool.false_eq_true, if_false]
    cases item <;> first | rfl | cases hk

theorem writeData_cons_dup (k : Nat) (line : String) (t : Tok) (rest : List Entry) (o : DataOut)
    (hl : t.lbl = none) (hk : isDeclKind t.item = true) (hf : (lookupVar o.vars (declName t.item)).isSome = true) :
    writeData ((k, line, t) :: rest) o = { o with err := some (.parser "ParserDataDuplicateException" k line) } := by
  obtain ⟨lbl, item⟩ := t
  subst hl
  cases item with
  | varDecl n ty vals | strDecl n body | zeroDecl n c =>
    simp only [writeData, Option.isSome_none, Bool.false_eq_true, if_false, show (lookupVar o.vars n).isSome = true from hf,
      if_true]
  | _ => cases hk

theorem writeData_cons_eq (k : Nat) (line : String) (t : Tok) (rest : List Entry) (o : DataOut) :
    writeData ((k, line, t) :: rest) o =
      if t.lbl.isSome = true ∨ isDeclKind t.item = false then
        { o with err := some (.parser "ParserDataSyntaxException" k line) }
      else if (lookupVar o.vars (declName t.item)).isSome = true then
        { o with err := some (.parser "ParserDataDuplicateException" k line) }
      else
        match declWrite t.item o.mem (align4 o.ctr) with
        | (m, a', some e) => { declared o t.item m a' with err := some e }
        | (m, a', none) => writeData rest (declared o t.item m a') := by
  split
  · next hbad => exact writeData_cons_bad k line t rest o hbad
  · next hbad =>
    obtain ⟨hl, hk⟩ : t.lbl = none ∧ isDeclKind t.item = true := by simpa using hbad
    split
    · next hf => exact writeData_cons_dup k line t rest o hl hk hf
    · next hf => exact writeData_cons_kind k line t rest o hl hk (by simpa using hf)

theorem mul_add_lt_int (i len sz j : Nat) (hi : i < len) (hj : j < sz) :
    (i : Int) * (sz : Int) + (j : Int) < (len : Int) * (sz : Int) := by
  have := C03.add_mul_lt hj hi
  rw [Nat.add_comm, Nat.mul_comm sz, Nat.mul_comm sz] at this
  have h2 : ((i * sz + j : Nat) : Int) < ((len * sz : Nat) : Int) := by exact_mod_cast this
  simpa using h2

theorem declWrite_flat (it : Item) (hd : isDecl it = true) (m : Mem) (hc : m.cfg = riscvCfg) (a : Int)
    (hlo : 16384 ≤ a) (hhi : a + declLen it ≤ 4294967296) (hzero : ∀ x, a ≤ x → m.cells x = 0) :
    ∃ m', declWrite it (.flat m) a = (.flat m', a + declLen it, none) ∧ m'.cfg = riscvCfg ∧
      (∀ x, x < a → m'.cells x = m.cells x) ∧ (∀ x, a + declLen it ≤ x → m'.cells x = 0) ∧
      DeclAt m' it a := by
  -- a declaration leaves the cells outside `[a, a + declLen)` alone, so the zeros above and the padding come
  -- from `hzero`; what remains is the content: a run of values (`writeSeq_flat`) or nothing
  suffices h : ∃ m', declWrite it (.flat m) a = (.flat m', a + declLen it, none) ∧ m'.cfg = riscvCfg ∧
      (∀ x, x < a ∨ a + declLen it ≤ x → m'.cells x = m.cells x) ∧
      ((∀ x, a + declLen it ≤ x → x < align4 (a + declLen it) → m'.cells x = 0) → DeclAt m' it a) by
    obtain ⟨m', hw, hc', hfr, hat⟩ := h
    have hnn := declLen_nonneg it hd
    have habove : ∀ x, a + declLen it ≤ x → m'.cells x = 0 := fun x hx => by
      rw [hfr x (Or.inr hx)]; exact hzero x (by omega)
    exact ⟨m', hw, hc', fun x hx => hfr x (Or.inl hx), habove, hat fun x hx _ => habove x hx⟩
  rw [declWrite_eq]
  cases hv : declVals it with
  | none =>
    refine ⟨m, rfl, hc, fun _ _ => rfl, fun hpad => ?_⟩
    simp only [DeclAt, hv]
    exact ⟨fun x hx _ => hzero x hx, hpad⟩
  | some p =>
    obtain ⟨bits, vals⟩ := p
    obtain ⟨hb, hlen⟩ := declVals_width_len hv
    rw [hlen] at hhi ⊢
    obtain ⟨m', hw, hc', hfr, hst⟩ := writeSeq_flat bits hb vals m hc a hlo hhi
    refine ⟨m', hw, hc', hfr, fun hpad => ?_⟩
    simp only [DeclAt, hv, hlen]
    exact ⟨hst, hpad⟩

theorem DeclAt_congr (m1 m' : Mem) (it : Item) (hdecl : isDecl it = true) (a : Int)
    (h : ∀ x, a ≤ x → x < align4 (a + declLen it) → m'.cells x = m1.cells x) (hd : DeclAt m1 it a) :
    DeclAt m' it a := by
  have hal := (align4_spec (a + declLen it)).1
  have hnn := declLen_nonneg it hdecl
  refine ⟨?_, fun x hx hx2 => by rw [h x (by omega) hx2]; exact hd.2 x hx hx2⟩
  have hd1 := hd.1
  cases hv : declVals it with
  | none =>
    simp only [hv] at hd1 ⊢
    intro x hx hx2
    rw [h x hx (by omega)]; exact hd1 x hx hx2
  | some p =>
    obtain ⟨bits, vals⟩ := p
    have hlen := (declVals_width_len hv).2
    rw [hlen] at h hal
    simp only [hv] at hd1 ⊢
    intro i hi j hj
    have hlt := mul_add_lt_int i vals.length (bits / 8) j hi hj
    have hge : 0 ≤ (i : Int) * ((bits / 8 : Nat) : Int) := Int.mul_nonneg (by omega) (by omega)
    rw [h _ (by omega) (by omega)]
    exact hd1 i hi j hj

theorem isDecl_of_entryOk {es : List Entry} (h : ∀ e ∈ es, entryOk e = true) :
    ∀ it ∈ itemsOf es, isDecl it = true := by
  intro it hit
  simp only [itemsOf, List.mem_map] at hit
  obtain ⟨e, he, rfl⟩ := hit
  have := h e he
  simp only [entryOk, Bool.and_eq_true] at this; exact this.2

/-- The pass realises the layout, from any state `o` of the pass on a flat RISC-V memory. What carries the
    induction is `hzero`: every cell from the counter upward is still zero (`load` starts the pass on the reset,
    all-zero memory with the counter at the first data address, and the pass only writes below the counter it
    then moves past). That is why `.zero` writes nothing and yet reads back zero, and why padding is zero;
    each declaration hands the fact on for its own end (`declWrite_flat`). -/
theorem writeData_layout (es : List Entry) (o : DataOut) (m : Mem) (hm : o.mem = .flat m) (hc : m.cfg = riscvCfg)
    (herr : o.err = none) (hlo : 16384 ≤ o.ctr)
    (hwf : ∀ e ∈ es, entryOk e = true)
    (hnames : (o.vars.map (·.1) ++ (itemsOf es).map declName).Nodup)
    (hfit : layoutEnd (itemsOf es) o.ctr ≤ 4294967296)
    (hzero : ∀ x, o.ctr ≤ x → m.cells x = 0) :
    ∃ m', writeData es o =
        { mem := .flat m', vars := o.vars ++ layoutVars (itemsOf es) o.ctr,
          ctr := layoutEnd (itemsOf es) o.ctr, err := none } ∧
      m'.cfg = riscvCfg ∧ (∀ x, x < align4 o.ctr → m'.cells x = m.cells x) ∧
      (∀ x, layoutEnd (itemsOf es) o.ctr ≤ x → m'.cells x = 0) ∧ LaidOut m' (itemsOf es) o.ctr := by
  induction es generalizing o m with
  | nil =>
    refine ⟨m, ?_, hc, fun _ _ => rfl, hzero, trivial⟩
    obtain ⟨mem, vars, ctr, err⟩ := o
    simp only at hm herr
    subst hm herr
    simp [writeData, itemsOf, layoutVars, layoutEnd]
  | cons e rest ih =>
    obtain ⟨k, line, t⟩ := e
    obtain ⟨hlbl, hdecl⟩ : t.lbl = none ∧ isDecl t.item = true := by
      simpa [entryOk] using hwf _ (List.mem_cons_self ..)
    have hit : itemsOf ((k, line, t) :: rest) = t.item :: itemsOf rest := rfl
    rw [hit] at hnames hfit ⊢
    obtain ⟨-, -, hdisj⟩ := List.nodup_append.1 hnames
    have hfresh : lookupVar o.vars (declName t.item) = none :=
      (lookupVar_none_iff _ _).2 fun hmem => hdisj _ hmem _ List.mem_cons_self rfl
    simp only [layoutEnd, layoutVars, LaidOut] at hfit ⊢
    have hal := align4_spec o.ctr
    have hwfr : ∀ e ∈ rest, entryOk e = true := fun e he => hwf e (List.mem_cons_of_mem _ he)
    have hdr := isDecl_of_entryOk hwfr
    have hge := layoutEnd_ge (itemsOf rest) (align4 o.ctr + declLen t.item) hdr
    have hnn := declLen_nonneg t.item hdecl
    obtain ⟨m1, hw1, hc1, hfr1, hz1, hd1⟩ := declWrite_flat t.item hdecl m hc (align4 o.ctr) (by omega) (by omega)
      (fun x hx => hzero x (by omega))
    rw [writeData_cons_kind k line t rest o hlbl (isDeclKind_of_isDecl _ hdecl) hfresh, hm, hw1]
    simp only
    obtain ⟨m', hw', hc', hfr', hz', hl'⟩ := ih
      (declared o t.item (.flat m1) (align4 o.ctr + declLen t.item))
      m1 rfl hc1 herr (by simp only [declared]; omega) hwfr (by simpa [declared, List.append_assoc] using hnames) hfit hz1
    simp only [declared] at hw' hfr' hz' hl'
    have hal2 := align4_spec (align4 o.ctr + declLen t.item)
    refine ⟨m', ?_, hc', ?_, hz', ?_, hl'⟩
    · simp only [declared]; rw [hw']; simp
    · intro x hx
      rw [hfr' x (by omega), hfr1 x hx]
    · exact DeclAt_congr m1 m' t.item hdecl (align4 o.ctr) (fun x _ hx2 => hfr' x hx2) hd1

end ArchSim.Lemmas.C05
