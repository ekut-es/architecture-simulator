/-
Loading with caches. The passes of `load` touch the data memory only through DIRECT writes (`write … direct := true`),
which act on the lower memory alone, so a load into a cached memory system and a load into the flat memory perform the
same writes, report the same error and store the same program; an instruction cache is passed through (reset). Both
comparisons are `Asm.load_rel`: the two data passes agree.
-/
import ArchSim.Lemmas.E2EState
import ArchSim.Lemmas.C03Hist

namespace ArchSim.Lemmas.E2E
open ArchSim ArchSim.Rv ArchSim.Asm ArchSim.Mem ArchSim.Cache ArchSim.Spec.ByteStore ArchSim.Lemmas.C18

theorem setBacking_setBacking (ms : MemSys) (m m' : Mem) : setBacking (setBacking ms m) m' = setBacking ms m' := by
  cases ms <;> rfl

theorem write_rewrap (ms M : MemSys) (bits : Nat) (a : Int) (v : Nat) :
    (setBacking ms M.backing).write bits a v true =
      { mem := setBacking ms (M.write bits a v true).mem.backing, res := (M.write bits a v true).res,
        extra := 0 } := by
  rw [write_direct_eq, write_direct_eq M, backing_setBacking]
  rcases Mem.write M.backing bits a v with _ | ⟨m', _ | e⟩ <;>
    simp only [backing_setBacking, setBacking_setBacking]

theorem writeSeq_rewrap (ms : MemSys) (bits : Nat) (vs : List Int) : ∀ (M : MemSys) (a : Int),
    writeSeq bits vs (setBacking ms M.backing) a =
      (setBacking ms (writeSeq bits vs M a).1.backing, (writeSeq bits vs M a).2) := by
  induction vs with
  | nil => intro M a; rfl
  | cons v vs ih =>
    intro M a
    rw [writeSeq, writeSeq, write_rewrap]
    simp only
    generalize M.write bits a ((v % (2 : Int) ^ bits).toNat) true = o
    obtain ⟨M', r, _⟩ := o
    rcases r with e | x
    · cases e <;> rfl
    · exact ih _ _

/-- `o` with the memory system `ms` put around its backing memory -/
def rewrap (ms : MemSys) (o : DataOut) : DataOut := { o with mem := setBacking ms o.mem.backing }

theorem declWrite_rewrap (ms : MemSys) (it : Item) (M : MemSys) (a : Int) :
    C05.declWrite it (setBacking ms M.backing) a =
      (setBacking ms (C05.declWrite it M a).1.backing, (C05.declWrite it M a).2) := by
  cases it
  case varDecl n ty vals => exact writeSeq_rewrap ..
  case strDecl n body => exact writeSeq_rewrap ..
  all_goals rfl

theorem writeData_rewrap (ms : MemSys) (es : List Entry) (o : DataOut) :
    writeData es (rewrap ms o) = rewrap ms (writeData es o) := by
  induction es generalizing o with
  | nil => rfl
  | cons x rest ih =>
    obtain ⟨k, line, t⟩ := x
    rw [C05.writeData_cons_eq, C05.writeData_cons_eq]
    -- the two tests read only `vars`, which `rewrap` leaves alone
    show (if _ then _ else if (lookupVar o.vars _).isSome = true then _ else
      match C05.declWrite t.item (setBacking ms o.mem.backing) (align4 o.ctr) with
      | (m, a', some e) => _
      | (m, a', none) => _) = _
    rw [declWrite_rewrap]
    split
    · rfl
    · split
      · rfl
      · generalize C05.declWrite t.item o.mem (align4 o.ctr) = r
        obtain ⟨m, a', _ | e⟩ := r
        · exact ih (C05.declared o t.item m a')
        · rfl

theorem load_rewrap (ms : MemSys) (s : St) (text : String) :
    (load { s with mem := setBacking ms s.mem.backing } text).err = (load s text).err ∧
    (load { s with mem := setBacking ms s.mem.backing } text).st =
      { (load s text).st with mem := setBacking ms.reset (load s text).st.mem.backing } := by
  have hr : (setBacking ms s.mem.backing).reset = setBacking ms.reset s.mem.reset.backing := by
    cases ms <;> cases s.mem <;> rfl
  -- the two data passes start from memories of which one is the other re-wrapped, and stay so
  obtain ⟨m, _, prog, err, rfl, -, h, h'⟩ := load_rel (fun m m' => m' = setBacking ms.reset m.backing) s
    { s with mem := setBacking ms s.mem.backing } text fun data => by
      have hw := writeData_rewrap ms.reset data { mem := s.mem.reset, vars := [], ctr := 16384, err := none }
      rw [rewrap, ← hr] at hw
      dsimp only
      rw [hw]
      exact ⟨rfl, rfl, rfl⟩
  rw [h, h']
  exact ⟨rfl, rfl⟩

/-- `h` is the `.data` preload. Both states are variables: rewriting one instance of `load` into the other would
    make the unifier unfold the loader. -/
theorem load_cached (sc sf : St) (l : Bool) (ds : DSys Repl.Pol) (hm : sc.mem = .cached l ds)
    (hc : ds.mem.cfg = riscvCfg) (m : Mem) (hmc : m.cfg = riscvCfg) (hsf : sf = { sc with mem := .flat m })
    (text : String) :
    (load sc text).err = (load sf text).err ∧
    ∃ h : List Spec.ByteStore.Op, (load sf text).st.mem = .flat (run riscvCfg h) ∧
      (load sc text).st = { (load sf text).st with
        mem := .cached l (Spec.CacheAbs.preload (ds.reset (polOps l)) h) } := by
  obtain ⟨h, hh⟩ := load_mem_flat sf text m (by rw [hsf]) hmc
  -- `load` resets first, so `ds` may as well be around `m`: that is `sf` re-wrapped
  have e : load sc text = load { sf with mem := setBacking (.cached l ds) sf.mem.backing } text :=
    load_congr (by simp only [hsf, resetSt, hm, MemSys.reset, DSys.reset, Mem.reset, setBacking, MemSys.backing, hc, hmc])
      text
  obtain ⟨he, hst⟩ := load_rewrap (.cached l ds) sf text
  rw [e]
  refine ⟨he, h, hh, ?_⟩
  rw [hst, hh, ArchSim.Lemmas.C03.preload_eq]
  simp only [MemSys.reset, DSys.reset, Mem.reset, hc]
  rfl

def withICache (s : St) (c : ICache) : St := { s with imem := { s.imem with cache := some c } }

theorem load_withICache (s : St) (c : ICache) (text : String) :
    (load (withICache s c) text).err = (load s text).err ∧
    (load (withICache s c) text).st =
      { (load s text).st with imem := { prog := (load s text).st.imem.prog, cache := some c.reset } } := by
  -- the same data memory, so the same data pass
  obtain ⟨m, _, prog, err, rfl, -, h, h'⟩ := load_rel Eq s (withICache s c) text fun _ => ⟨rfl, rfl, rfl⟩
  rw [h, h']
  exact ⟨rfl, rfl⟩

/-- About arbitrary states: for loaded states the unifier would unfold the loader. -/
theorem eqC_of_icache {s t : St} {c : Option ICache}
    (hst : t = { s with imem := { prog := s.imem.prog, cache := c } }) :
    ArchSim.Lemmas.C11Prog.EqC s t ∧ s.imem.prog = t.imem.prog ∧ t.imem.cache = c := by
  subst hst
  exact ⟨⟨rfl, rfl, rfl, rfl, rfl, rfl, rfl, rfl, rfl, rfl⟩, rfl, rfl⟩

end ArchSim.Lemmas.E2E
