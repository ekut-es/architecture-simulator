/-
Address arithmetic of `decode`: tag, set index, word and byte offset recombine to the wrapped address, a
block is an aligned address range, an address within a word decodes like the word's address, and the block of a
valid way (`WayOK`) covers exactly the addresses with its set index and tag.
-/
import ArchSim.Spec.CacheAbs

namespace ArchSim.Lemmas.C03
open ArchSim ArchSim.Cache ArchSim.Mem ArchSim.Spec.CacheAbs

theorem wrap32_lt (a : Int) : wrap32 a < 4294967296 := by unfold wrap32; omega

theorem wrap32_cast (a : Int) : ((wrap32 a : Nat) : Int) = a % 4294967296 :=
  Int.toNat_of_nonneg (Int.emod_nonneg a (by decide))

theorem wrap32_nat (x : Nat) (h : x < 4294967296) : wrap32 (x : Int) = x := by
  unfold wrap32
  rw [Int.emod_eq_of_lt (Int.natCast_nonneg x) (by omega), Int.toNat_natCast]

theorem wrap32_word (base i : Nat) (h : base + 4 * i < 4294967296) :
    wrap32 ((base : Int) + 4 * (i : Int)) = base + 4 * i := by
  rw [← wrap32_nat (base + 4 * i) h, Int.natCast_add, Int.natCast_mul]; rfl

theorem wrap32_add_lt (a : Int) (i : Nat) (h : wrap32 a + i < 4294967296) :
    wrap32 (a + (i : Int)) = wrap32 a + i := by
  have := wrap32_nat (wrap32 a + i) h
  rw [Int.natCast_add, wrap32_cast] at this
  rw [← this]
  unfold wrap32
  rw [Int.emod_add_emod]

theorem wrap32_add (a : Int) (i : Nat) (h : wrap32 a % 4 + i < 4) :
    wrap32 (a + (i : Int)) = wrap32 a + i :=
  wrap32_add_lt a i (by have := wrap32_lt a; omega)

theorem wrapAddr_riscv (a : Int) : wrapAddr riscvCfg a = ((wrap32 a : Nat) : Int) := by
  rw [wrap32_cast]
  simp only [wrapAddr, riscvCfg, if_true]
  rfl

theorem pow_blk (bb : Nat) : 2 ^ (bb + 2) = 4 * 2 ^ bb := by
  rw [Nat.pow_add]; omega

theorem pow_tag (ib bb : Nat) : 2 ^ (ib + bb + 2) = 2 ^ (bb + 2) * 2 ^ ib := by
  rw [show ib + bb + 2 = (bb + 2) + ib by omega, Nat.pow_add]

theorem decode_wrap (ib bb : Nat) (a : Int) :
    decode ib bb ((wrap32 a : Nat) : Int) = decode ib bb a := by
  simp only [decode, wrap32_nat _ (wrap32_lt a)]

theorem decode_congr (ib bb : Nat) (a b : Int) (h : wrap32 a = wrap32 b) :
    decode ib bb a = decode ib bb b := by
  simp only [decode, h]

theorem decode_full (ib bb : Nat) (a : Int) : (decode ib bb a).full = wrap32 a := rfl
theorem decode_byteOff (ib bb : Nat) (a : Int) : (decode ib bb a).byteOff = wrap32 a % 4 := rfl
theorem decode_blockOff (ib bb : Nat) (a : Int) :
    (decode ib bb a).blockOff = wrap32 a / 4 % 2 ^ bb := rfl
theorem decode_setIdx (ib bb : Nat) (a : Int) :
    (decode ib bb a).setIdx = wrap32 a / 2 ^ (bb + 2) % 2 ^ ib := rfl
theorem decode_tag (ib bb : Nat) (a : Int) :
    (decode ib bb a).tag = wrap32 a / 2 ^ (bb + 2) / 2 ^ ib := by
  simp only [decode, pow_tag, Nat.div_div_eq_div_mul]
theorem decode_blockBase (ib bb : Nat) (a : Int) :
    (decode ib bb a).blockBase = wrap32 a / 2 ^ (bb + 2) * 2 ^ (bb + 2) := by
  simp only [decode, Nat.add_comm 2 bb]

theorem decode_byteOff_lt (ib bb : Nat) (a : Int) : (decode ib bb a).byteOff < 4 := by
  rw [decode_byteOff]; omega

theorem decode_blockOff_lt (ib bb : Nat) (a : Int) : (decode ib bb a).blockOff < 2 ^ bb := by
  rw [decode_blockOff]; exact Nat.mod_lt _ (Nat.two_pow_pos bb)

theorem decode_setIdx_lt (ib bb : Nat) (a : Int) : (decode ib bb a).setIdx < 2 ^ ib := by
  rw [decode_setIdx]; exact Nat.mod_lt _ (Nat.two_pow_pos ib)

theorem decode_base (ib bb : Nat) (a : Int) :
    ((decode ib bb a).tag * 2 ^ ib + (decode ib bb a).setIdx) * 2 ^ (bb + 2) =
      (decode ib bb a).blockBase := by
  rw [decode_tag, decode_setIdx, decode_blockBase, Nat.div_add_mod']

theorem decode_full_eq (ib bb : Nat) (a : Int) :
    wrap32 a = (decode ib bb a).blockBase + 4 * (decode ib bb a).blockOff + (decode ib bb a).byteOff := by
  rw [decode_blockBase, decode_blockOff, decode_byteOff]
  have h1 := Nat.div_add_mod' (wrap32 a) (2 ^ (bb + 2))
  have h2 : wrap32 a % 2 ^ (bb + 2) = wrap32 a % 4 + 4 * (wrap32 a / 4 % 2 ^ bb) := by
    rw [pow_blk, Nat.mod_mul]
  omega

/-- The one consumer of `GeoOK.blk` (`blkBits ≤ 12`; `Props.C03.blockbits13_counterexample`): 16384 = 2^14 and
    2^32 are then multiples of the block size 2^(bb+2) (`e1`, `e2`), so the aligned block of a data address lies
    inside the data range. -/
theorem decode_range (ib bb : Nat) (a : Int) (hbb : bb ≤ 12) (h : 16384 ≤ wrap32 a) :
    16384 ≤ (decode ib bb a).blockBase ∧ (decode ib bb a).blockBase + 2 ^ (bb + 2) ≤ 4294967296 := by
  rw [decode_blockBase]
  have hx := wrap32_lt a
  have hB := Nat.two_pow_pos (bb + 2)
  have e1 : 16384 = 2 ^ (12 - bb) * 2 ^ (bb + 2) := by
    rw [← Nat.pow_add, ← Nat.add_assoc, Nat.sub_add_cancel hbb]
  have e2 : 4294967296 = 2 ^ (30 - bb) * 2 ^ (bb + 2) := by
    rw [← Nat.pow_add, ← Nat.add_assoc, Nat.sub_add_cancel (Nat.le_trans hbb (by decide))]
  constructor
  · have : 2 ^ (12 - bb) ≤ wrap32 a / 2 ^ (bb + 2) := by
      rw [Nat.le_div_iff_mul_le hB, ← e1]; exact h
    calc 16384 = 2 ^ (12 - bb) * 2 ^ (bb + 2) := e1
      _ ≤ _ := Nat.mul_le_mul_right _ this
  · have : wrap32 a / 2 ^ (bb + 2) < 2 ^ (30 - bb) := by
      rw [Nat.div_lt_iff_lt_mul hB, ← e2]; exact hx
    calc wrap32 a / 2 ^ (bb + 2) * 2 ^ (bb + 2) + 2 ^ (bb + 2)
        = (wrap32 a / 2 ^ (bb + 2) + 1) * 2 ^ (bb + 2) := by rw [Nat.add_mul, Nat.one_mul]
      _ ≤ 2 ^ (30 - bb) * 2 ^ (bb + 2) := Nat.mul_le_mul_right _ this
      _ = 4294967296 := e2.symm

theorem decode_add (ib bb : Nat) (a : Int) (i : Nat) (h : wrap32 a % 4 + i < 4) :
    decode ib bb (a + (i : Int)) =
      { decode ib bb a with full := wrap32 a + i, byteOff := wrap32 a % 4 + i } := by
  have hw := wrap32_add a i h
  have h4 : (wrap32 a + i) / 4 = wrap32 a / 4 := by omega
  have hd : ∀ N, (wrap32 a + i) / (4 * N) = wrap32 a / (4 * N) := by
    intro N; rw [← Nat.div_div_eq_div_mul, ← Nat.div_div_eq_div_mul, h4]
  have e1 : 2 ^ (ib + bb + 2) = 4 * 2 ^ (ib + bb) := pow_blk (ib + bb)
  have e2 : 2 ^ (bb + 2) = 4 * 2 ^ bb := pow_blk bb
  have e3 : 2 ^ (2 + bb) = 4 * 2 ^ bb := by rw [Nat.add_comm]; exact e2
  simp only [decode, hw, e1, e2, e3, hd, h4]
  congr 1
  omega

theorem decode_of_range (ib bb : Nat) (a : Int) (t k : Nat) (hk : k < 2 ^ ib)
    (h1 : (t * 2 ^ ib + k) * 2 ^ (bb + 2) ≤ wrap32 a)
    (h2 : wrap32 a < (t * 2 ^ ib + k) * 2 ^ (bb + 2) + 2 ^ (bb + 2)) :
    (decode ib bb a).tag = t ∧ (decode ib bb a).setIdx = k := by
  have hB := Nat.two_pow_pos (bb + 2)
  have hq : wrap32 a / 2 ^ (bb + 2) = t * 2 ^ ib + k := by
    rw [Nat.div_eq_iff hB]; omega
  rw [decode_tag, decode_setIdx, hq]
  constructor
  · rw [Nat.mul_comm, Nat.mul_add_div (Nat.two_pow_pos ib), Nat.div_eq_of_lt hk]; rfl
  · rw [Nat.mul_comm, Nat.mul_add_mod, Nat.mod_eq_of_lt hk]

theorem decode_in_block (ib bb : Nat) (a : Int) (t k j l : Nat) (hk : k < 2 ^ ib)
    (hj : j < 2 ^ bb) (hl : l < 4)
    (ha : wrap32 a = (t * 2 ^ ib + k) * 2 ^ (bb + 2) + 4 * j + l) :
    (decode ib bb a).tag = t ∧ (decode ib bb a).setIdx = k ∧ (decode ib bb a).blockOff = j ∧
      (decode ib bb a).byteOff = l := by
  obtain ⟨h1, h2⟩ := decode_of_range ib bb a t k hk
    (by rw [ha, Nat.add_assoc]; exact Nat.le_add_right _ _)
    (by rw [ha, pow_blk, Nat.add_assoc]; exact Nat.add_lt_add_left (by omega) _)
  -- both sides of `ha` split the address as base + 4·word + byte
  have e := decode_full_eq ib bb a
  rw [← decode_base, h1, h2, ha] at e
  have hb := decode_byteOff_lt ib bb a
  generalize (t * 2 ^ ib + k) * 2 ^ (bb + 2) = B at e
  have : (decode ib bb a).blockOff = j ∧ (decode ib bb a).byteOff = l := by omega
  exact ⟨h1, h2, this⟩

/-! ### addresses within a block, a way, an access -/

theorem blockBase_eq (ib bb : Nat) (a b : Int)
    (h1 : (decode ib bb a).setIdx = (decode ib bb b).setIdx)
    (h2 : (decode ib bb a).tag = (decode ib bb b).tag) :
    (decode ib bb a).blockBase = (decode ib bb b).blockBase := by
  rw [← decode_base, ← decode_base ib bb b, h1, h2]

theorem blockBase_lt_of_not_inData (ib bb : Nat) (addr : Int) (hin : ¬ inData addr) :
    (decode ib bb addr).blockBase < 16384 := by
  have := decode_full_eq ib bb addr
  unfold inData at hin
  omega

theorem addr_in_way {g : Geo} {k : Nat} {w : Way Nat} (hw : WayOK g k w) (hv : w.valid = true)
    (a : Int) (h1 : (decode g.idxBits g.blkBits a).setIdx = k)
    (h2 : (decode g.idxBits g.blkBits a).tag = w.tag) :
    wrap32 a = w.base + 4 * (decode g.idxBits g.blkBits a).blockOff +
      (decode g.idxBits g.blkBits a).byteOff := by
  have := decode_full_eq g.idxBits g.blkBits a
  rw [← decode_base, h1, h2, ← hw.base hv] at this
  exact this

theorem addr_not_in_way {g : Geo} {k : Nat} (hk : k < 2 ^ g.idxBits) {w : Way Nat}
    (hw : WayOK g k w) (hv : w.valid = true) (a : Int)
    (h : ¬ ((decode g.idxBits g.blkBits a).setIdx = k ∧ (decode g.idxBits g.blkBits a).tag = w.tag)) :
    wrap32 a < w.base ∨ w.base + 2 ^ (g.blkBits + 2) ≤ wrap32 a := by
  rcases Nat.lt_or_ge (wrap32 a) w.base with h1 | h1
  · exact Or.inl h1
  · rcases Nat.lt_or_ge (wrap32 a) (w.base + 2 ^ (g.blkBits + 2)) with h2 | h2
    · exfalso
      rw [hw.base hv] at h1 h2
      obtain ⟨e1, e2⟩ := decode_of_range g.idxBits g.blkBits a w.tag k hk h1 h2
      exact h ⟨e2, e1⟩
    · exact Or.inr h2

theorem decode_inAccess (ib bb : Nat) (addr a : Int) (n : Nat) (hoff : wrap32 addr % 4 + n ≤ 4)
    (h : wrap32 addr ≤ wrap32 a ∧ wrap32 a < wrap32 addr + n) :
    decode ib bb a = { decode ib bb addr with
      full := wrap32 addr + (wrap32 a - wrap32 addr),
      byteOff := wrap32 addr % 4 + (wrap32 a - wrap32 addr) } := by
  have hi : wrap32 addr % 4 + (wrap32 a - wrap32 addr) < 4 := by omega
  have hw : wrap32 a = wrap32 (addr + ((wrap32 a - wrap32 addr : Nat) : Int)) := by
    rw [wrap32_add addr _ hi, Nat.add_sub_cancel' h.1]
  rw [decode_congr ib bb a _ hw, decode_add ib bb addr _ hi]

theorem inAccess_iff (ib bb : Nat) (addr a : Int) (n : Nat) (hoff : wrap32 addr % 4 + n ≤ 4) :
    (wrap32 addr ≤ wrap32 a ∧ wrap32 a < wrap32 addr + n) ↔
      ((decode ib bb a).setIdx = (decode ib bb addr).setIdx ∧
       (decode ib bb a).tag = (decode ib bb addr).tag ∧
       (decode ib bb a).blockOff = (decode ib bb addr).blockOff ∧
       (decode ib bb addr).byteOff ≤ (decode ib bb a).byteOff ∧
       (decode ib bb a).byteOff < (decode ib bb addr).byteOff + n) := by
  constructor
  · intro h
    rw [decode_inAccess ib bb addr a n hoff h]
    exact ⟨rfl, rfl, rfl, Nat.le_add_right _ _, Nat.add_lt_add_left (by omega) _⟩
  · rintro ⟨h1, h2, h3, h4, h5⟩
    have e1 := decode_full_eq ib bb a
    have e2 := decode_full_eq ib bb addr
    rw [blockBase_eq ib bb a addr h1 h2, h3] at e1
    omega

end ArchSim.Lemmas.C03
