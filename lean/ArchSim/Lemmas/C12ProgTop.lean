/-
C12, the memory table at program level: the relation `MRelT w` between the data-memory systems of a run with data
cache and of the flat run — `MRel` of C03Prog with the table invariant `TRep` and the write policy added.  Accepted
reads and writes keep it, so every single-cycle step does (by C03ProgStep), and it says what the user's table
(`dataTable`, of the BACKING store) shows.
-/
import ArchSim.Lemmas.C12ProgCov
import ArchSim.Lemmas.C03ProgStep

namespace ArchSim.Lemmas.C12Prog
open ArchSim ArchSim.Cache ArchSim.Mem ArchSim.Rv ArchSim.Spec.CacheAbs ArchSim.Spec.TagCache
open ArchSim.Lemmas.C03 ArchSim.Lemmas.C03Prog

/-- `MRel` of C03Prog together with the memory-table invariant; `w` is the write policy of the cache
    system (`true` = write-through), which never changes. -/
def MRelT (w : Bool) (mc mf : MemSys) : Prop :=
  ∃ (l : Bool) (s : DSys Repl.Pol) (m : Mem.Mem),
    mc = .cached l s ∧ mf = .flat m ∧ CRep l s m ∧ TRep s m ∧ s.wt = w

/-- `MRelT w` is a relation the single-cycle step keeps: `CRep` and the values by `CRep.read` /
    `CRep.write`, the table invariant by `TRep.step`, the write policy by `step_agrees`.  `hacc.1`, `hacc.2` take
    `Accepted` apart as `widthOK ∧ inWord ∧ inData` (`C09Prog.accepted_iff`, `Iff.rfl`). -/
theorem MRelT.memSim (w : Bool) : MemSim (MRelT w) :=
  MemSim.lift (Q := fun l s m => CRep l s m ∧ TRep s m ∧ s.wt = w) (fun h => h.1.memOK)
    (fun ⟨hr, ht, hw⟩ bits a hacc c => by
      obtain ⟨v, r1, r2, r3⟩ := hr.read hacc c
      have t := ht.step hr.polOK hr.toRepr (.read bits a c) hacc.1
      rw [flatStep_read_fst] at t
      exact ⟨v, r1, r2, r3, t, (step_agrees hr.polOK hr.toRepr (.read bits a c) hacc.1).2.2.1.trans hw⟩)
    (fun ⟨hr, ht, hw⟩ bits a hacc v hv => by
      obtain ⟨m', r1, r2, r3⟩ := hr.write hacc hv
      have t := ht.step hr.polOK hr.toRepr (.write bits a v) ⟨hacc.1, hv⟩
      rw [flatStep_write_fst hacc.2 r2] at t
      exact ⟨m', r1, r2, r3, t,
        (step_agrees hr.polOK hr.toRepr (.write bits a v) ⟨hacc.1, hv⟩).2.2.1.trans hw⟩)

theorem singleRun_relT {w : Bool} {sc sf : St} (h : CacheRel sc sf) (ht : MRelT w sc.mem sf.mem) (n : Nat)
    (hacc : ∀ j, j < n → StepAccepted (singleRun j sf)) : MRelT w (singleRun n sc).mem (singleRun n sf).mem :=
  (singleRun_sim (MRelT.memSim w) (h.toStRel ht) n hacc).1.mem

/-- The rows `(word address, value)` of the data-memory table the user is shown, in the insertion
    order of `Memory.wordwise_repr()` (the GUI sorts them by address and formats the values: that is
    `Views.dataTable`, C17):
    computed from the BACKING store of the memory system. -/
def dataTable (ms : MemSys) : Except AddrErr (List (Int × Nat)) := reprEntries ms.backing 32

/-- The block of address `a` is resident in the data cache (never, without a cache). -/
def residentAt : MemSys → Int → Bool
  | .flat _, _ => false
  | .cached _ s, a => resident s a

theorem mrelT_init (g : Geo) (hg : GeoOK g) (l : Bool) (ha : ArchSim.Lemmas.C09.AssocOK l g.assoc)
    (wt : Bool) (penalty : Nat) (h : List Spec.ByteStore.Op) :
    MRelT wt (.cached l (preload (DSys.init (polOps l) wt g penalty (Mem.empty riscvCfg)) h))
      (.flat (Spec.ByteStore.run riscvCfg h)) := by
  rw [preload_eq]
  exact ⟨l, _, _, rfl, rfl, CRep.of_empty hg ha rfl (MemOK_run h), TRep.of_eq rfl, rfl⟩

theorem MRelT.backing_eq {mc mf : MemSys} (h : MRelT true mc mf) : mc.backing = mf.backing := by
  obtain ⟨l, s, m, rfl, rfl, _, ht, hw⟩ := h
  exact ht.wt hw

theorem MRelT.rows {w : Bool} {mc mf : MemSys} (hr : MRelT w mc mf) :
    ∃ rb rf, dataTable mc = .ok rb ∧ dataTable mf = .ok rf ∧
      (∀ a v, (a, v) ∈ rb → residentAt mc a = false → Mem.read mf.backing 32 a = some (.ok v)) ∧
      (∀ a v, (a, v) ∈ rf → residentAt mc a = true ∨ (a, v) ∈ rb) := by
  obtain ⟨l, s, m, rfl, rfl, hc, ht, _⟩ := hr
  obtain ⟨rb, rf, e1, e2, c1, c2⟩ := table_rows hc.cinv.toCInvS hc.memOK hc.log
  exact ⟨rb, rf, e1, e2, c1, c2 ht.cov⟩

theorem MRelT.table_eq_wt {mc mf : MemSys} (h : MRelT true mc mf) :
    mc.backing = mf.backing ∧ dataTable mc = dataTable mf :=
  ⟨h.backing_eq, by unfold dataTable; rw [h.backing_eq]⟩

end ArchSim.Lemmas.C12Prog
