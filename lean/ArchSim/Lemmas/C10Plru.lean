/-
The PLRU half of C10: the bottom-up loop of `PLRU.access` equals a top-down recursion on the heap array (`accessTD`),
which the tree abstraction maps to `accessT`; likewise the victim loop and `victimT`.
-/
import ArchSim.Model.Repl
import ArchSim.Spec.PlruTree
-- Trap: no proof here uses `ring`, but statements of C03 and C10 elaborate `2 ^ d` through instances this import
-- brings; without it they elaborate to different terms.
import Mathlib.Tactic.Ring

namespace ArchSim.Lemmas.C10
open ArchSim.Repl ArchSim.Spec.Plru

theorem log2_two_pow (d : Nat) : log2 (2 ^ d) = d := by
  unfold log2; exact Nat.log2_two_pow

/-- Heap arithmetic: with this, `Nat.add_mul` and `Nat.mul_assoc` the relations between a node and its
    children become linear in `k * 2 ^ d` and `2 ^ d`. -/
theorem mul_two_pow_succ (a d : Nat) : a * 2 ^ (d + 1) = 2 * (a * 2 ^ d) := by
  rw [Nat.pow_succ, ← Nat.mul_assoc, Nat.mul_comm]

/-! ### The access loop, also returning the final index -/

def loopIdx : Nat → List Bool → Nat → Option (List Bool × Nat)
  | 0,     t, i => some (t, i)
  | d + 1, t, i =>
    match plruAccessStep t i with
    | none => none
    | some (t', j) => loopIdx d t' j

theorem plruAccessLoop_eq (d : Nat) (t : List Bool) (i : Nat) :
    plruAccessLoop d t i = (loopIdx d t i).map Prod.fst := by
  induction d generalizing t i with
  | zero => rfl
  | succ d ih =>
    simp only [plruAccessLoop, loopIdx]
    cases plruAccessStep t i with
    | none => rfl
    | some r => exact ih _ _

theorem loopIdx_succ_top (d : Nat) (t : List Bool) (i : Nat) :
    loopIdx (d + 1) t i = (loopIdx d t i).bind (fun r => plruAccessStep r.1 r.2) := by
  induction d generalizing t i with
  | zero =>
    simp only [loopIdx, Option.bind_some]
    cases plruAccessStep t i <;> rfl
  | succ d ih =>
    rw [loopIdx]
    conv => rhs; rw [loopIdx]
    cases plruAccessStep t i with
    | none => rfl
    | some r => exact ih _ _

theorem plruAccessStep_left {t : List Bool} {k : Nat} (hk : k < t.length) :
    plruAccessStep t (2 * k + 1) = some (t.set k true, k) := by
  simp only [plruAccessStep, Nat.succ_ne_zero, if_false, Nat.add_sub_cancel, Nat.mul_add_mod,
    Nat.mul_div_cancel_left k (Nat.succ_pos 1), hk, if_true]
  rfl

theorem plruAccessStep_right {t : List Bool} {k : Nat} (hk : k < t.length) :
    plruAccessStep t (2 * k + 2) = some (t.set k false, k) := by
  have h1 : (2 * k + 2 - 1) / 2 = k := by
    rw [show 2 * k + 2 - 1 = 2 * k + 1 from rfl, Nat.mul_add_div (Nat.succ_pos 1)]; rfl
  simp only [plruAccessStep, Nat.succ_ne_zero, if_false, h1, Nat.mul_add_mod, hk, if_true]
  rfl

/-! ### Top-down access on the heap array -/

/-- Access leaf `i` of the subtree of depth `d` rooted at heap node `k`, written top-down; the
    assignments happen in the same order as in the loop (deepest first, root last). -/
def accessTD : (d k i : Nat) → List Bool → List Bool
  | 0, _, _, t => t
  | d + 1, k, i, t =>
    if i < 2 ^ d then (accessTD d (2 * k + 1) i t).set k true
    else (accessTD d (2 * k + 2) (i - 2 ^ d) t).set k false

@[simp] theorem accessTD_length (d k i : Nat) (t : List Bool) :
    (accessTD d k i t).length = t.length := by
  induction d generalizing k i t with
  | zero => rfl
  | succ d ih => simp only [accessTD]; split <;> simp [ih]

/-- Every inner node of the subtree of depth `d` at heap node `k` is inside a
    list of length `n`. -/
def SubtreeFits : (d k n : Nat) → Prop
  | 0, _, _ => True
  | d + 1, k, n => k < n ∧ SubtreeFits d (2 * k + 1) n ∧ SubtreeFits d (2 * k + 2) n

/-- The last inner node of the subtree has 1-based heap index `(k + 2) * 2 ^ (d - 1) - 1`; the bound says it is
    `≤ n`, doubled to avoid `d - 1`.  `of_length` is the case `k = 0`, `n = 2 ^ d - 1`. -/
theorem SubtreeFits.of_le {d k n : Nat} (h : (k + 2) * 2 ^ d ≤ 2 * (n + 1)) : SubtreeFits d k n := by
  induction d generalizing k with
  | zero => trivial
  | succ d ih =>
    have hpos := Nat.two_pow_pos d
    have : k ≤ k * 2 ^ d := Nat.le_mul_of_pos_right k hpos
    simp only [mul_two_pow_succ, Nat.add_mul] at h
    refine ⟨by omega, ih ?_, ih ?_⟩
    · simp only [Nat.add_mul, Nat.mul_assoc]; omega
    · simp only [Nat.add_mul, Nat.mul_assoc]; omega

theorem SubtreeFits.of_length {d n : Nat} (h : n = 2 ^ d - 1) : SubtreeFits d 0 n :=
  SubtreeFits.of_le (by have := Nat.two_pow_pos d; omega)

theorem leaf_left (d k i : Nat) :
    (k + 1) * 2 ^ (d + 1) - 1 + i = (2 * k + 1 + 1) * 2 ^ d - 1 + i := by
  simp only [mul_two_pow_succ, Nat.add_mul, Nat.mul_assoc]; omega

theorem leaf_right (d k i : Nat) (hi : 2 ^ d ≤ i) :
    (k + 1) * 2 ^ (d + 1) - 1 + i = (2 * k + 2 + 1) * 2 ^ d - 1 + (i - 2 ^ d) := by
  have := Nat.two_pow_pos d
  simp only [mul_two_pow_succ, Nat.add_mul, Nat.mul_assoc]; omega

/-- Leaf `i` of the subtree of depth `d` rooted at heap node `k` has heap index `(k + 1) * 2 ^ d - 1 + i` (the loop's
    start `index + assoc - 1` is the case `k = 0`; a step to a child is `leaf_left` / `leaf_right`): from there the loop
    climbs to `k`, and what it assigns on the way is the top-down recursion. -/
theorem loopIdx_eq_accessTD (d k i : Nat) (t : List Bool) (hi : i < 2 ^ d)
    (hr : SubtreeFits d k t.length) :
    loopIdx d t ((k + 1) * 2 ^ d - 1 + i) = some (accessTD d k i t, k) := by
  induction d generalizing k i t with
  | zero =>
    have : i = 0 := by simpa using hi
    subst this
    simp [loopIdx, accessTD]
  | succ d ih =>
    rw [loopIdx_succ_top]
    have hk := hr.1
    by_cases hlt : i < 2 ^ d
    · rw [leaf_left, ih (2 * k + 1) i t hlt hr.2.1]
      simp only [Option.bind_some, accessTD, hlt, if_true]
      exact plruAccessStep_left (by simpa using hk)
    · have hge : 2 ^ d ≤ i := Nat.le_of_not_lt hlt
      have hi' : i - 2 ^ d < 2 ^ d := by rw [Nat.pow_succ] at hi; omega
      rw [leaf_right d k i hge, ih (2 * k + 2) (i - 2 ^ d) t hi' hr.2.2]
      simp only [Option.bind_some, accessTD, hlt, if_false]
      exact plruAccessStep_right (by simpa using hk)

theorem plruAccess_eq {d : Nat} {p : Plru} (hp : PlruWF d p) {i : Nat} (hi : i < 2 ^ d) :
    plruAccess p i = some { p with tree := accessTD d 0 i p.tree } := by
  obtain ⟨h1, h2, h3⟩ := hp
  have := Nat.two_pow_pos d
  have hj : i + p.assoc - 1 = (0 + 1) * 2 ^ d - 1 + i := by rw [h2]; omega
  unfold plruAccess
  rw [plruAccessLoop_eq, h1, hj, loopIdx_eq_accessTD d 0 i p.tree hi (SubtreeFits.of_length h3)]
  rfl

/-- With depth ≥ 1 an out-of-range index fails in the first iteration of the loop: from `i ≥ assoc` the node
    assigned is `(i + assoc - 2) / 2 ≥ assoc - 1 = len(tree)`. -/
theorem plruAccess_lt_of_some {d : Nat} {p p' : Plru} (hp : PlruWF (d + 1) p) {i : Nat}
    (h : plruAccess p i = some p') : i < 2 ^ (d + 1) := by
  obtain ⟨h1, h2, h3⟩ := hp
  apply Classical.byContradiction
  intro hge
  have hpos := Nat.two_pow_pos (d + 1)
  have : plruAccessStep p.tree (i + p.assoc - 1) = none := by
    unfold plruAccessStep
    rw [if_neg (by omega)]
    simp only
    rw [if_neg (by omega)]
  simp [plruAccess, h1, plruAccessLoop, this] at h

/-- The disjunct `d = 0`: with depth 0 the loop body of `access` never runs, so ANY index is accepted (and the
    state unchanged); for depth ≥ 1 see `plruAccess_lt_of_some`. -/
theorem plruAccess_eq_some {d : Nat} {p p' : Plru} (hp : PlruWF d p) {i : Nat} :
    plruAccess p i = some p' ↔
      (d = 0 ∨ i < 2 ^ d) ∧ p' = { p with tree := accessTD d 0 i p.tree } := by
  cases d with
  | zero =>
    simp only [plruAccess, hp.1, plruAccessLoop, accessTD, Option.some.injEq, true_or, true_and]
    exact eq_comm
  | succ d =>
    constructor
    · intro h
      have hi := plruAccess_lt_of_some hp h
      rw [plruAccess_eq hp hi] at h
      exact ⟨Or.inr hi, (Option.some.inj h).symm⟩
    · rintro ⟨hi, rfl⟩
      exact plruAccess_eq hp (hi.resolve_left (Nat.succ_ne_zero d))

theorem plruAccess_wf {d : Nat} {p p' : Plru} (hp : PlruWF d p) {i : Nat}
    (h : plruAccess p i = some p') : PlruWF d p' := by
  obtain ⟨_, rfl⟩ := (plruAccess_eq_some hp).mp h
  exact ⟨hp.1, hp.2.1, by simpa using hp.2.2⟩

theorem plruInit_wf (d : Nat) : PlruWF d (plruInit (2 ^ d)) :=
  ⟨log2_two_pow d, rfl, by simp [plruInit]⟩

theorem plruRunFrom_wf {d : Nat} {p : Plru} (hp : PlruWF d p) (h : List Nat)
    (hh : ∀ x ∈ h, x < 2 ^ d) : ∃ p', plruRunFrom p h = some p' ∧ PlruWF d p' := by
  induction h generalizing p with
  | nil => exact ⟨p, rfl, hp⟩
  | cons x h ih =>
    have hx : x < 2 ^ d := hh x (by simp)
    have ha := plruAccess_eq hp hx
    obtain ⟨p', h1, h2⟩ := ih (plruAccess_wf hp ha) (fun y hy => hh y (by simp [hy]))
    exact ⟨p', by simpa [plruRunFrom, ha] using h1, h2⟩

theorem plruRunFrom_snoc (p : Plru) (h : List Nat) (x : Nat) :
    plruRunFrom p (h ++ [x]) = (plruRunFrom p h).bind (fun p' => plruAccess p' x) := by
  simp [plruRunFrom, List.foldlM_append]

/-! ### The victim loop -/

theorem victimT_lt {d : Nat} (T : PTree d) : victimT T < 2 ^ d := by
  induction T with
  | leaf => simp [victimT]
  | node b l r ihl ihr =>
    simp only [victimT, Nat.pow_succ]
    split <;> omega

theorem plruVictimLoop_eq (d k : Nat) (t : List Bool) (hr : SubtreeFits d k t.length) :
    plruVictimLoop d t k = some ((k + 1) * 2 ^ d - 1 + victimT (absAt t d k)) := by
  induction d generalizing k with
  | zero => simp [plruVictimLoop, victimT, absAt]
  | succ d ih =>
    have hk := hr.1
    simp only [plruVictimLoop, List.getElem?_eq_getElem hk, absAt, victimT,
      List.getD_eq_getElem?_getD, Option.getD_some]
    cases hb : t[k] with
    | true =>
      simp only [if_true]
      rw [ih _ hr.2.2]
      congr 1
      have := leaf_right d k (2 ^ d + victimT (absAt t d (2 * k + 2))) (by omega)
      rw [this]; congr 1; omega
    | false =>
      simp only [Bool.false_eq_true, if_false]
      rw [ih _ hr.2.1, leaf_left]

theorem plruVictim_eq {d : Nat} {p : Plru} (hp : PlruWF d p) :
    plruVictim p = some (victimT (absTree d p)) := by
  obtain ⟨h1, h2, h3⟩ := hp
  have := Nat.two_pow_pos d
  unfold plruVictim
  rw [h1, plruVictimLoop_eq d 0 p.tree (SubtreeFits.of_length h3), h2]
  simp only [absTree]
  rw [if_pos (by omega)]
  congr 1
  omega

/-! ### The region of the array a subtree occupies -/

/-- Heap index `n` is an inner node of the subtree of depth `d` rooted at heap node `k`. -/
def inSub : (d k n : Nat) → Prop
  | 0, _, _ => False
  | d + 1, k, n => n = k ∨ inSub d (2 * k + 1) n ∨ inSub d (2 * k + 2) n

/-- With 1-based heap indices the root of a subtree is reached from each of its nodes by halving. -/
theorem inSub_anc {d k n : Nat} (h : inSub d k n) : ∃ j, (n + 1) / 2 ^ j = k + 1 := by
  induction d generalizing k with
  | zero => exact h.elim
  | succ d ih =>
    rcases h with h | h | h
    · exact ⟨0, by rw [h, Nat.pow_zero, Nat.div_one]⟩
    · obtain ⟨j, hj⟩ := ih h
      exact ⟨j + 1, by rw [Nat.pow_succ, ← Nat.div_div_eq_div_mul, hj]; omega⟩
    · obtain ⟨j, hj⟩ := ih h
      exact ⟨j + 1, by rw [Nat.pow_succ, ← Nat.div_div_eq_div_mul, hj]; omega⟩

theorem inSub_ge {d k n : Nat} (h : inSub d k n) : k ≤ n := by
  obtain ⟨j, hj⟩ := inSub_anc h
  have := Nat.div_le_self (n + 1) (2 ^ j)
  omega

/-- Sibling subtrees occupy disjoint parts of the array: halving a node of one never reaches the
    root of the other, since halving the nearer root at least once falls below both. -/
theorem inSub_disjoint {d d' k n : Nat} (h1 : inSub d (2 * k + 1) n) (h2 : inSub d' (2 * k + 2) n) :
    False := by
  obtain ⟨j, a⟩ := inSub_anc h1
  obtain ⟨j', b⟩ := inSub_anc h2
  rcases Nat.lt_trichotomy j j' with h | h | h
  · obtain ⟨e, rfl⟩ := Nat.exists_eq_add_of_lt h
    rw [Nat.add_assoc, Nat.pow_add, ← Nat.div_div_eq_div_mul, a, Nat.pow_succ,
      ← Nat.div_div_eq_div_mul] at b
    have := Nat.div_le_self ((2 * k + 1 + 1) / 2 ^ e) 2
    have := Nat.div_le_self (2 * k + 1 + 1) (2 ^ e)
    omega
  · rw [h, b] at a; omega
  · obtain ⟨e, rfl⟩ := Nat.exists_eq_add_of_lt h
    rw [Nat.add_assoc, Nat.pow_add, ← Nat.div_div_eq_div_mul, b, Nat.pow_succ,
      ← Nat.div_div_eq_div_mul] at a
    have := Nat.div_le_self ((2 * k + 2 + 1) / 2 ^ e) 2
    have := Nat.div_le_self (2 * k + 2 + 1) (2 ^ e)
    omega

/-! ### The abstraction commutes with access -/

theorem absAt_congr {t t' : List Bool} {d k : Nat} (h : ∀ n, inSub d k n → t[n]? = t'[n]?) :
    absAt t d k = absAt t' d k := by
  induction d generalizing k with
  | zero => rfl
  | succ d ih =>
    simp only [absAt, List.getD_eq_getElem?_getD]
    rw [h k (Or.inl rfl), ih (fun n hn => h n (Or.inr (Or.inl hn))),
      ih (fun n hn => h n (Or.inr (Or.inr hn)))]

theorem accessTD_getElem?_of_not_inSub {d k i n : Nat} {t : List Bool} (h : ¬ inSub d k n) :
    (accessTD d k i t)[n]? = t[n]? := by
  induction d generalizing k i with
  | zero => rfl
  | succ d ih =>
    have hk : k ≠ n := fun e => h (Or.inl e.symm)
    simp only [accessTD]
    split
    · rw [List.getElem?_set_ne hk]; exact ih (fun hc => h (Or.inr (Or.inl hc)))
    · rw [List.getElem?_set_ne hk]; exact ih (fun hc => h (Or.inr (Or.inr hc)))

theorem absAt_set_lt {t : List Bool} {d k c : Nat} (b : Bool) (hc : k < c) :
    absAt (t.set k b) d c = absAt t d c :=
  absAt_congr (fun n hn => List.getElem?_set_ne (by have := inSub_ge hn; omega))

theorem absAt_accessTD (d k i : Nat) (t : List Bool) (hi : i < 2 ^ d)
    (hr : SubtreeFits d k t.length) :
    absAt (accessTD d k i t) d k = accessT (absAt t d k) i := by
  induction d generalizing k i with
  | zero => rfl
  | succ d ih =>
    have hk := hr.1
    by_cases hlt : i < 2 ^ d
    · simp only [accessTD, hlt, if_true, absAt, accessT]
      rw [absAt_set_lt _ (by omega), absAt_set_lt _ (by omega), ih _ _ hlt hr.2.1]
      congr 1
      · simp [hk]
      · exact absAt_congr (fun n hn =>
          accessTD_getElem?_of_not_inSub (fun hc => inSub_disjoint hc hn))
    · have hi' : i - 2 ^ d < 2 ^ d := by rw [Nat.pow_succ] at hi; omega
      simp only [accessTD, hlt, if_false, absAt, accessT]
      rw [absAt_set_lt _ (by omega), absAt_set_lt _ (by omega), ih _ _ hi' hr.2.2]
      congr 1
      · simp [hk]
      · exact absAt_congr (fun n hn =>
          accessTD_getElem?_of_not_inSub (fun hc => inSub_disjoint hn hc))

theorem absTree_plruAccess {d : Nat} {p p' : Plru} (hp : PlruWF d p) {i : Nat} (hi : i < 2 ^ d)
    (h : plruAccess p i = some p') : absTree d p' = accessT (absTree d p) i := by
  rw [plruAccess_eq hp hi] at h
  cases h
  exact absAt_accessTD d 0 i p.tree hi (SubtreeFits.of_length hp.2.2)

/-! ### The tree alone: after an access to `i` every node on the path points away from `i` -/

theorem pointsAway_accessT {d : Nat} (T : PTree d) (i : Nat) : pointsAway (accessT T i) i := by
  induction T generalizing i with
  | leaf => trivial
  | node b l r ihl ihr =>
    simp only [accessT]
    split
    · rename_i h; simp only [pointsAway, h, if_true, true_and]; exact ihl i
    · rename_i h; simp only [pointsAway, h, if_false, true_and]; exact ihr _

theorem accessT_of_pointsAway {d : Nat} (T : PTree d) (i : Nat) (h : pointsAway T i) :
    accessT T i = T := by
  induction T generalizing i with
  | leaf => rfl
  | node b l r ihl ihr =>
    simp only [pointsAway] at h
    simp only [accessT]
    split
    · rename_i hlt; rw [if_pos hlt] at h; rw [ihl i h.2, h.1]
    · rename_i hlt; rw [if_neg hlt] at h; rw [ihr _ h.2, h.1]

theorem accessT_idem {d : Nat} (T : PTree d) (i : Nat) : accessT (accessT T i) i = accessT T i :=
  accessT_of_pointsAway _ _ (pointsAway_accessT T i)

theorem victimT_ne_of_pointsAway {d : Nat} (T : PTree (d + 1)) (i : Nat)
    (h : pointsAway T i) : victimT T ≠ i := by
  cases T with
  | node b l r =>
    simp only [pointsAway] at h
    simp only [victimT]
    have hl := victimT_lt l
    by_cases hlt : i < 2 ^ d
    · rw [if_pos hlt] at h; rw [h.1]; simp only [if_true]; omega
    · rw [if_neg hlt] at h; rw [h.1]; simp only [Bool.false_eq_true, if_false]; omega

theorem victimT_accessT_ne {d : Nat} (hd : 0 < d) (T : PTree d) (i : Nat) :
    victimT (accessT T i) ≠ i := by
  cases d with
  | zero => omega
  | succ d => exact victimT_ne_of_pointsAway _ _ (pointsAway_accessT T i)

/-! ### Array-level idempotence and frame -/

theorem accessTD_set_comm {d c k i : Nat} {t : List Bool} (b : Bool) (hk : k < c) :
    accessTD d c i (t.set k b) = (accessTD d c i t).set k b := by
  induction d generalizing c i with
  | zero => rfl
  | succ d ih =>
    simp only [accessTD]
    split
    · rw [ih (by omega), List.set_comm _ _ (by omega)]
    · rw [ih (by omega), List.set_comm _ _ (by omega)]

theorem accessTD_idem (d k i : Nat) (t : List Bool) :
    accessTD d k i (accessTD d k i t) = accessTD d k i t := by
  induction d generalizing k i with
  | zero => rfl
  | succ d ih =>
    simp only [accessTD]
    split
    · rw [accessTD_set_comm _ (by omega), ih, List.set_set]
    · rw [accessTD_set_comm _ (by omega), ih, List.set_set]

theorem plruAccess_idem {d : Nat} {p p' : Plru} (hp : PlruWF d p) {i : Nat}
    (h : plruAccess p i = some p') : plruAccess p' i = some p' := by
  have hp' := plruAccess_wf hp h
  obtain ⟨hr, rfl⟩ := (plruAccess_eq_some hp).mp h
  exact (plruAccess_eq_some hp').mpr ⟨hr, by simp only [accessTD_idem]⟩

theorem accessTD_getElem?_of_not_path {d k i n : Nat} {t : List Bool} (h : n ∉ pathFrom d k i) :
    (accessTD d k i t)[n]? = t[n]? := by
  induction d generalizing k i with
  | zero => rfl
  | succ d ih =>
    simp only [pathFrom, List.mem_cons, not_or] at h
    have hk : k ≠ n := fun e => h.1 e.symm
    simp only [accessTD]
    split
    · rename_i hlt; rw [if_pos hlt] at h; rw [List.getElem?_set_ne hk]; exact ih h.2
    · rename_i hlt; rw [if_neg hlt] at h; rw [List.getElem?_set_ne hk]; exact ih h.2

/-! ### The path in the loop's own terms -/

/-- Closed form of the path, in the loop's own terms: with 1-based heap indices the loop variable
    starts at `J = (k+1)·2^d + i` and is halved `d` times; the nodes assigned are `J / 2^m - 1`. -/
theorem mem_pathFrom_iff (d k i n : Nat) (hi : i < 2 ^ d) :
    n ∈ pathFrom d k i ↔ ∃ m, 1 ≤ m ∧ m ≤ d ∧ n + 1 = ((k + 1) * 2 ^ d + i) / 2 ^ m := by
  induction d generalizing k i with
  | zero =>
    simp only [pathFrom, List.not_mem_nil, false_iff]
    rintro ⟨m, h1, h2, _⟩; omega
  | succ d ih =>
    have hpos := Nat.two_pow_pos d
    have htop : ((k + 1) * 2 ^ (d + 1) + i) / 2 ^ (d + 1) = k + 1 := by
      rw [Nat.add_comm, Nat.add_mul_div_right _ _ (Nat.two_pow_pos (d + 1)), Nat.div_eq_of_lt hi]
      omega
    have key : ∀ (c i' : Nat), i' < 2 ^ d → (c + 1) * 2 ^ d + i' = (k + 1) * 2 ^ (d + 1) + i →
        (n ∈ k :: pathFrom d c i' ↔
          ∃ m, 1 ≤ m ∧ m ≤ d + 1 ∧ n + 1 = ((k + 1) * 2 ^ (d + 1) + i) / 2 ^ m) := by
      intro c i' hi' hJ
      rw [List.mem_cons, ih c i' hi', hJ]
      constructor
      · rintro (h | ⟨m, h1, h2, h3⟩)
        · exact ⟨d + 1, by omega, by omega, by rw [htop, h]⟩
        · exact ⟨m, h1, by omega, h3⟩
      · rintro ⟨m, h1, h2, h3⟩
        by_cases hm : m = d + 1
        · left; rw [hm, htop] at h3; omega
        · right; exact ⟨m, h1, by omega, h3⟩
    simp only [pathFrom]
    by_cases hlt : i < 2 ^ d
    · rw [if_pos hlt]
      refine key (2 * k + 1) i hlt ?_
      simp only [mul_two_pow_succ, Nat.add_mul, Nat.mul_assoc]; omega
    · rw [if_neg hlt]
      have hi' : i - 2 ^ d < 2 ^ d := by rw [Nat.pow_succ] at hi; omega
      refine key (2 * k + 2) (i - 2 ^ d) hi' ?_
      simp only [mul_two_pow_succ, Nat.add_mul, Nat.mul_assoc]; omega

end ArchSim.Lemmas.C10
