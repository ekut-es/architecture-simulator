/-
Five-stage pipeline: a fault carries the address and instruction of the input latch of the stage that raised,
and every non-empty latch holds the instruction stored at its address (the invariant `PipeOK`, over the loader's
guarantee `ImemOK`); hence the reported instruction is the one stored at the reported address.
-/
import ArchSim.Lemmas.C15Run
import ArchSim.Lemmas.C13Load
import ArchSim.Lemmas.C02Latches
import ArchSim.Lemmas.C07Finish

namespace ArchSim.Lemmas.C15
open ArchSim ArchSim.Rv ArchSim.Pipe
variable {im : IMem} {p : PSt} {s : St}

/-! ### which stage raised -/

theorem exStage_fault {inp l2 l3 : Option Latch} {f : PFault}
    (h : (exStage s inp l2 l3).fault = some f) :
    ∃ d, inp = some d ∧ f.addr = d.addr ∧ f.instr = d.instr ∧
      ((∃ e, f.fault = .mem e) ∨
       (∃ c, f.fault = .ecallCode c ∧ f.instr.op = .ecall ∧ c = s.regs 17 ∧ c ∉ ecallCodes)) := by
  cases inp with
  | none => cases h
  | some d =>
    obtain ⟨ha, hi, hk | ⟨c, m, hc, hop, hp⟩⟩ := C02Split.exStage_fault_origin s d l2 l3 f h
    · exact ⟨d, rfl, ha, hi, .inl hk⟩
    · exact ⟨d, rfl, ha, hi, .inr ⟨c, hc, hi ▸ hop, processEcall_invalid hp⟩⟩

theorem memStage_fault {inp : Option Latch} {f : PFault}
    (h : (memStage s inp).fault = some f) :
    ∃ e, inp = some e ∧ f.addr = e.addr ∧ f.instr = e.instr ∧ ∃ e', f.fault = .mem e' := by
  cases inp with
  | none => cases h
  | some e => exact ⟨e, rfl, C02Split.memStage_fault_origin s e f h⟩

/-- The architectural state the EX stage sees in `Pipe.step`. -/
def exState (p : PSt) : St :=
  let s0 := { p.st with cycles := p.st.cycles + 1 }
  let s1 := match p.stalled with
    | none => (ifStage s0).1
    | some _ => s0
  (wbStage s1 p.l3).1

theorem exState_eq (p : PSt) : exState p = (wbOut p).1 := by
  unfold exState wbOut ifOut
  cases p.stalled <;> rfl

theorem step_fault_cases {f : PFault} (h : (Pipe.step p).fault = some f) :
    (exStage (exState p) (exInput p) p.l2 p.l3).fault = some f ∨
    ((exStage (exState p) (exInput p) p.l2 p.l3).fault = none ∧
     (memStage (exStage (exState p) (exInput p) p.l2 p.l3).st (memInput p)).fault = some f) := by
  rw [exState_eq]
  show (exOut p).fault = some f ∨ ((exOut p).fault = none ∧ (memOut p).fault = some f)
  rw [Pipe.step_eq] at h
  split at h
  · next hf' => cases h; exact .inl hf'
  · next hnone =>
    split at h
    · next hf' => cases h; exact .inr ⟨hnone, hf'⟩
    · cases h

/-! ### every latch holds the instruction stored at its address -/

/-- A non-empty latch holds the instruction that the instruction memory stores at its address. -/
def LatchOK (im : IMem) (l : Option Latch) : Prop :=
  ∀ x, l = some x → im.instrAt x.addr = some x.instr

theorem LatchOK.congr {im im' : IMem} {l : Option Latch} (h : im'.prog = im.prog) (hl : LatchOK im l) :
    LatchOK im' l := fun x hx => by rw [instrAt_congr h]; exact hl x hx

theorem latchOK_none (im : IMem) : LatchOK im none := fun _ h => by cases h

/-- The loader's guarantee about the instruction memory: at most 4096 instructions, and a cache (if
    any) that satisfies the C11 invariant. -/
def ImemOK (im : IMem) : Prop :=
  im.prog.length ≤ 4096 ∧ ∀ c, im.cache = some c → ArchSim.Lemmas.C11.IInv im c

theorem ImemOK.fetch (h : ImemOK im) (pc : Int) : ImemOK (im.fetch pc).imem := by
  cases hc : im.cache with
  | none => rw [(ArchSim.Lemmas.C02Split.fetch_uncached_frame im pc hc).1]; exact h
  | some c =>
    obtain ⟨c', h1, h2, _⟩ := (ArchSim.Lemmas.C11.fetch_spec hc (h.2 c hc) pc).imem
    rw [h1]
    exact ⟨h.1, fun c'' hc'' => by cases hc''; exact h2.congr rfl⟩

theorem ifStage_ok (h : ImemOK s.imem) : ImemOK (ifStage s).1.imem ∧ LatchOK s.imem (ifStage s).2 := by
  unfold ifStage
  cases hi : s.imem.instrAt s.pc with
  | none => exact ⟨h, latchOK_none _⟩
  | some i =>
    simp only [fetch_res h.1 h.2 hi]
    refine ⟨h.fetch s.pc, ?_⟩
    intro x hx
    cases hx
    exact hi

/-- The pipeline invariant: instruction memory as the loader leaves it, and every latch — the five
    pipeline registers and the two registers preserved during a stall — holds the instruction stored
    at its address. -/
structure PipeOK (p : PSt) : Prop where
  imem : ImemOK p.st.imem
  l0 : LatchOK p.st.imem p.l0
  l1 : LatchOK p.st.imem p.l1
  l2 : LatchOK p.st.imem p.l2
  l3 : LatchOK p.st.imem p.l3
  l4 : LatchOK p.st.imem p.l4
  p0 : ∀ st, p.stalled = some st → LatchOK p.st.imem st.p0
  p1 : ∀ st, p.stalled = some st → LatchOK p.st.imem st.p1

def StallOK (im : IMem) (o : Option Stall) : Prop :=
  ∀ st, o = some st → LatchOK im st.p0 ∧ LatchOK im st.p1

theorem stallOK_none (im : IMem) : StallOK im none := fun _ h => by cases h

theorem StallOK.countdown {im : IMem} {o : Option Stall} : StallOK im o →
    StallOK im (match o with
      | none => none
      | some st => if st.rem - 1 = 0 then none else some { st with rem := st.rem - 1 }) := by
  intro hs st hst
  split at hst
  · cases hst
  · rename_i st' 
    split at hst
    · cases hst
    · cases hst; exact hs st' rfl

theorem ifOut_ok (h : PipeOK p) : ImemOK (ifOut p).1.imem ∧ LatchOK p.st.imem (ifOut p).2 := by
  unfold ifOut
  cases p.stalled with
  | none => exact ifStage_ok (s := tick p) h.imem
  | some st => exact ⟨h.imem, h.l0⟩

/-- `PipeOK` is the instance of `AllP` for "stored at that address"; the instruction memory itself may
    move (cache state), the program does not. -/
theorem PipeOK.allP (h : PipeOK p) : AllP (fun a i => p.st.imem.instrAt a = some i) p :=
  ⟨⟨h.l0, h.l1, h.l2, fun st hs => ⟨h.p0 st hs, h.p1 st hs⟩⟩, h.l3, h.l4⟩

theorem step_ok (h : PipeOK p) : PipeOK (Pipe.step p).p := by
  obtain ⟨him1, hn0⟩ := ifOut_ok h
  have hA := h.allP.step hn0
  have c : ∀ {l}, LatchOK p.st.imem l → LatchOK (Pipe.step p).p.st.imem l :=
    fun hl => hl.congr (ArchSim.Lemmas.C07.step_prog p)
  exact ⟨step_st_imem p ▸ him1, c hA.l0, c hA.l1, c hA.l2, c hA.l3, c hA.l4,
    fun st hs => c (hA.stl st hs).1, fun st hs => c (hA.stl st hs).2⟩

theorem step_fault_instrAt (h : PipeOK p) {f : PFault} (hf : (Pipe.step p).fault = some f) :
    p.st.imem.instrAt f.addr = some f.instr := by
  obtain ⟨-, hex, hme, -⟩ := h.allP.toFrontP.inputs
  rcases step_fault_cases hf with h1 | ⟨_, h2⟩
  · obtain ⟨d, hd, ha, hi, -⟩ := exStage_fault h1
    rw [ha, hi]; exact hex d hd
  · obtain ⟨d, hd, ha, hi, -⟩ := memStage_fault h2
    rw [ha, hi]; exact hme d hd

theorem init_ok {st : St} (h : ImemOK st.imem) (hz : Bool) : PipeOK (PSt.init st hz) :=
  ⟨h, latchOK_none _, latchOK_none _, latchOK_none _, latchOK_none _, latchOK_none _,
   fun _ h => (by cases h), fun _ h => (by cases h)⟩

/-- `n` pipeline steps (faults ignored: the state after a raising step is the one Python leaves). -/
def pipeRun : Nat → PSt → PSt
  | 0, p => p
  | n + 1, p => pipeRun n (Pipe.step p).p

theorem pipeRun_ok (h : PipeOK p) (n : Nat) : PipeOK (pipeRun n p) := by
  induction n generalizing p with
  | zero => exact h
  | succ n ih => exact ih (step_ok h)

theorem load_imemOK (s : St) (text : String)
    (hc : ∀ c, s.imem.cache = some c → ArchSim.Lemmas.C09.AssocOK c.isLru c.geo.assoc) :
    ImemOK (Asm.load s text).st.imem := by
  obtain ⟨m, prog, -, hl, he⟩ := Asm.load_shape s text
  rw [he]
  refine ⟨hl, fun c' hc' => ?_⟩
  cases hcs : s.imem.cache with
  | none => rw [hcs] at hc'; cases hc'
  | some c =>
    rw [hcs] at hc'
    cases hc'
    exact ArchSim.Lemmas.C11.IInv_init _ _ _ _ (hc c hcs)

theorem simStep_five_fault {s : Sim.RSim} (h5 : s.five = true) {a : Int} {oi : Option Instr} {f : Fault} :
    (Sim.step s).fault = some (a, oi, f) ↔
      (Sim.isDone s = false ∧ ∃ pf, (Pipe.step s.p).fault = some pf ∧ a = pf.addr ∧ oi = some pf.instr ∧
        f = pf.fault) := by
  rw [Sim.step_fault_iff, h5]
  simp only [Sim.exec, if_true, Option.map_eq_some_iff, Prod.mk.injEq]
  exact and_congr_right fun _ => exists_congr fun pf => and_congr_right fun _ =>
    ⟨fun ⟨h1, h2, h3⟩ => ⟨h1.symm, h2.symm, h3.symm⟩, fun ⟨h1, h2, h3⟩ => ⟨h1.symm, h2.symm, h3.symm⟩⟩

end ArchSim.Lemmas.C15
