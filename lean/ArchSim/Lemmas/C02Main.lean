/-
The abstraction commutes with one cycle: a cycle that performs a correct-path fetch (`fetchOK`) is
one step of the sequential machine, any other leaves the abstraction alone. The fetch case rests on
`seqStep_cID`: a full completion of a freshly fetched instruction, from any observationally equal state, is
one sequential step (the two families of completion functions meet in `splitTail_cID`). A fault a stage
raises is the fault the abstraction predicts.
-/
import ArchSim.Lemmas.C02NoFlush
import ArchSim.Spec.PipeSeq

namespace ArchSim.Pipe
open ArchSim ArchSim.Rv ArchSim.Lemmas.C02Split

/-! ### One sequential step is the full completion of the fetched instruction -/

/-- `splitStep` after the fetch: the completion of the decoded instruction. -/
def splitTail (s1 : St) (f : Latch) : Rv.StepOut :=
  completeIDEX (idStage false s1.regs (some f) none none) s1

/-- State and IF/ID latch after a successful fetch in state `s`. -/
def fetchSt (s : St) : St :=
  { s with imem := (s.imem.fetch s.pc).imem, cycles := s.cycles + 1 + (s.imem.fetch s.pc).extra, pc := s.pc + 4 }
def fetchLatch (s : St) (i : Instr) : Latch := { instr := i, addr := s.pc, pc4 := s.pc + 4 }

theorem splitStep_instr (s : St) (i : Instr) (hi : s.imem.instrAt s.pc = some i) (hs : FetchSound s.imem) :
    splitStep s = splitTail (fetchSt s) (fetchLatch s i) := by
  rw [splitStep_eq_complete, ifStage_instr { s with cycles := s.cycles + 1 } i hi hs]
  rfl

theorem splitStep_noinstr (s : St) (hi : s.imem.instrAt s.pc = none) :
    splitStep s = { st := { s with cycles := s.cycles + 1 }, fault := none } := by
  unfold splitStep
  simp only []
  rw [ifStage_noinstr { s with cycles := s.cycles + 1 } hi]

theorem completeMEMWB_cWB (s : St) (m : Option Latch) (fl : Option Int) :
    (completeMEMWB m fl s).st =
      { (cWB s m (orElseFl (latchFlush m) fl)).st with pc := (cWB s m (orElseFl (latchFlush m) fl)).pcOr s.pc } := by
  unfold completeMEMWB cWB
  -- in both families the flush raised furthest down the pipe wins
  rw [← wbStage_pc s m, firstFlush_eq]
  cases orElseFl (latchFlush (wbStage s m).2) (orElseFl (latchFlush m) fl) <;> rfl

theorem splitTail_cID (s1 : St) (f : Latch) :
    match (splitTail s1 f).fault with
    | some ft => (cID s1 (some f)).red = some (ft.1, some ft.2) ∧ Sim (cID s1 (some f)).st s1 ∧ ft.1 = f.addr ∧
        (cID s1 (some f)).log = []
    | none => (cID s1 (some f)).flt = none ∧ (splitTail s1 f).st =
        { (cID s1 (some f)).st with pc := (cID s1 (some f)).pcOr s1.pc } ∧ (cID s1 (some f)).log = [f.addr] := by
  unfold splitTail cID
  generalize hd : idStage false s1.regs (some f) none none = dl
  have hdl : ∃ d, dl = some d ∧ d.addr = f.addr := by rw [← hd, idStage_some]; exact ⟨_, rfl, rfl⟩
  obtain ⟨d, rfl, hda⟩ := hdl
  unfold completeIDEX
  cases hxf : (exStage s1 (some d) none none).fault with
  | some ft =>
    simp only []
    unfold cEX; rw [hxf]
    exact ⟨rfl, Sim.rfl' _, by rw [(exStage_fault_origin _ _ _ _ _ hxf).1, hda], rfl⟩
  | none =>
    simp only []
    rw [cEX_nofault _ _ hxf]
    obtain ⟨e, he, hei, _, hea, _⟩ := exStage_ok_latch s1 d none none hxf
    unfold completeEXMEM
    cases hmf : (memStage (exStage s1 (some d) none none).st (exStage s1 (some d) none none).latch).fault with
    | some ft =>
      simp only []
      unfold cMEM; rw [hmf]
      refine ⟨rfl, ?_, ?_, rfl⟩
      · rcases exStage_st_run s1 (some d) none none with h | ⟨d', hd', hop, _, _⟩
        · simp only [stuckC]; rw [h]; exact Sim.rfl' _
        · cases hd'
          rw [he, memStage_ecall_nofault _ e (by rw [hei]; exact hop)] at hmf; cases hmf
      · rw [he] at hmf; rw [(memStage_fault_origin _ _ _ hmf).1, hea, hda]
    | none =>
      simp only []
      rw [cMEM_nofault _ _ _ hmf]
      refine ⟨cWB_flt _ _ _, by rw [completeMEMWB_cWB, memStage_pc, exStage_pc], ?_⟩
      -- the instruction retires, under the address every stage handed on
      rw [he] at hmf ⊢
      obtain ⟨rd, hm⟩ := memStage_ok_latch _ e hmf
      rw [cWB_log, hm]
      simp [latchLog, memLatch, hea, hda]

/-- One sequential step from `s` is the full completion of the fetched instruction, run from ANY state `u`
    observationally equal to `s`: the abstraction's state in `abs_step_sim`, the other machine's in
    `seqStep_simP`; their instruction caches differ from that of `s`. -/
theorem seqStep_cID (s : St) (i : Instr) (hi : s.imem.instrAt s.pc = some i) (hs : FetchSound s.imem)
    (u : St) (hu : Sim u s) :
    Sim (seqStep s) (cID u (some (fetchLatch s i))).st ∧
      (seqStep s).pc = (cID u (some (fetchLatch s i))).pcOr (s.pc + 4) ∧
      seqFault s = (cID u (some (fetchLatch s i))).flt ∧
      seqLog s = (cID u (some (fetchLatch s i))).log := by
  have h1 : Sim s (fetchSt s) := ⟨rfl, rfl, rfl, rfl, rfl, rfl, rfl, ((hs _ _ hi).2).symm⟩
  have hc := cID_sim (hu.trans h1) (some (fetchLatch s i))
  have ht := splitTail_cID (fetchSt s) (fetchLatch s i)
  unfold seqLog seqStep seqFault
  rw [splitStep_instr s i hi hs, hi]
  cases hft : (splitTail (fetchSt s) (fetchLatch s i)).fault with
  | some ft =>
    rw [hft] at ht
    simp only []
    refine ⟨h1.trans (ht.2.1.symm.trans hc.2.symm), ?_, ?_, (hc.3.trans ht.2.2.2).symm⟩
    · rw [pcOr_of_red (hc.1.trans ht.1), ht.2.2.1]; rfl
    · unfold Comp.flt; rw [hc.1, ht.1]
  | none =>
    rw [hft] at ht
    simp only [] at ht ⊢
    rw [ht.2.1]
    refine ⟨(sim_setPc _ _).trans hc.2.symm, ?_, ?_, (hc.3.trans ht.2.2).symm⟩
    · unfold Comp.pcOr; rw [hc.1]; rfl
    · unfold Comp.flt at ht ⊢; rw [hc.1]; exact ht.1.symm

theorem seqStep_noinstr (s : St) (hi : s.imem.instrAt s.pc = none) : SimP (seqStep s) s := by
  unfold seqStep
  rw [splitStep_noinstr s hi]
  exact ⟨⟨rfl, rfl, rfl, rfl, rfl, rfl, rfl, rfl⟩, rfl⟩

/-! ### One cycle -/

/-- This cycle performs a correct-path fetch: not stalled, nothing in flight redirects / exits /
    faults, and an instruction exists at the physical pc. -/
def fetchOK (p : PSt) : Bool :=
  p.stalled.isNone && (absC p).red.isNone && (p.st.imem.instrAt p.st.pc).isSome

theorem SimP.of_csim {pre : List Int} {c d : Comp} (h : CSimL pre c d) (x y : Int) (hxy : d.red = none → x = y) :
    SimP { c.st with pc := c.pcOr x } { d.st with pc := d.pcOr y } := by
  refine ⟨h.2.withPc _ _, ?_⟩
  show c.pcOr x = d.pcOr y
  unfold Comp.pcOr
  rw [h.1]
  cases hr : d.red with
  | none => exact hxy hr
  | some _ => rfl

theorem fetchOK_false_of_red {p : PSt} (h : (absC p).red.isSome = true) : fetchOK p = false := by
  unfold fetchOK
  cases hr : (absC p).red with
  | none => rw [hr] at h; cases h
  | some a => simp

/-- Without a correct-path fetch a cycle without flush appends nothing to the chain, and the pc stays
    unless a redirect is pending. -/
theorem noflushC_quiet (p : PSt) (hq : fetchOK p = false) :
    noflushC p = absC p ∧ ((absC p).red = none → (ifOut p).1.pc = p.st.pc) := by
  rcases Option.eq_none_or_eq_some p.stalled with hs | ⟨st, hs⟩
  · rw [noflushC_unstalled p hs]
    cases hr : (absC p).red with
    | some a => exact ⟨bind_of_red_some hr _, fun h => nomatch h⟩
    | none =>
      have hi : p.st.imem.instrAt p.st.pc = none := by simpa [fetchOK, hs, hr] using hq
      rw [ifOut_noinstr p hs hi]
      exact ⟨by simp only [cID_none, bind_pure_right'], fun _ => rfl⟩
  · rw [ifOut_stalled p st hs]
    exact ⟨noflushC_stalled p st hs, fun _ => rfl⟩

/-- Against the sequential machine in any state `t` observationally equal to the abstraction (its
    instruction cache may be in a different state): the step of the induction over runs. The only use
    of the interlock is `RawFree p` — this cycle's decode has no read-after-write dependency on the
    two older latches — which hazard detection guarantees, and so does a hazard-free program with
    detection off (C08). -/
theorem abs_step_sim (p : PSt) (hI : PInv p) (hz : RawFree p) (hf : (step p).fault = none) (t : St)
    (ht : FetchSound t.imem) (hsim : SimP (abs p) t) :
    SimP (abs (step p).p) (if fetchOK p then seqStep t else t) ∧
    absF (step p).p = (if fetchOK p then seqFault t else absF p) ∧
    latchLog p.l3 ++ absLog (step p).p = absLog p ++ (if fetchOK p then seqLog t else []) := by
  obtain ⟨hex, hme⟩ := (step_fault_none_iff p).1 hf
  rw [step_p p hex hme]
  cases h4 : latchFlush (wbOut p).2 with
  | some a =>
    obtain ⟨h, hr, hF, hL⟩ := abs_flush4 p hI a h4
    rw [fetchOK_false_of_red hr]; exact ⟨h.trans hsim, hF, by simpa using hL⟩
  | none =>
    cases h3 : latchFlush (memOut p).latch with
    | some a =>
      obtain ⟨h, hr, hF, hL⟩ := abs_flush3 p hI hme a h4 h3
      rw [fetchOK_false_of_red hr]; exact ⟨h.trans hsim, hF, by simpa using hL⟩
    | none =>
      cases h2 : latchFlush (exOut p).latch with
      | some a =>
        obtain ⟨h, hr, hF, hL⟩ := abs_flush2 p hI hex hme a h4 h3 h2
        rw [fetchOK_false_of_red hr]; exact ⟨h.trans hsim, hF, by simpa using hL⟩
      | none =>
        -- no flush: the in-flight instructions advance, and a correct-path fetch is one sequential step
        have hc := abs_noflush p hI hex hme h4 h3 h2 hz
        have hpc : (nextP p).st.pc = (ifOut p).1.pc := by
          rw [nextP, finishStep_noflush _ _ _ _ _ _ _ h4 h3 h2]
          simp [stallBump_pc, memOut_pc]
        generalize nextP p = o at hc hpc
        cases hq : fetchOK p with
        | false =>
          obtain ⟨hn, hp⟩ := noflushC_quiet p hq
          rw [hn] at hc
          exact ⟨(SimP.of_csim hc _ _ (fun h => hpc.trans (hp h))).trans hsim, flt_congr hc.1,
            by simpa [absLog] using hc.3⟩
        | true =>
          simp only [fetchOK, Bool.and_eq_true, Option.isNone_iff_eq_none, Option.isSome_iff_exists] at hq
          obtain ⟨⟨hs, hr⟩, i, hi⟩ := hq
          rw [noflushC_unstalled p hs, ifOut_instr p hs i hi hI.icoh.fetchSound, bind_of_red_none hr] at hc
          rw [ifOut_instr p hs i hi hI.icoh.fetchSound] at hpc
          simp only [if_true]
          -- one sequential step from `t`, which stands at the physical pc
          have hpcT : t.pc = p.st.pc := hsim.2.symm.trans (pcOr_of_none hr _)
          have hiT : t.imem.instrAt t.pc = some i := by
            rw [← instrAt_congr hsim.1.prog, abs_imem, hpcT]; exact hi
          obtain ⟨q1, q2, q3, q4⟩ := seqStep_cID t i hiT ht (absC p).st ((sim_setPc _ _).symm.trans hsim.1)
          have hfl : fetchLatch t i = fetchLatch p.st i := by unfold fetchLatch; rw [hpcT]
          rw [hfl] at q1 q2 q3 q4
          refine ⟨⟨(sim_setPc _ _).trans (hc.2.trans q1.symm), ?_⟩, ?_, ?_⟩
          · rw [q2, hpcT]
            show (absC o).pcOr o.st.pc = _
            unfold Comp.pcOr
            rw [hc.1, hpc]; rfl
          · rw [q3]; exact flt_congr hc.1
          · rw [q4]; exact hc.3

theorem abs_step_raw (p : PSt) (hI : PInv p) (hz : RawFree p) (hf : (step p).fault = none) :
    SimP (abs (step p).p) (if fetchOK p then seqStep (abs p) else abs p) ∧
    absF (step p).p = (if fetchOK p then seqFault (abs p) else absF p) ∧
    latchLog p.l3 ++ absLog (step p).p = absLog p ++ (if fetchOK p then seqLog (abs p) else []) :=
  abs_step_sim p hI hz hf _ (by rw [abs_imem]; exact hI.icoh.fetchSound) (SimP.rfl' _)

theorem abs_step (p : PSt) (hI : PInv p) (hz : p.hazard = true) (hf : (step p).fault = none) :
    SimP (abs (step p).p) (if fetchOK p then seqStep (abs p) else abs p) ∧
    absF (step p).p = (if fetchOK p then seqFault (abs p) else absF p) ∧
    latchLog p.l3 ++ absLog (step p).p = absLog p ++ (if fetchOK p then seqLog (abs p) else []) :=
  abs_step_raw p hI (rawFree_of_hazard p hI hz) hf

/-! ### Faults -/

/-- A fault raised by EX: it is an ECALL with nothing older in flight; the abstraction is the
    physical state, stuck at that ECALL with that fault. -/
theorem ex_fault_local (p : PSt) (hI : PInv p) (ft : PFault) (h : (exOut p).fault = some ft) :
    absC p = ⟨p.st, some (ft.addr, some ft.fault), []⟩ ∧ (exOut p).st.regs = p.st.regs ∧
      (exOut p).st.output = p.st.output := by
  obtain ⟨hok, _, hrr⟩ := exInput_ok p hI
  cases hd : exInput p with
  | none => unfold exOut at h; rw [hd] at h; cases h
  | some d =>
    by_cases hop : d.instr.op = .ecall
    · cases hw : ecallMustWait d p.l2 p.l3
      · obtain ⟨hmid, _, e1, _, e3⟩ := ecall_run_abs p hI d hd hop hw
        have hc : cEX p.st (some d) = ⟨p.st, some (ft.addr, some ft.fault), []⟩ := by
          unfold cEX; rw [e3, h]; rfl
        refine ⟨by rw [absC_eq, hmid, hc]; rfl, e1.regs.symm.trans (exStage_regs ..), ?_⟩
        rw [exStage_ecall_run p.st d none none hop (ecallMustWait_none d)] at e1 e3
        rw [← e1.output]; exact ecallRun_fault_output _ _ ft (e3.trans h)
      · unfold exOut at h; rw [hd, exStage_ecall_wait _ d _ _ hop hw] at h; cases h
    · exfalso
      unfold exOut at h; rw [hd, exStage_nonEcall_alu _ d _ _ hop] at h
      obtain ⟨regs, hr⟩ := hrr d hd
      have := aluCompute_some d regs hr (hok d hd).2
      split at h
      · rename_i heq; exact this heq
      · cases h

theorem mem_fault_local (p : PSt) (hI : PInv p) (ft : PFault) (h : (memOut p).fault = some ft) :
    absC p = ⟨(wbStage p.st p.l3).1, some (ft.addr, some ft.fault), latchLog p.l3⟩ ∧
      (memOut p).st.regs = (wbStage p.st p.l3).1.regs ∧
      (memOut p).st.output = (wbStage p.st p.l3).1.output := by
  cases hm : memInput p with
  | none => unfold memOut at h; rw [hm] at h; cases h
  | some e =>
    have hx : latchExit p.l3 = false := by
      cases hx : latchExit p.l3 with
      | false => rfl
      | true => rw [memInput_none_of_l2 p (hI.e3 hx)] at hm; cases hm
    have hsx : (exOut p).st = (wbOut p).1 := by
      rcases exOut_cases p hI with h' | ⟨_, _, _, _, h', _⟩
      · exact h'
      · rw [hm] at h'; cases h'
    have hsim := wbOut_sim p
    have hmo : memOut p = memStage (wbOut p).1 (memInput p) := by unfold memOut; rw [hsx]
    obtain ⟨m1, _, m3⟩ := memStage_sim hsim (memInput p)
    have hf : (memStage (wbStage p.st p.l3).1 (memInput p)).fault = some ft := by rw [m3, ← hmo]; exact h
    have hc : cMEM (wbStage p.st p.l3).1 (memInput p) none =
        ⟨(wbStage p.st p.l3).1, some (ft.addr, some ft.fault), []⟩ := by
      unfold cMEM; rw [hf]; rfl
    refine ⟨?_, ?_, ?_⟩
    · have ho : older p = ⟨(wbStage p.st p.l3).1, some (ft.addr, some ft.fault), latchLog p.l3⟩ := by
        unfold older; rw [cWB_noexit _ _ hx, bind_logged, hc]
        simp [Comp.prefixLog]
      rw [absC_eq, mid, ho]; rfl
    · rw [hmo, memStage_regs]; exact hsim.regs.symm
    · rw [hmo, memStage_output]; exact hsim.output.symm

theorem fault_local (p : PSt) (hI : PInv p) (ft : PFault) (h : (step p).fault = some ft) :
    absF p = some (ft.addr, ft.fault) ∧ (abs p).pc = ft.addr ∧
      (step p).p.st.regs = (abs p).regs ∧ (step p).p.st.output = (abs p).output := by
  rw [step_eq] at h ⊢
  cases hex : (exOut p).fault with
  | some f =>
    rw [hex] at h; simp only [] at h ⊢
    cases h
    obtain ⟨ha, hr, ho⟩ := ex_fault_local p hI _ hex
    unfold absF abs; rw [ha]
    exact ⟨rfl, rfl, hr, ho⟩
  | none =>
    rw [hex] at h; simp only [] at h ⊢
    cases hme : (memOut p).fault with
    | some f =>
      rw [hme] at h; simp only [] at h ⊢
      cases h
      obtain ⟨ha, hr, ho⟩ := mem_fault_local p hI _ hme
      unfold absF abs; rw [ha]
      exact ⟨rfl, rfl, hr, ho⟩
    | none => rw [hme] at h; cases h

end ArchSim.Pipe
