/-
The public operations `DSys.read`, `DSys.writeWB`, `DSys.writeWT` against `logical`: one lemma per
operation and acceptance class (accepted, crossing a word boundary, below the data range), all in the
shape `Eff`.  Which branch the model takes, and with what state, is rewritten with the equations of
`Lemmas/CacheForms.lean`.
-/
import ArchSim.Lemmas.C03Sys

namespace ArchSim.Lemmas.C03
open ArchSim ArchSim.Cache ArchSim.Mem ArchSim.Spec.ByteStore ArchSim.Lemmas.C18 ArchSim.Spec.CacheAbs

variable {σ : Type} {P : PolicyOps σ} {WFp : σ → Prop}

/-- The cache side of an accepted write, after `read_block` left the sets `sets1`: the current
    content `block` of the addressed block with the addressed lanes replaced by `v` is installed
    (`putBlock_spec`), and the logical contents afterwards are given as `updBytes`. -/
theorem putLanes_spec {s : DSys σ} (hP : PolicyOK P s.geo.assoc WFp) (sets1 : List (CSet σ Nat))
    (hs1 : CInv WFp { s with sets := sets1 })
    (hlog1 : ∀ a, logical { s with sets := sets1 } a = logical s a)
    (bits : Nat) (addr : Int) (v : Nat) (hb : widthOK bits) (hw : inWord bits addr)
    (hin : inData addr) (hv : v < 2 ^ bits) (block : List Nat) (hblk : Holds s addr block) :
    ∃ block' sets2 hit displaced m',
      intoBlock bits (dec s addr) block v = .ok block' ∧
      writeBlock P sets1 (dec s addr) block' = .ok (sets2, hit, displaced) ∧
      writeDisplaced s.mem displaced = (m', none) ∧
      ∀ s3 : DSys σ, s3.geo = s.geo → s3.sets = sets2 →
        s3.mem = (if s.wt = true then s.mem else m') →
        CInvS WFp s3 ∧ ∀ a, logical s3 a = updBytes (logical s) addr (bits / 8) v a := by
  obtain ⟨sets2, displaced, m', hwb, hback, _, hall⟩ :=
    putBlock_spec (s := { s with sets := sets1 }) hP hs1 addr hin
      (block.set (dec s addr).blockOff
        (newWord bits (dec s addr).byteOff (wordAt block (dec s addr).blockOff) v))
      (by rw [List.length_set]; exact hblk.len)
      (mem_set_lt block _ _ hblk.lt (newWord_lt bits _ _ v hb hw (wordAt_lt block _ hblk.lt) hv))
  refine ⟨_, sets2, _, displaced, m', intoBlock_ok bits (dec s addr) block v hb hw, hwb, hback,
    fun s3 hg hsets hmem => ?_⟩
  obtain ⟨c1, c3⟩ := (hall s3 hg hsets).2.2 hmem
  exact ⟨c1, upd_eq hblk bits v hb hw hv (logical s3) (fun a => by rw [c3 a, hlog1 a])⟩

theorem write_updBytes {m : Mem} (hc : m.cfg = riscvCfg) (bits : Nat) (hb : widthOK bits)
    (addr : Int) (v : Nat) (hw : inWord bits addr) (hin : inData addr) :
    ∃ m', Mem.write m bits addr v = some (m', none) ∧ m'.cfg = riscvCfg ∧ (WF m → WF m') ∧
      ∀ a, m'.cells ((wrap32 a : Nat) : Int) =
        updBytes (fun a => m.cells ((wrap32 a : Nat) : Int)) addr (bits / 8) v a := by
  obtain ⟨m', e1, e2, e3, h1, h2, _⟩ := write_riscv_cfg hc bits hb addr v hin (inWord_hi hw)
  refine ⟨m', e1, e2, e3, fun a => ?_⟩
  unfold updBytes
  by_cases hc : wrap32 addr ≤ wrap32 a ∧ wrap32 a < wrap32 addr + bits / 8
  · rw [if_pos hc, ← h1 _ (show wrap32 a - wrap32 addr < bits / 8 by omega)]
    congr 2; omega
  · rw [if_neg hc]
    apply h2; omega

/-- The last step of every accepted write-through write.  `s2` is the state after the cache part, its memory
    still that of the state `s` before the operation: `hL` is the clause `CInv.wtc` of `s` (`L = logical s`),
    `hres` says the resident bytes of `s2` already show the update; `wtc` is re-established by `logical_setMem`. -/
theorem wtStore_ok {s s2 : DSys σ} (hs2 : CInvS WFp s2) (hg : s2.geo = s.geo) (hwt : s2.wt = s.wt)
    (bits : Nat) (addr : Int) (v extra : Nat) (hb : widthOK bits) (hw : inWord bits addr)
    (hin : inData addr) (L : Int → Nat) (hL : ∀ a, L a = s2.mem.cells ((wrap32 a : Nat) : Int))
    (hres : ∀ a, resident s2 a = true → logical s2 a = updBytes L addr (bits / 8) v a) :
    Eff WFp s (wtStore s2 bits addr v extra) (.ok 0) (updBytes L addr (bits / 8) v) := by
  obtain rfl : L = fun a => s2.mem.cells ((wrap32 a : Nat) : Int) := funext hL
  obtain ⟨m', hwr, hcfg, hwf, hcells⟩ := write_updBytes hs2.cfg bits hb addr v hw hin
  rw [wtStore_eq hwr]
  have hlog : ∀ a, logical { s2 with mem := m' } a = m'.cells ((wrap32 a : Nat) : Int) :=
    logical_setMem s2 { s2 with mem := m' } rfl rfl (fun a hr => by rw [hres a hr]; exact (hcells a).symm)
  exact ⟨rfl, ⟨⟨hs2.geo, hs2.sets, hcfg, hwf hs2.wf⟩, fun _ => hlog⟩,
    fun a => (hlog a).trans (hcells a), hg, hwt⟩

theorem wtStore_bad {s2 : DSys σ} (hs2 : CInvS WFp s2) (bits : Nat) (addr : Int) (v extra : Nat)
    (hb : widthOK bits) (hin : ¬ inData addr) :
    wtStore s2 bits addr v extra =
      { sys := s2, res := .error (.addr ((wrap32 addr : Nat) : Int)), extra := extra } := by
  unfold wtStore
  rw [write_riscv_bad hs2.cfg bits hb addr v (by unfold inData at hin; omega)]

/-! ### reads -/

section
variable {s : DSys σ} (hP : PolicyOK P s.geo.assoc WFp) (hs : CInv WFp s)
include hP hs

theorem read_accepted (bits : Nat) (addr : Int) (counted : Bool) (hb : widthOK bits)
    (hw : inWord bits addr) (hin : inData addr) :
    Eff WFp s (s.read P bits addr counted)
      (.ok (leSum riscvCfg (bits / 8) (fun i => logical s (addr + (i : Int))))) (logical s) := by
  obtain ⟨vals, hblk, h⟩ := read_inData hP hs bits addr counted hin
  have hoff : (dec s addr).byteOff + bits / 8 ≤ 4 := hw
  rw [fromBlock_ok bits (dec s addr) vals hb hoff (wordAt_lt _ _ hblk.lt)] at h
  -- the other bytes of the access lie in the same word
  rw [leSum_congr riscvCfg _ _ (fun i => logical s (addr + (i : Int))) fun i hi => ?_] at h
  · exact h
  · have hi' : (dec s addr).byteOff + i < 4 := by omega
    have hd : dec s (addr + (i : Int)) =
        { dec s addr with full := wrap32 addr + i, byteOff := wrap32 addr % 4 + i } :=
      decode_add _ _ addr i hi'
    have := hblk.bytes (addr + (i : Int)) (by rw [hd]) (by rw [hd])
    rw [hd] at this
    exact this

theorem read_crossing (bits : Nat) (addr : Int) (counted : Bool) (hb : widthOK bits)
    (hw : ¬ inWord bits addr) (hin : inData addr) :
    Eff WFp s (s.read P bits addr counted)
      (.error (.byteOffset (wrap32 addr % 4) (if bits = 16 then 2 else 0))) (logical s) := by
  obtain ⟨vals, _, h⟩ := read_inData hP hs bits addr counted hin
  rw [fromBlock_crossing bits (dec s addr) vals hb hw (decode_byteOff_lt _ _ _)] at h
  exact h

theorem read_bad (bits : Nat) (addr : Int) (counted : Bool) (hin : ¬ inData addr) :
    Eff WFp s (s.read P bits addr counted)
      (.error (.addr (((dec s addr).blockBase : Nat) : Int))) (logical s) := by
  obtain ⟨sets1, hrb, _, hs1, hlog1⟩ := readBlock_dec hP hs addr
  rw [not_resident_of_bad hs.toCInvS addr hin] at hrb
  rw [read_err bits addr counted (readBlockSys_fetch_err hrb (fetch_bad hs.toCInvS addr hin))]
  exact ⟨rfl, hs1, hlog1, rfl, rfl⟩

/-! ### write-back writes -/

theorem writeWB_inData (bits : Nat) (addr : Int) (v : Nat) (hin : inData addr) :
    ∃ sets1 hit block,
      s.writeWB P bits addr v = wbFinish P s sets1 (dec s addr) hit bits v block ∧
      CInv WFp { s with sets := sets1 } ∧ (∀ k t, lookup sets1 k t = lookup s.sets k t) ∧
      (∀ a, logical { s with sets := sets1 } a = logical s a) ∧ Holds s addr block := by
  obtain ⟨sets1, hrb, hl1, hs1, hlog1⟩ := readBlock_dec hP hs addr
  cases hlk : lookup s.sets (dec s addr).setIdx (dec s addr).tag with
  | some w =>
    rw [hlk] at hrb
    exact ⟨sets1, true, w.vals, writeWB_hit s bits addr v sets1 w.vals hrb, hs1, hl1, hlog1,
      hit_spec hs addr w hlk⟩
  | none =>
    rw [hlk] at hrb
    obtain ⟨ws, hf, c⟩ := fetch_spec hs addr hin hlk
    exact ⟨sets1, false, ws, writeWB_miss s bits addr v sets1 ws hrb hf, hs1, hl1, hlog1, c⟩

theorem writeWB_accepted
    (hwt : s.wt = false) (bits : Nat) (addr : Int) (v : Nat) (hb : widthOK bits)
    (hw : inWord bits addr) (hin : inData addr) (hv : v < 2 ^ bits) :
    Eff WFp s (s.writeWB P bits addr v) (.ok 0) (updBytes (logical s) addr (bits / 8) v) := by
  obtain ⟨sets1, hit, block, e, hs1, _, hlog1, hblk⟩ := writeWB_inData hP hs bits addr v hin
  obtain ⟨block', sets2, _, displaced, m', hib, hwb, hback, hall⟩ :=
    putLanes_spec hP sets1 hs1 hlog1 bits addr v hb hw hin hv block hblk
  rw [e, wbFinish_eq hib hwb hback]
  obtain ⟨c1, c3⟩ := hall { countAccess s sets2 hit with mem := m' } rfl rfl (by
      show m' = if s.wt = true then s.mem else m'
      rw [hwt]; rfl)
  exact ⟨rfl, ⟨c1, fun h => Bool.noConfusion (hwt.symm.trans (show s.wt = true from h))⟩, c3, rfl, rfl⟩

theorem writeWB_crossing (bits : Nat) (addr : Int) (v : Nat) (hb : widthOK bits)
    (hw : ¬ inWord bits addr) (hin : inData addr) :
    Eff WFp s (s.writeWB P bits addr v)
      (.error (.byteOffset (wrap32 addr % 4) (if bits = 16 then 2 else 0))) (logical s) := by
  obtain ⟨sets1, hit, block, e, hs1, _, hlog1, _⟩ := writeWB_inData hP hs bits addr v hin
  rw [e, wbFinish_lane_err
    (intoBlock_crossing bits (dec s addr) block v hb hw (decode_byteOff_lt _ _ _))]
  exact ⟨rfl, hs1, hlog1, rfl, rfl⟩

theorem writeWB_bad (bits : Nat) (addr : Int) (v : Nat) (hin : ¬ inData addr) :
    Eff WFp s (s.writeWB P bits addr v)
      (.error (.addr (((dec s addr).blockBase : Nat) : Int))) (logical s) := by
  obtain ⟨sets1, hrb, _, hs1, hlog1⟩ := readBlock_dec hP hs addr
  rw [not_resident_of_bad hs.toCInvS addr hin] at hrb
  rw [writeWB_miss_err s bits addr v sets1 _ hrb (fetch_bad hs.toCInvS addr hin)]
  exact ⟨rfl, hs1, hlog1, rfl, rfl⟩

/-! ### write-through writes -/

theorem writeWT_accepted (hwt : s.wt = true) (bits : Nat) (addr : Int) (v : Nat) (hb : widthOK bits)
    (hw : inWord bits addr) (hin : inData addr) (hv : v < 2 ^ bits) :
    Eff WFp s (s.writeWT P bits addr v) (.ok 0) (updBytes (logical s) addr (bits / 8) v) := by
  obtain ⟨sets1, hrb, hl1, hs1, hlog1⟩ := readBlock_dec hP hs addr
  cases hlk : lookup s.sets (dec s addr).setIdx (dec s addr).tag with
  | some w =>
    -- hit: the cache is updated as for write-back, then the lower memory
    rw [hlk] at hrb
    have hblk := hit_spec hs addr w hlk
    obtain ⟨block', sets2, _, displaced, m', hib, hwb, _, hall⟩ :=
      putLanes_spec hP sets1 hs1 hlog1 bits addr v hb hw hin hv w.vals hblk
    rw [writeWT_hit s bits addr v sets1 w.vals hrb, hib]
    simp only
    rw [hwb]
    simp only
    obtain ⟨c1, c3⟩ := hall { countAccess s sets1 true with sets := sets2 } rfl rfl (by
      show s.mem = if s.wt = true then s.mem else m'
      rw [if_pos hwt])
    exact wtStore_ok c1 rfl rfl bits addr v 0 hb hw hin (logical s) (hs.wtc hwt) (fun a _ => c3 a)
  | none =>
    -- miss: no allocation; no resident byte is among the written ones
    rw [hlk] at hrb
    rw [writeWT_miss s bits addr v sets1 hrb, laneErr_ok bits (dec s addr) hb hw]
    refine wtStore_ok (s2 := countAccess s sets1 false) (CInv_counters hs1 _ _ _).toCInvS rfl rfl bits addr v
      s.penalty hb hw hin (logical s) (hs.wtc hwt) (fun a hr => (hlog1 a).trans ?_)
    unfold updBytes
    rw [if_neg]
    intro hc
    obtain ⟨e1, e2, _⟩ := (inAccess_iff s.geo.idxBits s.geo.blkBits addr a (bits / 8) hw).mp hc
    have hr' : (lookup sets1 (dec s a).setIdx (dec s a).tag).isSome = true := hr
    rw [hl1, e1, e2, hlk] at hr'
    cases hr'

theorem writeWT_crossing
    (bits : Nat) (addr : Int) (v : Nat) (hb : widthOK bits) (hw : ¬ inWord bits addr) :
    Eff WFp s (s.writeWT P bits addr v)
      (.error (.byteOffset (wrap32 addr % 4) (if bits = 16 then 2 else 0))) (logical s) := by
  obtain ⟨sets1, hrb, _, hs1, hlog1⟩ := readBlock_dec hP hs addr
  cases hlk : lookup s.sets (dec s addr).setIdx (dec s addr).tag with
  | some w =>
    rw [hlk] at hrb
    rw [writeWT_hit s bits addr v sets1 w.vals hrb,
      intoBlock_crossing bits (dec s addr) w.vals v hb hw (decode_byteOff_lt _ _ _)]
    exact ⟨rfl, CInv_counters hs1 _ _ _, hlog1, rfl, rfl⟩
  | none =>
    rw [hlk] at hrb
    rw [writeWT_miss s bits addr v sets1 hrb,
      laneErr_crossing bits (dec s addr) hb hw (decode_byteOff_lt _ _ _)]
    exact ⟨rfl, CInv_counters hs1 _ _ _, hlog1, rfl, rfl⟩

theorem writeWT_bad (bits : Nat) (addr : Int) (v : Nat) (hb : widthOK bits) (hw : inWord bits addr)
    (hin : ¬ inData addr) :
    Eff WFp s (s.writeWT P bits addr v) (.error (.addr ((wrap32 addr : Nat) : Int))) (logical s) := by
  obtain ⟨sets1, hrb, _, hs1, hlog1⟩ := readBlock_dec hP hs addr
  rw [not_resident_of_bad hs.toCInvS addr hin] at hrb
  have hs2 : CInv WFp (countAccess s sets1 false) := CInv_counters hs1 _ _ _
  rw [writeWT_miss s bits addr v sets1 hrb, laneErr_ok bits (dec s addr) hb hw,
    wtStore_bad hs2.toCInvS bits addr v s.penalty hb hin]
  exact ⟨rfl, hs2, hlog1, rfl, rfl⟩

/-! ### `DSys.write` through the cache, and rejected operations -/

theorem write_accepted
    (bits : Nat) (addr : Int) (v : Nat) (hb : widthOK bits) (hw : inWord bits addr)
    (hin : inData addr) (hv : v < 2 ^ bits) :
    Eff WFp s (s.write P bits addr v false) (.ok 0) (updBytes (logical s) addr (bits / 8) v) := by
  rw [write_eq]
  by_cases hwt : s.wt = true
  · rw [if_pos hwt]; exact writeWT_accepted hP hs hwt bits addr v hb hw hin hv
  · rw [if_neg hwt]
    exact writeWB_accepted hP hs (Bool.eq_false_iff.mpr hwt) bits addr v hb hw hin hv

theorem stepOp_rejected (o : Spec.CacheAbs.Op) (ho : o.wf) (hacc : ¬ o.accepted) :
    ∃ e, Eff WFp s (stepOp P s o) (.error e) (logical s) := by
  cases o with
  | read bits addr counted =>
    by_cases hin : inData addr
    · exact ⟨_, read_crossing hP hs bits addr counted ho (fun h => hacc ⟨h, hin⟩) hin⟩
    · exact ⟨_, read_bad hP hs bits addr counted hin⟩
  | write bits addr v =>
    obtain ⟨hb, _⟩ : widthOK bits ∧ v < 2 ^ bits := ho
    show ∃ e, Eff WFp s (s.write P bits addr v false) (.error e) (logical s)
    rw [write_eq]
    by_cases hwt : s.wt = true
    · rw [if_pos hwt]
      by_cases hw : inWord bits addr
      · exact ⟨_, writeWT_bad hP hs bits addr v hb hw (fun h => hacc ⟨hw, h⟩)⟩
      · exact ⟨_, writeWT_crossing hP hs bits addr v hb hw⟩
    · rw [if_neg hwt]
      by_cases hin : inData addr
      · exact ⟨_, writeWB_crossing hP hs bits addr v hb (fun h => hacc ⟨h, hin⟩) hin⟩
      · exact ⟨_, writeWB_bad hP hs bits addr v hin⟩

end

/-! ### the backing memory under write-through -/

/-- No invariant is assumed: the case split follows the code of `writeWT` alone. -/
theorem writeWT_mem_cases (s : DSys σ) (bits : Nat) (addr : Int) (v : Nat) (hb : widthOK bits) :
    ((s.writeWT P bits addr v).sys.mem = s.mem ∧ ∃ e, (s.writeWT P bits addr v).res = .error e) ∨
    (inWord bits addr ∧
      ∃ s2 extra, s2.mem = s.mem ∧ s.writeWT P bits addr v = wtStore s2 bits addr v extra) := by
  cases hrb : readBlock P s.sets (dec s addr) with
  | error e =>
    rw [writeWT_read_err s bits addr v e hrb]
    exact Or.inl ⟨rfl, e, rfl⟩
  | ok r =>
    obtain ⟨sets1, cached⟩ := r
    cases cached with
    | none =>
      rw [writeWT_miss s bits addr v sets1 hrb]
      by_cases hw : inWord bits addr
      · rw [laneErr_ok bits (dec s addr) hb hw]
        exact Or.inr ⟨hw, countAccess s sets1 false, s.penalty, rfl, rfl⟩
      · rw [laneErr_crossing bits (dec s addr) hb hw (decode_byteOff_lt _ _ _)]
        exact Or.inl ⟨rfl, _, rfl⟩
    | some block =>
      rw [writeWT_hit s bits addr v sets1 block hrb]
      by_cases hw : inWord bits addr
      · rw [intoBlock_ok bits (dec s addr) block v hb hw]
        simp only
        cases writeBlock P sets1 (dec s addr) _ with
        | error e => exact Or.inl ⟨rfl, e, rfl⟩
        | ok r2 => exact Or.inr ⟨hw, { countAccess s sets1 true with sets := r2.1 }, 0, rfl, rfl⟩
      · rw [intoBlock_crossing bits (dec s addr) block v hb hw (decode_byteOff_lt _ _ _)]
        exact Or.inl ⟨rfl, _, rfl⟩

theorem writeWT_mem_rejected {s : DSys σ} (hs : CInv WFp s) (bits : Nat) (addr : Int) (v : Nat)
    (hb : widthOK bits) (hrej : ¬ (inWord bits addr ∧ inData addr)) :
    (s.writeWT P bits addr v).sys.mem = s.mem := by
  rcases writeWT_mem_cases (P := P) s bits addr v hb with ⟨h, _⟩ | ⟨hw, s2, extra, h2, hst⟩
  · exact h
  · have hin : ¬ inData addr := fun h => hrej ⟨hw, h⟩
    rw [hst]
    have hbad := write_riscv_bad hs.cfg bits hb addr v
      (by unfold inData at hin; omega)
    exact (wtStore_mem_ok s2 bits addr v extra s.mem _ (by rw [h2]; exact hbad))

end ArchSim.Lemmas.C03
