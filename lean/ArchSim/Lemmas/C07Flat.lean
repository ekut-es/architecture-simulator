/-
The penalty terms of the cycle equations: a single-cycle step adds one plus the fetch plus the instruction's counted data
access (the display re-read of a load is uncounted and adds nothing), and without caches every penalty term is zero in
both modes.
-/
import ArchSim.Lemmas.C07Finish
import ArchSim.Lemmas.C09Reread

namespace ArchSim.Lemmas.C07
open ArchSim ArchSim.Rv ArchSim.Pipe ArchSim.Lemmas.C02Split

theorem maExtra_flat (m : Mem.Mem) (inp : Option Latch) : maExtra (.flat m) inp = 0 := by
  unfold maExtra
  cases inp with
  | none => rfl
  | some e =>
    simp only
    split
    · rfl
    · exact (memoryAccess_flat ‹_›).1

/-- Extra cycles of the (counted) data access `behavior` performs for instruction `i`. -/
def accessExtra (i : Instr) (regs : Nat → Nat) (ms : MemSys) : Nat :=
  match i.op.ty with
  | .memI => (ms.read (accessBits i.op) ((regs i.rs1 : Int) + i.imm) true).extra
  | .s => (ms.write (accessBits i.op) (((regs i.rs1 + wrapU i.imm) % 4294967296 : Nat) : Int)
            (regs i.rs2 % 2 ^ accessBits i.op) false).extra
  | _ => 0

theorem behavior_cycles (i : Instr) (s : St) :
    (behavior i s).st.cycles = s.cycles + accessExtra i s.regs s.mem := by
  unfold behavior accessExtra
  cases i.op.ty <;> simp only
  case memI => split <;> rfl
  case s => split <;> rfl
  case b => split <;> rfl
  case u => split <;> rfl
  case i =>
    split
    · rfl
    · split
      · split <;> rfl
      · split <;> rfl
  all_goals rfl

theorem read_uncounted_extra (ms : MemSys) (bits : Nat) (a : Int) : (ms.read bits a false).extra = 0 := by
  cases ms with
  | flat m => exact read_flat_extra m bits a false
  | cached l d => exact (C09.read_uncounted_frame (P := Cache.polOps l) d bits a).2.2.2

/-- The display re-read of a load (`update_statistics = False`) adds no cycles. -/
theorem reread_extra (i : Instr) (h : i.op.ty = .memI) (a w : Option Int) (ms : MemSys) (o : MaOut)
    (hma : memoryAccess i a w ms false = some o) : o.extra = 0 := by
  unfold memoryAccess at hma
  simp only [h] at hma
  split at hma
  · simp at hma
  · simp at hma; subst hma; exact read_uncounted_extra ..

/-- Penalty cycles of one single-cycle step: the fetch plus the instruction's counted data access. -/
def singleExtra (s : St) : Nat :=
  match s.imem.instrAt s.pc with
  | none => 0
  | some _ =>
    (s.imem.fetch s.pc).extra +
      match (s.imem.fetch s.pc).res with
      | .ok (some i) => accessExtra i s.regs s.mem
      | _ => 0

theorem singleTail_cycles (i : Instr) (s2 : St) :
    (singleTail i s2).st.cycles = s2.cycles + accessExtra i s2.regs s2.mem := by
  have hb := behavior_cycles i s2
  unfold singleTail
  simp only
  cases hf : (behavior i s2).fault with
  | some ft => simpa using hb
  | none =>
    simp only
    by_cases hty : i.op.ty = .memI
    · simp only [hty, if_true]
      cases hma : memoryAccess i _ none (behavior i s2).st.mem false with
      | none => simpa using hb
      | some o =>
        have ho := reread_extra i hty _ _ _ o hma
        simp only
        cases o.res <;> simp only <;> omega
    · simp only [hty, if_false]; exact hb

theorem singleStep_cycles (s : St) : (singleStep s).st.cycles = s.cycles + 1 + singleExtra s := by
  rw [singleStep_unfold]
  unfold singleExtra
  cases s.imem.instrAt s.pc with
  | none => rfl
  | some j =>
    dsimp only
    rcases (s.imem.fetch s.pc).res with e | _ | i
    · rfl
    · rfl
    · rw [singleTail_cycles]; simp only [afterFetch]; omega

theorem exO_flat (p : PSt) (m : Mem.Mem) (h : p.st.mem = .flat m) : (exO p).st.mem = .flat m := by
  have h : (sWB p).mem = .flat m := by rw [sWB_mem, h]
  unfold exO
  rcases exStage_st_run (sWB p) (exInput p) p.l2 p.l3 with he | ⟨d, _, _, _, he⟩ <;> rw [he]
  · exact h
  · rw [ecallRun_st]
    exact (processEcall_flat_mem h).trans h

theorem memExtra_flat (p : PSt) (m : Mem.Mem) (h : p.st.mem = .flat m) : memExtra p = 0 := by
  unfold memExtra; rw [exO_flat p m h, maExtra_flat]

theorem step_cycles_flat (p : PSt) (m : Mem.Mem) (hm : p.st.mem = .flat m) (hc : p.st.imem.cache = none) :
    (step p).p.st.cycles = p.st.cycles + 1 := by
  rw [step_cycles, fetchExtra_none p hc]
  unfold memExtraRun; rw [memExtra_flat p m hm]; simp

theorem singleExtra_flat (s : St) (m : Mem.Mem) (hm : s.mem = .flat m) (hc : s.imem.cache = none) :
    singleExtra s = 0 := by
  unfold singleExtra
  split
  · rfl
  · rw [(fetch_uncached_frame _ _ hc).2, hm]
    split
    · unfold accessExtra
      split
      · rw [read_flat_extra]
      · rw [write_flat_extra]
      · rfl
    · rfl

end ArchSim.Lemmas.C07
