/-
The model's `Nat`/`Int` arithmetic equals the bit-vector operations of the reference semantics, one lemma per
mnemonic, and its results stay 32-bit values.  `W a = BitVec.ofNat 32 a` is the abstraction of a register value.
-/
import ArchSim.Spec.RvSpec
import ArchSim.Lemmas.RvBits

namespace ArchSim.Lemmas.C01
open ArchSim ArchSim.Rv ArchSim.Spec.RvSpec

-- the 32-bit bound of `wrapU` under this namespace too, beside `aluRR_lt`, `aluRI_lt`, `loadExt_lt`
export ArchSim.Rv (wrapU_lt)

abbrev W (a : Nat) : Word := BitVec.ofNat 32 a

theorem toInt_W (a : Nat) : (W a).toInt = toS a := by
  rw [BitVec.toInt_eq_toNat_cond]
  simp only [BitVec.toNat_ofNat, toS]
  split <;> split <;> omega

theorem toNat_W (a : Nat) (h : a < 4294967296) : (W a).toNat = a := by
  simp only [BitVec.toNat_ofNat]; omega

theorem W_wrapU (z : Int) : W (wrapU z) = BitVec.ofInt 32 z := by
  apply BitVec.eq_of_toNat_eq
  simp only [BitVec.toNat_ofNat, BitVec.toNat_ofInt, wrapU]
  omega

theorem ofNat_mod_pow (b v : Nat) : BitVec.ofNat b (v % 2 ^ b) = BitVec.ofNat b v := by
  apply BitVec.eq_of_toNat_eq
  simp only [BitVec.toNat_ofNat, Nat.mod_mod]

theorem W_mod (x : Nat) : W (x % 4294967296) = W x := ofNat_mod_pow 32 x

theorem W_inj (a b : Nat) (ha : a < 4294967296) (hb : b < 4294967296) : W a = W b ↔ a = b := by
  constructor
  · intro h
    have := congrArg BitVec.toNat h
    rwa [toNat_W a ha, toNat_W b hb] at this
  · rintro rfl; rfl

theorem W_eq_zero (a : Nat) (ha : a < 4294967296) : W a = 0 ↔ a = 0 :=
  W_inj a 0 ha (by omega)

/-! ### RV32I register-register -/

theorem alu_add (a b : Nat) : W (aluRR .add a b) = W a + W b := by
  simp only [aluRR, W_mod, BitVec.ofNat_add]

theorem alu_sub (a b : Nat) : W (aluRR .sub a b) = W a - W b := by
  simp only [aluRR, W_wrapU]
  rw [Int.sub_eq_add_neg, BitVec.ofInt_add, BitVec.ofInt_neg, BitVec.ofInt_natCast, BitVec.ofInt_natCast,
    ← BitVec.sub_eq_add_neg]

theorem W_shl (a k : Nat) : W ((a * 2 ^ k) % 4294967296) = W a <<< k := by
  apply BitVec.eq_of_toNat_eq
  simp only [BitVec.toNat_shiftLeft, BitVec.toNat_ofNat, Nat.shiftLeft_eq]
  rw [Nat.mod_mod, Nat.mod_mul_mod]

theorem W_shr (a k : Nat) (ha : a < 4294967296) : W (a / 2 ^ k) = W a >>> k := by
  apply BitVec.eq_of_toNat_eq
  simp only [BitVec.toNat_ushiftRight, BitVec.toNat_ofNat, Nat.shiftRight_eq_div_pow]
  rw [Nat.mod_eq_of_lt ha]
  exact Nat.mod_eq_of_lt (Nat.lt_of_le_of_lt (Nat.div_le_self _ _) ha)

theorem W_sar (a k : Nat) : W (wrapU (toS a / (2 : Int) ^ k)) = (W a).sshiftRight k := by
  have h2 : (2 : Int) ^ k = ((2 ^ k : Nat) : Int) := by simp
  rw [W_wrapU, ← toInt_W, h2, ← Int.shiftRight_eq_div_pow, ← BitVec.toInt_sshiftRight, BitVec.ofInt_toInt]

theorem shamt_W (b : Nat) : shamt (W b) = b % 32 := by
  simp only [shamt, BitVec.toNat_ofNat]; omega

theorem alu_sll (a b : Nat) : W (aluRR .sll a b) = W a <<< shamt (W b) := by
  rw [shamt_W]; exact W_shl a _

theorem alu_srl (a b : Nat) (ha : a < 4294967296) : W (aluRR .srl a b) = W a >>> shamt (W b) := by
  rw [shamt_W]; exact W_shr a _ ha

theorem alu_sra (a b : Nat) : W (aluRR .sra a b) = (W a).sshiftRight (shamt (W b)) := by
  rw [shamt_W]; exact W_sar a _

theorem alu_slt (a b : Nat) : W (aluRR .slt a b) = ofBool ((W a).slt (W b)) := by
  simp only [aluRR, BitVec.slt_eq_decide, toInt_W, ofBool]
  by_cases h : toS a < toS b <;> simp [h]

theorem alu_sltu (a b : Nat) (ha : a < 4294967296) (hb : b < 4294967296) :
    W (aluRR .sltu a b) = ofBool ((W a).ult (W b)) := by
  simp only [aluRR, BitVec.ult_eq_decide, toNat_W a ha, toNat_W b hb, ofBool]
  by_cases h : a < b <;> simp [h]

theorem alu_xor (a b : Nat) : W (aluRR .xor a b) = W a ^^^ W b := BitVec.ofNat_xor

theorem alu_or (a b : Nat) : W (aluRR .or a b) = W a ||| W b := BitVec.ofNat_or

theorem alu_and (a b : Nat) : W (aluRR .and a b) = W a &&& W b := BitVec.ofNat_and

/-! ### RV32M -/

theorem alu_mul (a b : Nat) : W (aluRR .mul a b) = W a * W b := by
  simp only [aluRR, W_mod, BitVec.ofNat_mul]

theorem zext64_toNat (a : Nat) (ha : a < 4294967296) : (BitVec.zeroExtend 64 (W a)).toNat = a := by
  simp only [BitVec.zeroExtend, BitVec.toNat_setWidth, BitVec.toNat_ofNat]; omega

theorem zext64_toInt (a : Nat) (ha : a < 4294967296) : (BitVec.zeroExtend 64 (W a)).toInt = a := by
  rw [BitVec.toInt_eq_toNat_cond, zext64_toNat a ha]; split <;> omega

theorem alu_mulhu (a b : Nat) (ha : a < 4294967296) (hb : b < 4294967296) :
    W (aluRR .mulhu a b) = mulhu (W a) (W b) := by
  have hp : a * b < 4294967296 * 4294967296 := Nat.mul_lt_mul'' ha hb
  apply BitVec.eq_of_toNat_eq
  simp only [aluRR, mulhu, hi32, BitVec.extractLsb'_toNat, BitVec.toNat_mul, zext64_toNat _ ha,
    zext64_toNat _ hb, Nat.shiftRight_eq_div_pow, BitVec.toNat_ofNat]
  generalize a * b = p at *
  omega

/-- The second factor may range up to `2^32`: signed for `mulh`, zero-extended for `mulhsu`. -/
theorem smul_bounds (x y : Int) (hx : -2147483648 ≤ x ∧ x < 2147483648) (hy : -2147483648 ≤ y ∧ y < 4294967296) :
    -9223372036854775808 ≤ x * y ∧ x * y < 9223372036854775808 := by
  have h1 : (x * y).natAbs ≤ 2147483648 * 4294967295 := by
    rw [Int.natAbs_mul]; exact Nat.mul_le_mul (by omega) (by omega)
  omega

theorem hi32_of_toInt (X : BitVec 64) (p : Int) (hX : X.toInt = p) :
    hi32 X = W (wrapU (p / 4294967296)) := by
  apply BitVec.eq_of_toNat_eq
  have h1 := BitVec.toInt_eq_toNat_cond X
  have h2 := X.isLt
  simp only [hi32, BitVec.extractLsb'_toNat, BitVec.toNat_ofNat, Nat.shiftRight_eq_div_pow, wrapU]
  rw [hX] at h1
  split at h1 <;> omega

/-- The 64-bit product of the extended operands does not overflow (`smul_bounds`), so its `bmod 2^64` is the identity and
    the high word is `p / 2^32` reduced (`hi32_of_toInt`).  `alu_mulhsu` likewise. -/
theorem alu_mulh (a b : Nat) : W (aluRR .mulh a b) = mulh (W a) (W b) := by
  have hb := smul_bounds (toS a) (toS b) (toS_bounds a) (by have := toS_bounds b; omega)
  simp only [aluRR, mulh]
  rw [hi32_of_toInt _ (toS a * toS b)]
  rw [BitVec.toInt_mul, BitVec.toInt_signExtend_of_le (by omega), BitVec.toInt_signExtend_of_le (by omega),
    toInt_W, toInt_W, Int.bmod_def]
  generalize toS a * toS b = p at *
  omega

theorem alu_mulhsu (a b : Nat) (hb : b < 4294967296) : W (aluRR .mulhsu a b) = mulhsu (W a) (W b) := by
  have hbd := smul_bounds (toS a) (b : Int) (toS_bounds a) (by omega)
  simp only [aluRR, mulhsu]
  rw [hi32_of_toInt _ (toS a * (b : Int))]
  rw [BitVec.toInt_mul, BitVec.toInt_signExtend_of_le (by omega), zext64_toInt b hb, toInt_W, Int.bmod_def]
  generalize toS a * (b : Int) = p at *
  omega

/-- The manual's overflow case `−2^31 / −1` has the value `sdiv` has anyway, so the model, which has no such arm,
    can be compared with `sdiv` alone. -/
theorem div_eq (x y : Word) : div x y = if y = 0 then BitVec.allOnes 32 else x.sdiv y := by
  unfold div
  split
  · rfl
  · split
    · rename_i h; rw [h.1, h.2]; decide
    · rfl

/-- As `div_eq`: on `−2^31 % −1` the manual's overflow arm and `srem` agree. -/
theorem rem_eq (x y : Word) : rem x y = if y = 0 then x else x.srem y := by
  unfold rem
  split
  · rfl
  · split
    · rename_i h; rw [h.1, h.2]; decide
    · rfl

theorem alu_div (a b : Nat) (hb : b < 4294967296) : W (aluRR .div a b) = div (W a) (W b) := by
  rw [div_eq]
  simp only [aluRR, W_eq_zero b hb]
  split
  · decide
  · rw [W_wrapU, pyTruncDiv]
    apply BitVec.eq_of_toInt_eq
    rw [BitVec.toInt_ofInt, BitVec.toInt_sdiv, toInt_W, toInt_W]

theorem alu_rem (a b : Nat) (hb : b < 4294967296) : W (aluRR .rem a b) = rem (W a) (W b) := by
  rw [rem_eq]
  simp only [aluRR, W_eq_zero b hb]
  split
  · rfl
  · rw [W_wrapU, pyTruncDiv, ← BitVec.ofInt_toInt (x := (W a).srem (W b)), BitVec.toInt_srem, toInt_W, toInt_W,
      Int.tmod_def, Int.mul_comm]

theorem alu_divu (a b : Nat) (ha : a < 4294967296) (hb : b < 4294967296) :
    W (aluRR .divu a b) = divu (W a) (W b) := by
  simp only [aluRR, divu, W_eq_zero b hb]
  split
  · decide
  · apply BitVec.eq_of_toNat_eq
    rw [BitVec.toNat_udiv, toNat_W a ha, toNat_W b hb]
    exact toNat_W _ (Nat.lt_of_le_of_lt (Nat.div_le_self _ _) ha)

theorem alu_remu (a b : Nat) (ha : a < 4294967296) (hb : b < 4294967296) :
    W (aluRR .remu a b) = remu (W a) (W b) := by
  simp only [aluRR, remu, W_eq_zero b hb]
  split
  · rfl
  · apply BitVec.eq_of_toNat_eq
    rw [BitVec.toNat_umod, toNat_W a ha, toNat_W b hb]
    exact toNat_W _ (Nat.lt_of_le_of_lt (Nat.mod_le _ _) ha)

/-! ### immediates -/

/-- `signExtend` is `ofInt ∘ toInt`. -/
theorem sext_ofInt (w : Nat) (hw : 0 < w) (x : Int) (h : -2 ^ (w - 1) ≤ x) (h' : x < 2 ^ (w - 1)) :
    (BitVec.ofInt w x).signExtend 32 = BitVec.ofInt 32 x :=
  congrArg (BitVec.ofInt 32) (BitVec.toInt_ofInt_eq_self hw h h')

theorem immI_eq (i : Instr) (h : -2048 ≤ i.imm ∧ i.imm < 2048) : immI i = BitVec.ofInt 32 i.imm :=
  sext_ofInt 12 (by decide) _ (by omega) (by omega)

theorem immI_W (i : Instr) (h : -2048 ≤ i.imm ∧ i.imm < 2048) : immI i = W (wrapU i.imm) := by
  rw [W_wrapU, immI_eq i h]

theorem immB_eq (i : Instr) (h : -4096 ≤ i.imm ∧ i.imm < 4096) : immB i = BitVec.ofInt 32 i.imm :=
  sext_ofInt 13 (by decide) _ (by omega) (by omega)

theorem immJ_eq (i : Instr) (h : -1048576 ≤ i.imm ∧ i.imm < 1048576) : immJ i = BitVec.ofInt 32 i.imm :=
  sext_ofInt 21 (by decide) _ (by omega) (by omega)

theorem immU_eq (i : Instr) : immU i = BitVec.ofInt 32 (i.imm * 4096) := by
  apply BitVec.eq_of_toNat_eq
  simp only [immU, BitVec.toNat_append, BitVec.toNat_ofInt, BitVec.toNat_ofNat, Nat.shiftLeft_eq]
  simp
  omega

theorem shamtI_eq (i : Instr) (h : 0 ≤ i.imm ∧ i.imm < 32) : shamtI i = i.imm.toNat := by
  simp only [shamtI, BitVec.toNat_ofInt]
  omega

/-! ### register-immediate forms reduce to the register-register ALU on `wrapU imm` -/

theorem aluRI_addi (a : Nat) (imm : Int) : aluRI .addi a imm = aluRR .add a (wrapU imm) := rfl

theorem aluRI_slti (a : Nat) (imm : Int) : aluRI .slti a imm = aluRR .slt a (wrapU imm) := rfl

theorem aluRI_sltiu (a : Nat) (imm : Int) : aluRI .sltiu a imm = aluRR .sltu a (wrapU imm) := rfl

theorem aluRI_xori (a : Nat) (imm : Int) : aluRI .xori a imm = aluRR .xor a (wrapU imm) := rfl

theorem aluRI_ori (a : Nat) (imm : Int) : aluRI .ori a imm = aluRR .or a (wrapU imm) := rfl

theorem aluRI_andi (a : Nat) (imm : Int) : aluRI .andi a imm = aluRR .and a (wrapU imm) := rfl

theorem wrapU_shamt (imm : Int) (h : 0 ≤ imm ∧ imm < 32) : wrapU imm = imm.toNat := by
  simp only [wrapU]; omega

theorem aluRI_slli (a : Nat) (imm : Int) (h : 0 ≤ imm ∧ imm < 32) :
    W (aluRI .slli a imm) = W a <<< imm.toNat := by
  simp only [aluRI, wrapU_shamt imm h]; exact W_shl a _

theorem aluRI_srli (a : Nat) (imm : Int) (h : 0 ≤ imm ∧ imm < 32) (ha : a < 4294967296) :
    W (aluRI .srli a imm) = W a >>> imm.toNat := by
  simp only [aluRI, wrapU_shamt imm h]; exact W_shr a _ ha

theorem aluRI_srai (a : Nat) (imm : Int) (h : 0 ≤ imm ∧ imm < 32) :
    W (aluRI .srai a imm) = (W a).sshiftRight imm.toNat := by
  have : (imm % 65536).toNat = imm.toNat := by omega
  simp only [aluRI, this]; exact W_sar a _

/-! ### branch conditions -/

theorem br_beq (a b : Nat) (ha : a < 4294967296) (hb : b < 4294967296) :
    branchCond .beq a b = (W a == W b) := by
  simp only [branchCond]
  rw [Bool.eq_iff_iff, beq_iff_eq, beq_iff_eq]
  exact (W_inj a b ha hb).symm

theorem br_bne (a b : Nat) (ha : a < 4294967296) (hb : b < 4294967296) :
    branchCond .bne a b = (W a != W b) := by
  have := br_beq a b ha hb
  simp only [branchCond] at this
  simp only [branchCond, bne, this]

theorem br_blt (a b : Nat) : branchCond .blt a b = (W a).slt (W b) := by
  simp only [branchCond, BitVec.slt_eq_decide, toInt_W]

theorem br_bge (a b : Nat) : branchCond .bge a b = !(W a).slt (W b) := by
  simp only [branchCond, BitVec.slt_eq_decide, toInt_W]
  by_cases h : toS a < toS b <;> simp [h] <;> omega

theorem br_bltu (a b : Nat) (ha : a < 4294967296) (hb : b < 4294967296) :
    branchCond .bltu a b = (W a).ult (W b) := by
  simp only [branchCond, BitVec.ult_eq_decide, toNat_W a ha, toNat_W b hb]

theorem br_bgeu (a b : Nat) (ha : a < 4294967296) (hb : b < 4294967296) :
    branchCond .bgeu a b = !(W a).ult (W b) := by
  simp only [branchCond, BitVec.ult_eq_decide, toNat_W a ha, toNat_W b hb]
  by_cases h : a < b <;> simp [h] <;> omega

/-! ### extension of loaded values -/

/-- `Int8(x)`, `Int16(x)`: the two's-complement reading of the low bits. -/
theorem sextBits_toInt (k v : Nat) : sextBits (k + 1) v = (BitVec.ofNat (k + 1) v).toInt := by
  simp only [sextBits, BitVec.toInt_eq_toNat_cond, BitVec.toNat_ofNat, Nat.add_sub_cancel, Nat.pow_succ]
  split <;> split <;> omega

theorem ext_lb (v : Nat) : W (loadExt .lb v) = (BitVec.ofNat 8 v).signExtend 32 := by
  simp only [loadExt, W_wrapU, sextBits_toInt 7]; rfl

theorem ext_lh (v : Nat) : W (loadExt .lh v) = (BitVec.ofNat 16 v).signExtend 32 := by
  simp only [loadExt, W_wrapU, sextBits_toInt 15]; rfl

theorem ext_lbu (v : Nat) : W (loadExt .lbu (v % 2 ^ 8)) = (BitVec.ofNat 8 v).zeroExtend 32 := by
  apply BitVec.eq_of_toNat_eq
  simp only [loadExt, BitVec.zeroExtend, BitVec.toNat_setWidth, BitVec.toNat_ofNat, Nat.reducePow]

theorem ext_lhu (v : Nat) : W (loadExt .lhu (v % 2 ^ 16)) = (BitVec.ofNat 16 v).zeroExtend 32 := by
  apply BitVec.eq_of_toNat_eq
  simp only [loadExt, BitVec.zeroExtend, BitVec.toNat_setWidth, BitVec.toNat_ofNat, Nat.reducePow]

theorem ext_lw (v : Nat) : W (loadExt .lw v) = W v := rfl

/-! ### little-endian composition -/

theorem append_ofNat (w v x y : Nat) (hy : y < 2 ^ v) :
    BitVec.ofNat w x ++ BitVec.ofNat v y = BitVec.ofNat (w + v) (y + x * 2 ^ v) := by
  apply BitVec.eq_of_toNat_eq
  simp only [BitVec.toNat_append, BitVec.toNat_ofNat]
  rw [Nat.mod_eq_of_lt hy, ← Nat.shiftLeft_add_eq_or_of_lt hy, Nat.shiftLeft_eq, Nat.pow_add, Nat.mul_comm (2 ^ w),
    Nat.mod_mul, Nat.add_mul_mod_self_right, Nat.mod_eq_of_lt hy, Nat.add_mul_div_right _ _ (Nat.two_pow_pos v),
    Nat.div_eq_of_lt hy, Nat.zero_add, Nat.mul_comm, Nat.add_comm]

theorem half_of_bytes (c0 c1 : Nat) (h0 : c0 < 256) :
    BitVec.ofNat 8 c1 ++ BitVec.ofNat 8 c0 = BitVec.ofNat 16 (c0 + c1 * 256) :=
  append_ofNat 8 8 c1 c0 h0

theorem word_of_bytes (c0 c1 c2 c3 : Nat) (h0 : c0 < 256) (h1 : c1 < 256) (h2 : c2 < 256) :
    (BitVec.ofNat 8 c3 ++ BitVec.ofNat 8 c2 ++ BitVec.ofNat 8 c1 ++ BitVec.ofNat 8 c0 : BitVec 32) =
      W (c0 + c1 * 256 + c2 * 65536 + c3 * 16777216) := by
  rw [append_ofNat 8 8 c3 c2 h2, append_ofNat 16 8 _ c1 h1, append_ofNat 24 8 _ c0 h0]
  congr 1
  omega

theorem byteOf_W (v k : Nat) : byteOf (W v) k = BitVec.ofNat 8 (v % 4294967296 / 2 ^ (8 * k) % 256) := by
  apply BitVec.eq_of_toNat_eq
  simp only [byteOf, BitVec.extractLsb'_toNat, BitVec.toNat_ofNat, Nat.shiftRight_eq_div_pow, Nat.reducePow,
    Nat.mod_mod]

/-! ### program counter and link values, the JALR target -/

theorem ofInt_emod (x : Int) : BitVec.ofInt 32 (x % 4294967296) = BitVec.ofInt 32 x := by
  apply BitVec.eq_of_toNat_eq
  simp only [BitVec.toNat_ofInt]
  omega

theorem pc_next (pc : Int) : BitVec.ofInt 32 ((pc + 4) % 4294967296) = BitVec.ofInt 32 pc + 4 := by
  rw [ofInt_emod, BitVec.ofInt_add]; rfl

/-- A taken branch or jump: `behavior` leaves `target - 4`, the stage adds 4. -/
theorem pc_rel (pc imm : Int) :
    BitVec.ofInt 32 ((pc + (imm - 4) + 4) % 4294967296) = BitVec.ofInt 32 pc + BitVec.ofInt 32 imm := by
  rw [ofInt_emod, show pc + (imm - 4) + 4 = pc + imm by omega, BitVec.ofInt_add]

theorem auipc_val (pc imm : Int) :
    W (wrapU (pc + imm * 4096)) = BitVec.ofInt 32 pc + BitVec.ofInt 32 (imm * 4096) := by
  rw [W_wrapU, BitVec.ofInt_add]

theorem link_val (pc : Int) : W (wrapU (pc + 4)) = BitVec.ofInt 32 pc + 4 := by
  rw [W_wrapU, BitVec.ofInt_add]; rfl

theorem clear_bit0 (x : Word) : (x &&& ~~~(1#32)).toNat = x.toNat - x.toNat % 2 := by
  have : x &&& ~~~(1#32) = (x >>> 1) <<< 1 := by
    ext k hk
    simp only [BitVec.getElem_and, BitVec.getElem_not, BitVec.getElem_shiftLeft, BitVec.getElem_ushiftRight,
      BitVec.getElem_one]
    by_cases h0 : k = 0
    · subst h0; simp
    · have h1 : ¬ k < 1 := by omega
      have h2 : 1 + (k - 1) = k := by omega
      simp [h0, h1, h2, BitVec.getLsbD_eq_getElem hk]
  rw [this]
  simp only [BitVec.toNat_shiftLeft, BitVec.toNat_ushiftRight, Nat.shiftLeft_eq, Nat.shiftRight_eq_div_pow]
  have := x.isLt
  omega

/-- The 16 bits are the Python's, not RV32's: `JALR.behavior` adds `fixedint.Int16(self.imm)` (and `SRAI` shifts by
    `fixedint.UInt16(self.imm)`, the `imm % 65536` of `aluRI_srai`).  Both conversions are the identity on the
    ranges `ImmOK` guarantees (12 bits signed for `jalr`, `0 ≤ imm < 32` for `srai`), which is all C01 needs. -/
theorem sext16_wrapU (imm : Int) (h : -2048 ≤ imm ∧ imm < 2048) : sextBits 16 (wrapU imm) = imm := by
  simp only [sextBits, wrapU, Nat.reducePow, Nat.reduceSub]
  omega

theorem jalr_pc (a : Nat) (imm : Int) (h : -2048 ≤ imm ∧ imm < 2048) :
    BitVec.ofInt 32 ((((wrapU (toS a + sextBits 16 (wrapU imm)) -
        wrapU (toS a + sextBits 16 (wrapU imm)) % 2 : Nat) : Int) - 4 + 4) % 4294967296) =
      (W a + BitVec.ofInt 32 imm) &&& ~~~(1#32) := by
  have ht : wrapU (toS a + imm) = (W a + BitVec.ofInt 32 imm).toNat := by
    rw [← toNat_W _ (wrapU_lt _), W_wrapU, BitVec.ofInt_add, ← toInt_W, BitVec.ofInt_toInt]
  rw [sext16_wrapU imm h, ht, ofInt_emod, Int.sub_add_cancel, BitVec.ofInt_natCast]
  generalize W a + BitVec.ofInt 32 imm = x
  apply BitVec.eq_of_toNat_eq
  rw [clear_bit0, BitVec.toNat_ofNat]
  exact Nat.mod_eq_of_lt (Nat.lt_of_le_of_lt (Nat.sub_le _ _) x.isLt)

/-! ### results stay 32-bit values -/

theorem aluRR_lt (op : Op) (a b : Nat) (ha : a < 4294967296) (hb : b < 4294967296) :
    aluRR op a b < 4294967296 := by
  have hx : a ^^^ b < 2 ^ 32 := Nat.xor_lt_two_pow (by omega) (by omega)
  have ho : a ||| b < 2 ^ 32 := Nat.or_lt_two_pow (by omega) (by omega)
  have hn : a &&& b ≤ a := Nat.and_le_left
  have hp : a * b < 4294967296 * 4294967296 := Nat.mul_lt_mul'' ha hb
  have hd : a / b ≤ a := Nat.div_le_self _ _
  have hm : a % b ≤ a := Nat.mod_le _ _
  have hs : a / 2 ^ (b % 32) ≤ a := Nat.div_le_self _ _
  unfold aluRR
  split <;> (try exact wrapU_lt _) <;> (try split) <;> (try exact wrapU_lt _) <;> omega

theorem aluRI_lt (op : Op) (a : Nat) (imm : Int) (ha : a < 4294967296) :
    aluRI op a imm < 4294967296 := by
  have hw := wrapU_lt imm
  have hx : a ^^^ wrapU imm < 2 ^ 32 := Nat.xor_lt_two_pow (by omega) (by omega)
  have ho : a ||| wrapU imm < 2 ^ 32 := Nat.or_lt_two_pow (by omega) (by omega)
  have hn : a &&& wrapU imm ≤ a := Nat.and_le_left
  have hs : a / 2 ^ (wrapU imm) ≤ a := Nat.div_le_self _ _
  unfold aluRI
  split <;> (try exact wrapU_lt _) <;> (try split) <;> omega

theorem loadExt_lt (op : Op) (v : Nat) (hv : v < 4294967296) : loadExt op v < 4294967296 := by
  unfold loadExt
  split <;> first | exact wrapU_lt _ | exact hv

end ArchSim.Lemmas.C01
