/-
The printed form of a canonical instruction is its default spelling (`C04Spell.render_default`), so the round trip
and the listing fixpoint are the spelling theorems of C04SpellMain at the default spelling; every loaded program
whose instructions can be printed (`Printable`) is canonical, hence its listing re-assembles to it.
-/
import ArchSim.Lemmas.C04SpellEntry
import ArchSim.Lemmas.C14Loaded

namespace ArchSim.Lemmas.C14
open ArchSim ArchSim.PP ArchSim.Rv ArchSim.Asm

open ArchSim.Lemmas.C04Spell in
theorem roundtrip_core (i : Instr) (addr : Int) (hc : i.Canon addr) (hf : i.op ≠ .fence) :
    ∃ it, parseLine i.repr.toList = some { lbl := none, item := it } ∧ ItemBuilds addr it i :=
  have h := render_roundtrip {} i addr hc hf fun _ => trivial
  ⟨itemOf i, h.1 ▸ h.2.1, h.2.2⟩

open ArchSim.Lemmas.C04Spell in
theorem load_listing (s : St) (prog : List Instr) (hlen : prog.length ≤ 4096) (hc : CanonFrom 0 prog) :
    load s (String.intercalate "\n" (prog.map Instr.repr)) =
      { st := { s with mem := s.mem.reset, imem := { prog := prog, cache := s.imem.cache.map ICache.reset } },
        err := none } := by
  -- each line is the default spelling of its instruction, and `sanitize` keeps it as it is
  have hline : ∀ i ∈ prog, NoBreak i.repr.toList ∧ entryOf i.repr.toList = some (render {} i) := fun i hi => by
    obtain ⟨⟨a, ha⟩, hf⟩ := canonFrom_mem hc i hi
    have hl := legible_of_canon {} i a ha hf fun _ => trivial
    have he := entryOf_render {} i hl [] (.inl rfl)
    rw [List.append_nil] at he
    rw [← render_default i hf (canon_csr_nonneg i a ha)]
    exact ⟨allR_noBreak (render_allR {} i hl), he⟩
  refine load_spelled_st s _ prog (prog.map fun _ => {}) ?_ (by simp) hc ?_ hlen
  · rw [sanitize_of_lines _ _ (String.toList_intercalate ..) ?_, List.map_map, List.zipWith_map_left,
      List.zipWith_self]
    · exact filterMap_map_of _ _ _ prog fun i hi => (hline i hi).2
    · intro l hl
      rw [List.map_map] at hl
      obtain ⟨i, hi, rfl⟩ := List.mem_map.mp hl
      exact (hline i hi).1
  · intro p hp _
    obtain ⟨i, -, he⟩ := List.mem_map.mp (List.of_mem_zip hp).1
    rw [← he]
    trivial

theorem listing_loads (s : St) (prog : List Instr) (hlen : prog.length ≤ 4096) (hc : CanonFrom 0 prog) :
    (load s (String.intercalate "\n" (prog.map Instr.repr))).err = none ∧
    (load s (String.intercalate "\n" (prog.map Instr.repr))).st.imem.prog = prog := by
  rw [load_listing s prog hlen hc]
  exact ⟨rfl, rfl⟩

theorem built_listing (s : St) (ls : Labels) (es : List TEntry) (prog : List Instr) (hg : GrammarEntries es)
    (h : buildInstrs ls es 0 = .ok prog) (hlen : prog.length ≤ 4096) (hp : ∀ i ∈ prog, Printable i) :
    (load s (String.intercalate "\n" (prog.map Instr.repr))).err = none ∧
    (load s (String.intercalate "\n" (prog.map Instr.repr))).st.imem.prog = prog :=
  listing_loads s prog hlen (buildInstrs_canonFrom ls es 0 prog hg (by decide) h hp)

theorem loaded_listing (s s' : St) (text : String) (h : (load s text).err = none)
    (hp : ∀ i ∈ (load s text).st.imem.prog, Printable i) :
    (load s' (String.intercalate "\n" ((load s text).st.imem.prog.map Instr.repr))).err = none ∧
    (load s' (String.intercalate "\n" ((load s text).st.imem.prog.map Instr.repr))).st.imem.prog =
      (load s text).st.imem.prog := by
  obtain ⟨ls, es, hg, hb⟩ := load_ok_built s text h
  exact built_listing s' ls es _ hg hb (load_prog_le s text) hp

end ArchSim.Lemmas.C14
