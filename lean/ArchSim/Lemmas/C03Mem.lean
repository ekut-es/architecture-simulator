/-
The backing RISC-V memory in Nat-addressed form.  A single access and a block transfer of the cache
succeed as soon as the addresses lie in the data range: for that only the configuration matters; that the
cells are bytes (`MemOK`: the configuration and the C18 invariant `WF`) matters for the values.
-/
import ArchSim.Lemmas.C03Lanes
import ArchSim.Lemmas.C03Addr
import ArchSim.Lemmas.C18Repr

namespace ArchSim.Lemmas.C03
open ArchSim ArchSim.Cache ArchSim.Mem ArchSim.Spec.ByteStore ArchSim.Lemmas.C18 ArchSim.Spec.CacheAbs

/-- Backing memory well formed: the RISC-V configuration and the C18 invariant (the two fields `cfg`, `wf` of
    `Spec.CacheAbs.CInvS`).  Not to be confused with `C02Split.MemOK i s`, a condition on an instruction and a state. -/
structure MemOK (m : Mem) : Prop where
  cfg : m.cfg = riscvCfg
  wf  : WF m

theorem MemOK.cells_lt {m : Mem} (h : MemOK m) (x : Int) : m.cells x < 256 := by
  have := h.wf.cells_lt x
  rw [h.cfg] at this
  exact this

theorem MemOK_empty : MemOK (Mem.empty riscvCfg) := ⟨rfl, WF_empty _⟩

theorem MemOK_applyOp {m : Mem} (hm : MemOK m) (op : Spec.ByteStore.Op) : MemOK (applyOp m op) :=
  ⟨by rw [applyOp_cfg]; exact hm.cfg, WF_applyOp m op hm.wf⟩

theorem MemOK_run (h : List Spec.ByteStore.Op) : MemOK (run riscvCfg h) := by
  refine ⟨?_, WF_run _ _⟩
  rw [run_eq, applyCells_cfg]; rfl

theorem cellOk_riscv (A : Int) (i : Nat) (h1 : 16384 ≤ wrap32 A) (h2 : wrap32 A + i < 4294967296) :
    cellOk riscvCfg A i = true := by
  rw [riscv_cellOk_iff]
  have := wrap32_cast A
  have := wrap32_lt A
  omega

theorem cellBad_riscv (A : Int) (h1 : wrap32 A < 16384) : cellOk riscvCfg A 0 = false := by
  rw [Bool.eq_false_iff, ne_eq, riscv_cellOk_iff]
  have := wrap32_cast A
  simp only [Int.natCast_zero, Int.add_zero]
  omega

theorem wrapAddr_add (A : Int) (i : Nat) (h2 : wrap32 A + i < 4294967296) :
    wrapAddr riscvCfg (A + (i : Int)) = ((wrap32 A + i : Nat) : Int) := by
  rw [wrapAddr_riscv, wrap32_add_lt A i h2]

/-! ### single accesses -/

theorem inWord_hi {bits : Nat} {addr : Int} (hw : inWord bits addr) :
    wrap32 addr + bits / 8 ≤ 4294967296 := by
  have := wrap32_lt addr
  unfold inWord at hw
  omega

theorem widthOK_bounds {bits : Nat} (hb : widthOK bits) : 8 ≤ bits ∧ 0 < bits / 8 ∧ bits / 8 ≤ 4 := by
  rcases hb with rfl | rfl | rfl <;> decide

theorem not_cellBits_gt {m : Mem} (hc : m.cfg = riscvCfg) {bits : Nat} (hb : widthOK bits) :
    ¬ m.cfg.cellBits > bits := by
  rw [hc]; exact Nat.not_lt.mpr (widthOK_bounds hb).1

theorem write_keys_mono {m : Mem} {bits : Nat} {a : Int} {v : Nat} {r : Mem × Option AddrErr}
    (h : Mem.write m bits a v = some r) (x : Int) (hx : x ∈ m.keys) : x ∈ r.1.keys := by
  rw [write_some h, writeN_eq]
  exact (applyCells_keys_mem _ _ _).mpr (Or.inl hx)

/-- Only the configuration of `m` matters here. -/
theorem write_riscv_cfg {m : Mem} (hc : m.cfg = riscvCfg) (bits : Nat) (hb : widthOK bits) (A : Int)
    (v : Nat) (h1 : 16384 ≤ wrap32 A) (h2 : wrap32 A + bits / 8 ≤ 4294967296) :
    ∃ m', Mem.write m bits A v = some (m', none) ∧ m'.cfg = riscvCfg ∧ (WF m → WF m') ∧
      (∀ i, i < bits / 8 → m'.cells ((wrap32 A + i : Nat) : Int) = byteOf v i) ∧
      (∀ z : Int, (z < (wrap32 A : Nat) ∨ ((wrap32 A + bits / 8 : Nat) : Int) ≤ z) →
        m'.cells z = m.cells z) ∧
      ∀ x, x ∈ m'.keys ↔ x ∈ m.keys ∨ ∃ i, i < bits / 8 ∧ x = ((wrap32 A + i : Nat) : Int) := by
  have h8 := not_cellBits_gt hc hb
  have hn : cellsOf m.cfg bits = bits / 8 := by rw [hc]; rfl
  have hok : ∀ i, i < bits / 8 → cellOk m.cfg A i = true := by
    intro i hi; rw [hc]; exact cellOk_riscv A i h1 (by omega)
  have hn4 := (widthOK_bounds hb).2.2
  refine ⟨(writeN m A (bits / 8) v).1, ?_, ?_, fun hwf => WF_writeN m A _ v hwf, ?_, ?_, fun x => ?_⟩
  · simp only [Mem.write, h8, if_false, hn]
    rw [← writeN_all_ok m A _ v hok]
  · rw [writeN_cfg]; exact hc
  · intro i hi
    have := writeN_cells_written m A (bits / 8) v i hi hok (by
      intro j hij hj
      rw [hc, wrapAddr_add A j (by omega), wrapAddr_add A i (by omega)]
      omega)
    rw [hc, wrapAddr_add A i (by omega)] at this
    exact this
  · intro z hz
    apply writeN_cells_other
    intro i hi
    rw [hc, wrapAddr_add A i (by omega)]
    omega
  · rw [writeN_eq, okIdx_all m.cfg A _ hok, applyCells_keys_mem]
    simp only [List.map_map, List.mem_map, List.mem_range]
    refine or_congr Iff.rfl (exists_congr fun i => and_congr_right fun hi => ?_)
    show wrapAddr m.cfg (A + (i : Int)) = x ↔ _
    rw [hc, wrapAddr_add A i (by omega)]
    exact eq_comm

theorem write_riscv {m : Mem} (hm : MemOK m) (bits : Nat) (hb : widthOK bits) (A : Int) (v : Nat)
    (h1 : 16384 ≤ wrap32 A) (h2 : wrap32 A + bits / 8 ≤ 4294967296) :
    ∃ m', Mem.write m bits A v = some (m', none) ∧ MemOK m' ∧
      (∀ i, i < bits / 8 → m'.cells ((wrap32 A + i : Nat) : Int) = byteOf v i) ∧
      (∀ z : Int, (z < (wrap32 A : Nat) ∨ ((wrap32 A + bits / 8 : Nat) : Int) ≤ z) →
        m'.cells z = m.cells z) ∧
      ∀ x, x ∈ m'.keys ↔ x ∈ m.keys ∨ ∃ i, i < bits / 8 ∧ x = ((wrap32 A + i : Nat) : Int) := by
  obtain ⟨m', e1, e2, e3, e4⟩ := write_riscv_cfg hm.cfg bits hb A v h1 h2
  exact ⟨m', e1, ⟨e2, e3 hm.wf⟩, e4⟩

/-- An in-range read succeeds whatever the cells hold (only the configuration matters); the cut to
    `bits` bits is vacuous once the cells are bytes (`read_riscv_cfg`). -/
theorem read_riscv_mod {m : Mem} (hc : m.cfg = riscvCfg) (bits : Nat)
    (hb : widthOK bits) (A : Int) (h1 : 16384 ≤ wrap32 A) (h2 : wrap32 A + bits / 8 ≤ 4294967296) :
    Mem.read m bits A =
      some (.ok (leSum m.cfg (cellsOf m.cfg bits) (fun i => m.cells (wrapAddr m.cfg (A + (i : Int))))
        % 2 ^ bits)) := by
  simp only [Mem.read, not_cellBits_gt hc hb, if_false]
  rw [readN_ok m A _ (by
    rw [hc]; intro i hi; rw [riscv_cellsOf] at hi; exact cellOk_riscv A i h1 (by omega))]
  rfl

theorem read_riscv_cfg {m : Mem} (hc : m.cfg = riscvCfg) (hlt : ∀ x, m.cells x < 256) (bits : Nat)
    (hb : widthOK bits) (A : Int) (h1 : 16384 ≤ wrap32 A) (h2 : wrap32 A + bits / 8 ≤ 4294967296) :
    Mem.read m bits A =
      some (.ok (leSum riscvCfg (bits / 8) (fun i => m.cells ((wrap32 A + i : Nat) : Int)))) := by
  rw [read_riscv_mod hc bits hb A h1 h2,
    leSum_mod_bits m.cfg bits _ (fun i _ => by rw [hc]; exact hlt _), hc, riscv_cellsOf]
  refine congrArg some (congrArg Except.ok ?_)
  apply leSum_congr
  intro i hi
  rw [wrapAddr_add A i (by omega)]

theorem read_riscv {m : Mem} (hm : MemOK m) (bits : Nat) (hb : widthOK bits) (A : Int)
    (h1 : 16384 ≤ wrap32 A) (h2 : wrap32 A + bits / 8 ≤ 4294967296) :
    Mem.read m bits A =
      some (.ok (leSum riscvCfg (bits / 8) (fun i => m.cells ((wrap32 A + i : Nat) : Int)))) :=
  read_riscv_cfg hm.cfg hm.cells_lt bits hb A h1 h2

theorem read_riscv_bad {m : Mem} (hc : m.cfg = riscvCfg) (bits : Nat) (hb : widthOK bits) (A : Int)
    (h1 : wrap32 A < 16384) :
    Mem.read m bits A = some (.error ⟨((wrap32 A : Nat) : Int)⟩) := by
  have h8 := not_cellBits_gt hc hb
  have hn := (widthOK_bounds hb).2.1
  simp only [Mem.read, h8, if_false]
  rw [readN_err m A _ 0 (by rw [hc]; exact hn) (fun i hi => absurd hi (Nat.not_lt_zero _))
    (by rw [hc]; exact cellBad_riscv A h1)]
  simp only [Except.map, hc, Int.natCast_zero, Int.add_zero, wrapAddr_riscv]

theorem write_riscv_bad {m : Mem} (hc : m.cfg = riscvCfg) (bits : Nat) (hb : widthOK bits) (A : Int) (v : Nat)
    (h1 : wrap32 A < 16384) :
    Mem.write m bits A v = some (m, some ⟨((wrap32 A : Nat) : Int)⟩) := by
  have h8 := not_cellBits_gt hc hb
  have hn := (widthOK_bounds hb).2.1
  simp only [Mem.write, h8, if_false]
  rw [writeN_first_bad m A _ v (by rw [hc]; exact hn) (by rw [hc]; exact cellBad_riscv A h1)]
  rw [hc, wrapAddr_riscv]

/-! ### words of the backing memory -/

/-- The word stored at byte address `y` (little-endian composition of four cells). -/
def memWord (m : Mem) (y : Nat) : Nat :=
  m.cells ((y : Nat) : Int) + m.cells ((y + 1 : Nat) : Int) * 256 +
    m.cells ((y + 2 : Nat) : Int) * 65536 + m.cells ((y + 3 : Nat) : Int) * 16777216

theorem memWord_eq_leSum (m : Mem) (y : Nat) :
    memWord m y = leSum riscvCfg 4 (fun i => m.cells ((y + i : Nat) : Int)) := by
  rw [leSum_four riscvCfg rfl]
  rfl

theorem memWord_lt {m : Mem} (hm : MemOK m) (y : Nat) : memWord m y < 4294967296 := by
  rw [memWord_eq_leSum]
  exact leSum_lt riscvCfg 4 _ fun _ _ => hm.cells_lt _

theorem byteOf_memWord {m : Mem} (hm : MemOK m) (y i : Nat) (hi : i < 4) :
    byteOf (memWord m y) i = m.cells ((y + i : Nat) : Int) := by
  rw [memWord_eq_leSum]
  exact byteOf_leSum 4 _ (fun _ _ => hm.cells_lt _) hi

theorem read_word_riscv {m : Mem} (hm : MemOK m) (A : Int) (h1 : 16384 ≤ wrap32 A)
    (h2 : wrap32 A + 4 ≤ 4294967296) : Mem.read m 32 A = some (.ok (memWord m (wrap32 A))) := by
  rw [read_riscv hm 32 (Or.inr (Or.inr rfl)) A h1 h2, memWord_eq_leSum]

/-! ### block transfers -/

theorem wordAt_cons_zero (w : Nat) (ws : List Nat) : wordAt (w :: ws) 0 = w := rfl
theorem wordAt_cons_succ (w : Nat) (ws : List Nat) (j : Nat) : wordAt (w :: ws) (j + 1) = wordAt ws j := rfl

/-- Only the configuration of `m` matters for the fetch to succeed; the words are those of the
    memory once its cells are bytes. -/
theorem readBlockFromMem_ok {m : Mem} (hc : m.cfg = riscvCfg) (base : Nat) (n i : Nat)
    (h1 : 16384 ≤ base) (h2 : base + 4 * (i + n) ≤ 4294967296) :
    ∃ ws, readBlockFromMem m base n i = .ok ws ∧ ws.length = n ∧
      (WF m → ∀ j, j < n → wordAt ws j = memWord m (base + 4 * (i + j))) := by
  induction n generalizing i with
  | zero => exact ⟨[], rfl, rfl, fun _ j hj => absurd hj (Nat.not_lt_zero _)⟩
  | succ n ih =>
    have hA := wrap32_word base i (by omega)
    obtain ⟨ws, hws, hlen, hw⟩ := ih (i + 1) (by omega)
    have hlo : 16384 ≤ wrap32 ((base : Int) + 4 * (i : Int)) := by rw [hA]; omega
    have hhi : wrap32 ((base : Int) + 4 * (i : Int)) + 4 ≤ 4294967296 := by rw [hA]; omega
    obtain ⟨w, hr⟩ : ∃ w, Mem.read m 32 ((base : Int) + 4 * (i : Int)) = some (.ok w) :=
      ⟨_, read_riscv_mod hc 32 (Or.inr (Or.inr rfl)) _ hlo hhi⟩
    refine ⟨w :: ws, by rw [readBlockFromMem, hr]; simp only; rw [hws],
      by rw [List.length_cons, hlen], fun hwf j hj => ?_⟩
    cases j with
    | zero =>
      -- both `hr` and `read_word_riscv` say what the same read returns
      have hw := read_word_riscv ⟨hc, hwf⟩ _ hlo hhi
      exact Except.ok.inj (Option.some.inj (hr.symm.trans (hw.trans (by rw [hA]; rfl))))
    | succ j =>
      rw [wordAt_cons_succ, hw hwf j (by omega), show i + 1 + j = i + (j + 1) by omega]

theorem readBlockFromMem_bad {m : Mem} (hc : m.cfg = riscvCfg) (base : Nat) (n : Nat) (h1 : base < 16384) :
    readBlockFromMem m base (n + 1) 0 = .error (.addr (base : Int)) := by
  have hA : wrap32 ((base : Int) + 4 * ((0 : Nat) : Int)) = base := wrap32_word base 0 (by omega)
  rw [readBlockFromMem, read_riscv_bad hc 32 (Or.inr (Or.inr rfl)) _ (by rw [hA]; exact h1), hA]

theorem writeBlockToMem_keys_mono (m : Mem) (base : Nat) (ws : List Nat) (i : Nat) (x : Int)
    (hx : x ∈ m.keys) : x ∈ (writeBlockToMem m base ws i).1.keys := by
  induction ws generalizing m i with
  | nil => exact hx
  | cons w ws ih =>
    rw [writeBlockToMem]
    cases hw : Mem.write m 32 ((base : Int) + 4 * i) w with
    | none => exact hx
    | some r =>
      obtain ⟨m', e⟩ := r
      have h1 := write_keys_mono hw x hx
      cases e with
      | some e => exact h1
      | none => exact ih m' (i + 1) h1

theorem writeBlockToMem_cfg (m : Mem) (base : Nat) (ws : List Nat) (i : Nat) :
    (writeBlockToMem m base ws i).1.cfg = m.cfg := by
  induction ws generalizing m i with
  | nil => rfl
  | cons w ws ih =>
    rw [writeBlockToMem]
    cases hw : Mem.write m 32 ((base : Int) + 4 * i) w with
    | none => rfl
    | some r =>
      obtain ⟨m', e⟩ := r
      cases e with
      | some e => exact write_cfg hw
      | none => exact (ih m' (i + 1)).trans (write_cfg hw)

theorem writeBlockToMem_ok {m : Mem} (hc : m.cfg = riscvCfg) (base : Nat) (ws : List Nat) (i : Nat)
    (h1 : 16384 ≤ base) (h2 : base + 4 * (i + ws.length) ≤ 4294967296) :
    ∃ m', writeBlockToMem m base ws i = (m', none) ∧ m'.cfg = riscvCfg ∧ (WF m → WF m') ∧
      (∀ j l, j < ws.length → l < 4 →
        m'.cells ((base + 4 * (i + j) + l : Nat) : Int) = byteOf (wordAt ws j) l ∧
        ((base + 4 * (i + j) + l : Nat) : Int) ∈ m'.keys) ∧
      (∀ z : Int, (z < ((base + 4 * i : Nat) : Int) ∨ ((base + 4 * (i + ws.length) : Nat) : Int) ≤ z) →
        m'.cells z = m.cells z) := by
  induction ws generalizing m i with
  | nil => exact ⟨m, rfl, hc, id, fun j l hj => absurd hj (Nat.not_lt_zero _), fun _ _ => rfl⟩
  | cons w ws ih =>
    simp only [List.length_cons] at h2
    have hA := wrap32_word base i (by omega)
    obtain ⟨m1, hw, hc1, hwf1, hcw, hco, hk⟩ := write_riscv_cfg hc 32 (Or.inr (Or.inr rfl))
      ((base : Int) + 4 * (i : Int)) w (by rw [hA]; omega) (by rw [hA]; omega)
    rw [hA] at hcw hco hk
    obtain ⟨m', hw', hc', hwf', hcw', hco'⟩ := ih hc1 (i + 1) (by omega)
    refine ⟨m', ?_, hc', fun h => hwf' (hwf1 h), ?_, ?_⟩
    · rw [writeBlockToMem, hw]; exact hw'
    · intro j l hj hl
      cases j with
      | zero =>
        rw [hco' _ (Or.inl (by omega))]
        have hmono := writeBlockToMem_keys_mono m1 base ws (i + 1)
        rw [hw'] at hmono
        exact ⟨hcw l hl, hmono _ ((hk _).2 (Or.inr ⟨l, hl, rfl⟩))⟩
      | succ j =>
        have := hcw' j l (by simpa using hj) hl
        rw [show base + 4 * (i + (j + 1)) + l = base + 4 * (i + 1 + j) + l by omega]
        exact this
    · intro z hz
      simp only [List.length_cons] at hz
      rw [hco' z (by omega), hco z (by omega)]

end ArchSim.Lemmas.C03
