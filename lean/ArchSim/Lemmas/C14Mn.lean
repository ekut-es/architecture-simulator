/-
The printed mnemonics (`mn op`, a non-empty word of lower-case letters) and the classes `cls` into which the operations
fall by the operand syntax of their printed line.
-/
import ArchSim.Lemmas.C14Scan
import ArchSim.Lemmas.RvBits

namespace ArchSim.Lemmas.C14
open ArchSim ArchSim.PP ArchSim.Rv ArchSim.Asm

def mn (op : Op) : List Char := op.mnemonic.toList

inductive Cls where
  | r | imm3 | jalr | load | store | b | u | jal | ecall | ebreak | csr | csri | fence
deriving DecidableEq, Repr

def cls : Op → Cls
  | .add | .sub | .sll | .slt | .sltu | .xor | .srl | .sra | .or | .and
  | .mul | .mulh | .mulhu | .mulhsu | .div | .divu | .rem | .remu => .r
  | .addi | .slti | .sltiu | .xori | .ori | .andi | .slli | .srli | .srai => .imm3
  | .jalr => .jalr
  | .ecall => .ecall
  | .ebreak => .ebreak
  | .lb | .lh | .lw | .lbu | .lhu => .load
  | .sb | .sh | .sw => .store
  | .beq | .bne | .blt | .bge | .bltu | .bgeu => .b
  | .lui | .auipc => .u
  | .jal => .jal
  | .fence => .fence
  | .csrrw | .csrrs | .csrrc => .csr
  | .csrrwi | .csrrsi | .csrrci => .csri

theorem mn_low : ∀ op : Op, (∀ c ∈ mn op, isLow c = true) ∧ mn op ≠ [] := forall_op (by decide +kernel)

theorem cls_ty : ∀ op : Op,
    (cls op = .r ↔ op.ty = .r) ∧
    (cls op = .imm3 ↔ (op.ty = .i ∧ op ≠ .jalr ∧ op ≠ .ecall ∧ op ≠ .ebreak) ∨ op.ty = .shiftI) ∧
    (cls op = .jalr ↔ op = .jalr) ∧ (cls op = .load ↔ op.ty = .memI) ∧ (cls op = .store ↔ op.ty = .s) ∧
    (cls op = .b ↔ op.ty = .b) ∧ (cls op = .u ↔ op.ty = .u) ∧ (cls op = .jal ↔ op = .jal) ∧
    (cls op = .ecall ↔ op = .ecall) ∧ (cls op = .ebreak ↔ op = .ebreak) ∧
    (cls op = .csr ↔ op.ty = .csr) ∧ (cls op = .csri ↔ op.ty = .csri) ∧ (cls op = .fence ↔ op = .fence) :=
  forall_op (by decide +kernel)

section
variable {op : Op}
theorem cls_r : cls op = .r ↔ op.ty = .r := (cls_ty op).1
theorem cls_imm3 : cls op = .imm3 ↔ (op.ty = .i ∧ op ≠ .jalr ∧ op ≠ .ecall ∧ op ≠ .ebreak) ∨ op.ty = .shiftI :=
  (cls_ty op).2.1
theorem cls_jalr : cls op = .jalr ↔ op = .jalr := (cls_ty op).2.2.1
theorem cls_load : cls op = .load ↔ op.ty = .memI := (cls_ty op).2.2.2.1
theorem cls_store : cls op = .store ↔ op.ty = .s := (cls_ty op).2.2.2.2.1
theorem cls_b : cls op = .b ↔ op.ty = .b := (cls_ty op).2.2.2.2.2.1
theorem cls_u : cls op = .u ↔ op.ty = .u := (cls_ty op).2.2.2.2.2.2.1
theorem cls_jal : cls op = .jal ↔ op = .jal := (cls_ty op).2.2.2.2.2.2.2.1
theorem cls_ecall : cls op = .ecall ↔ op = .ecall := (cls_ty op).2.2.2.2.2.2.2.2.1
theorem cls_ebreak : cls op = .ebreak ↔ op = .ebreak := (cls_ty op).2.2.2.2.2.2.2.2.2.1
theorem cls_csr : cls op = .csr ↔ op.ty = .csr := (cls_ty op).2.2.2.2.2.2.2.2.2.2.1
theorem cls_csri : cls op = .csri ↔ op.ty = .csri := (cls_ty op).2.2.2.2.2.2.2.2.2.2.2.1
theorem cls_fence : cls op = .fence ↔ op = .fence := (cls_ty op).2.2.2.2.2.2.2.2.2.2.2.2
end

end ArchSim.Lemmas.C14
