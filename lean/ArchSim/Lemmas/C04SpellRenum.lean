/-
Two lists of numbered items with the same items and strictly increasing numbers differ by an injective
renumbering of the naturals (`exists_renumbering`).
-/
namespace ArchSim.Lemmas.C04Spell

/-- `ks1[j] ↦ ks2[j]`, everything else is moved out of the way by `big` -/
def remap : List Nat → List Nat → Nat → Nat → Nat
  | k1 :: ks1, k2 :: ks2, big, a => if a = k1 then k2 else remap ks1 ks2 big a
  | _, _, big, a => a + big

theorem remap_map (ks1 ks2 : List Nat) (big : Nat) (hlen : ks1.length = ks2.length) (hnd : ks1.Nodup) :
    ks1.map (remap ks1 ks2 big) = ks2 := by
  induction ks1 generalizing ks2 with
  | nil =>
    cases ks2 with
    | nil => rfl
    | cons _ _ => simp at hlen
  | cons k1 ks1 ih =>
    cases ks2 with
    | nil => simp at hlen
    | cons k2 ks2 =>
      have hnd' := List.nodup_cons.mp hnd
      simp only [List.map_cons, remap, if_true, List.cons.injEq, true_and]
      rw [← ih ks2 (by simpa using hlen) hnd'.2]
      apply List.map_congr_left
      intro a ha
      have : a ≠ k1 := fun e => hnd'.1 (e ▸ ha)
      simp [this, ih ks2 (by simpa using hlen) hnd'.2]

theorem remap_not_mem (ks1 ks2 : List Nat) (big a : Nat) (hlen : ks1.length = ks2.length) (ha : a ∉ ks1) :
    remap ks1 ks2 big a = a + big := by
  induction ks1 generalizing ks2 with
  | nil => cases ks2 <;> rfl
  | cons k1 ks1 ih =>
    cases ks2 with
    | nil => rfl
    | cons k2 ks2 =>
      have h1 : a ≠ k1 := fun e => ha (by simp [e])
      simp only [remap, h1, if_false]
      exact ih ks2 (by simpa using hlen) (fun hm => ha (by simp [hm]))

theorem inj_on_of_nodup_map {α β : Type} (f : α → β) (l : List α) (h : (l.map f).Nodup) :
    ∀ a ∈ l, ∀ b ∈ l, f a = f b → a = b := by
  induction l with
  | nil => intro a ha; cases ha
  | cons x l ih =>
    rw [List.map_cons, List.nodup_cons] at h
    intro a ha b hb e
    rcases List.mem_cons.mp ha with rfl | ha'
    · rcases List.mem_cons.mp hb with rfl | hb'
      · rfl
      · exact absurd (e ▸ List.mem_map_of_mem hb') h.1
    · rcases List.mem_cons.mp hb with rfl | hb'
      · exact absurd (e ▸ List.mem_map_of_mem ha') h.1
      · exact ih h.2 a ha' b hb' e

theorem remap_injective (ks1 ks2 : List Nat) (big : Nat) (hlen : ks1.length = ks2.length) (hnd1 : ks1.Nodup)
    (hnd2 : ks2.Nodup) (hbig : ∀ k ∈ ks2, k < big) (a b : Nat) (h : remap ks1 ks2 big a = remap ks1 ks2 big b) :
    a = b := by
  have hmap := remap_map ks1 ks2 big hlen hnd1
  -- a number of `ks1` goes to a number of `ks2`, which is below `big`
  have hlt : ∀ c ∈ ks1, remap ks1 ks2 big c < big := fun c hc =>
    hbig _ (by have := List.mem_map_of_mem (f := remap ks1 ks2 big) hc; rwa [hmap] at this)
  by_cases ha : a ∈ ks1 <;> by_cases hb : b ∈ ks1
  · exact inj_on_of_nodup_map _ ks1 (by rw [hmap]; exact hnd2) a ha b hb h
  · have := hlt a ha; rw [h, remap_not_mem ks1 ks2 big b hlen hb] at this; omega
  · have := hlt b hb; rw [← h, remap_not_mem ks1 ks2 big a hlen ha] at this; omega
  · rw [remap_not_mem ks1 ks2 big a hlen ha, remap_not_mem ks1 ks2 big b hlen hb] at h; omega

theorem le_sum_of_mem (l : List Nat) (k : Nat) (h : k ∈ l) : k ≤ l.sum := by
  induction l with
  | nil => cases h
  | cons a l ih =>
    simp only [List.sum_cons]
    rcases List.mem_cons.mp h with e | hm
    · omega
    · have := ih hm; omega

theorem nodup_of_sorted (l : List Nat) (h : l.Pairwise (· < ·)) : l.Nodup :=
  List.Pairwise.imp (fun hab => Nat.ne_of_lt hab) h

theorem pairs_ext {α β : Type} (l1 l2 : List (α × β)) (h1 : l1.map (·.1) = l2.map (·.1))
    (h2 : l1.map (·.2) = l2.map (·.2)) : l1 = l2 := by
  induction l1 generalizing l2 with
  | nil => cases l2 with
    | nil => rfl
    | cons _ _ => simp at h1
  | cons a l1 ih =>
    cases l2 with
    | nil => simp at h1
    | cons b l2 =>
      simp only [List.map_cons, List.cons.injEq] at h1 h2
      rw [ih l2 h1.2 h2.2, Prod.ext h1.1 h2.1]

def renL {α : Type} (g : Nat → Nat) (p : Nat × α) : Nat × α := (g p.1, p.2)

theorem exists_renumbering {α : Type} (l1 l2 : List (Nat × α)) (h : l1.map (·.2) = l2.map (·.2))
    (h1 : (l1.map (·.1)).Pairwise (· < ·)) (h2 : (l2.map (·.1)).Pairwise (· < ·)) :
    ∃ g : Nat → Nat, (∀ a b, g a = g b → a = b) ∧ l2 = l1.map (renL g) := by
  have hlen : (l1.map (·.1)).length = (l2.map (·.1)).length := by simpa using congrArg List.length h
  have hmap := remap_map _ _ ((l2.map (·.1)).sum + 1) hlen (nodup_of_sorted _ h1)
  refine ⟨_, remap_injective _ _ _ hlen (nodup_of_sorted _ h1) (nodup_of_sorted _ h2)
    (fun k hk => Nat.lt_succ_of_le (le_sum_of_mem _ k hk)), pairs_ext _ _ ?_ ?_⟩
  · exact hmap.symm.trans (by rw [List.map_map, List.map_map]; rfl)
  · exact h.symm.trans (by rw [List.map_map]; rfl)

end ArchSim.Lemmas.C04Spell
