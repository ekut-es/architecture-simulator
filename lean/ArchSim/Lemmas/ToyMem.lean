/-
The flat memory of `Lemmas/C18*` at the TOY configuration: a 16-bit access is exactly one cell and never fails for
`0 ≤ a < 4096` (`putCell`: the one-cell store as a record, so that statements show the cell function).  The model
writes the loop "one word per cell, ascending" three times (`loadImage.writeInstrs`, `ToyAsm.writeInstrs`,
`ToyAsm.writeVals`); each is `putList` at its own `f`, so its cells are computed once.
-/
import ArchSim.Model.Toy
import ArchSim.Lemmas.C18Repr

namespace ArchSim.Toy
open ArchSim

/-- One-cell write of the TOY memory, as an explicit record. -/
def putCell (m : Mem.Mem) (a : Nat) (v : Nat) : Mem.Mem :=
  { m with cells := fun x => if x = (a : Int) then v % 65536 else m.cells x,
           keys := if (a : Int) ∈ m.keys then m.keys else m.keys ++ [(a : Int)] }

theorem inRange_toy (a : Nat) (ha : a < 4096) : Mem.inRange Mem.toyCfg (a : Int) = true := by
  rw [Lemmas.C18.toy_inRange]; simp; omega

theorem inRange_toy_ge (a : Nat) (ha : 4096 ≤ a) : Mem.inRange Mem.toyCfg (a : Int) = false := by
  rw [Lemmas.C18.toy_inRange]; simp; omega

theorem wrapAddr_toy (a : Int) : Mem.wrapAddr Mem.toyCfg a = a := Lemmas.C18.toy_wrap a

theorem cellsOf_toy : Mem.cellsOf Mem.toyCfg 16 = 1 := by decide
theorem cellBits_toy : Mem.toyCfg.cellBits = 16 := rfl

theorem read_toy (m : Mem.Mem) (hc : m.cfg = Mem.toyCfg) (a : Nat) (ha : a < 4096) :
    Mem.read m 16 (a : Int) = some (.ok (m.cells (a : Int) % 65536)) := by
  rw [Lemmas.C18.read_of_le m 16 a (by rw [hc]; decide), hc, cellsOf_toy,
    Lemmas.C18.toy_readN_one m hc a (by omega) (by omega)]
  rfl

theorem writeN_toy (m : Mem.Mem) (hc : m.cfg = Mem.toyCfg) (a : Nat) (ha : a < 4096) (v : Nat) :
    Mem.writeN m (a : Int) 1 v = (putCell m a v, none) := by
  have h : Mem.writeCell m (a : Int) (v % 65536) = .ok (putCell m a v) := by
    rw [Lemmas.C18.writeCell_ok m _ _ (by rw [hc]; exact inRange_toy a ha), hc]; rfl
  unfold Mem.writeN Mem.writeNFrom Mem.writeNFrom
  simp only [hc, cellBits_toy]
  simp [h]

theorem writeN_toy_err (m : Mem.Mem) (hc : m.cfg = Mem.toyCfg) (a : Nat) (ha : 4096 ≤ a) (v : Nat) :
    Mem.writeN m (a : Int) 1 v = (m, some ⟨(a : Int)⟩) := by
  have h : Mem.writeCell m (a : Int) (v % 65536) = .error ⟨(a : Int)⟩ := by
    rw [Lemmas.C18.writeCell_err m _ _ (by rw [hc]; exact inRange_toy_ge a ha), hc]; rfl
  unfold Mem.writeN Mem.writeNFrom
  simp only [hc, cellBits_toy]
  simp [h]

theorem write_toy (m : Mem.Mem) (hc : m.cfg = Mem.toyCfg) (a : Nat) (ha : a < 4096) (v : Nat) :
    Mem.write m 16 (a : Int) v = some (putCell m a v, none) := by
  rw [Lemmas.C18.write_of_le m 16 a v (by rw [hc]; decide), hc, cellsOf_toy, writeN_toy m hc a ha v]

@[simp] theorem putCell_cfg (m : Mem.Mem) (a v : Nat) : (putCell m a v).cfg = m.cfg := rfl

theorem putCell_cells (m : Mem.Mem) (a v : Nat) (x : Int) :
    (putCell m a v).cells x = if x = (a : Int) then v % 65536 else m.cells x := rfl

theorem rd_toy (s : TSt) (hc : s.mem.cfg = Mem.toyCfg) (a : Nat) (ha : a < 4096) :
    rd s a = s.mem.cells (a : Int) % 65536 := by
  simp [rd, read_toy s.mem hc a ha]

theorem wr_toy (s : TSt) (hc : s.mem.cfg = Mem.toyCfg) (a : Nat) (ha : a < 4096) (v : Nat) :
    wr s a v = putCell s.mem a v := by
  simp [wr, write_toy s.mem hc a ha]

theorem writeN_toy_int (m : Mem.Mem) (hc : m.cfg = Mem.toyCfg) (a : Int) (h0 : 0 ≤ a) (h1 : a < 4096)
    (v : Nat) : Mem.writeN m a 1 v = (putCell m a.toNat v, none) := by
  have := writeN_toy m hc a.toNat (by omega) v
  rwa [Int.toNat_of_nonneg h0] at this

/-- The loop shared by `_write_data` (the values of one declaration) and `_load_instructions`:
    the words `f x`, one per cell, ascending from address `a`. -/
def putList {α : Type} (f : α → Nat) (m : Mem.Mem) (a : Int) : List α → Mem.Mem
  | [] => m
  | x :: xs => putList f (Mem.writeN m a 1 (f x % 65536)).1 (a + 1) xs

theorem putList_cfg {α : Type} (f : α → Nat) (xs : List α) (m : Mem.Mem) (a : Int) :
    (putList f m a xs).cfg = m.cfg := by
  induction xs generalizing m a with
  | nil => rfl
  | cons x xs ih => simp only [putList]; rw [ih, Lemmas.C18.writeN_cfg]

theorem putList_cells {α : Type} (f : α → Nat) (d : α) (xs : List α) (m : Mem.Mem)
    (hc : m.cfg = Mem.toyCfg) (a : Int) (h0 : 0 ≤ a) (h1 : a + xs.length ≤ 4096) (x : Int) :
    (putList f m a xs).cells x =
      if a ≤ x ∧ x < a + xs.length then f (xs.getD (x - a).toNat d) % 65536 else m.cells x := by
  induction xs generalizing m a with
  | nil =>
    have : ¬ (a ≤ x ∧ x < a + ([] : List α).length) := by simp
    simp only [putList, if_neg this]
  | cons v vs ih =>
    simp only [List.length_cons] at h1
    simp only [putList]
    rw [writeN_toy_int m hc a h0 (by omega)]
    simp only
    rw [ih (putCell m a.toNat (f v % 65536)) (by simpa using hc) (a + 1) (by omega) (by omega)]
    simp only [putCell_cells, List.length_cons, Int.toNat_of_nonneg h0]
    by_cases h2 : a + 1 ≤ x ∧ x < a + 1 + vs.length
    · have h3 : a ≤ x ∧ x < a + ((vs.length + 1 : Nat) : Int) := by omega
      rw [if_pos h2, if_pos h3]
      have : (x - a).toNat = (x - (a + 1)).toNat + 1 := by omega
      rw [this, List.getD_cons_succ]
    · rw [if_neg h2]
      by_cases h4 : x = a
      · have h3 : a ≤ x ∧ x < a + ((vs.length + 1 : Nat) : Int) := by omega
        rw [if_pos h4, if_pos h3]
        have : (x - a).toNat = 0 := by omega
        rw [this, List.getD_cons_zero]
        omega
      · have h3 : ¬ (a ≤ x ∧ x < a + ((vs.length + 1 : Nat) : Int)) := by omega
        rw [if_neg h4, if_neg h3]

theorem rd_wr_toy (s : TSt) (hc : s.mem.cfg = Mem.toyCfg) (a b : Nat) (ha : a < 4096) (hb : b < 4096)
    (v : Nat) :
    rd { s with mem := wr s a v } b = if b = a then v % 65536 else rd s b := by
  rw [rd_toy _ (by simp [wr_toy s hc a ha]; exact hc) b hb, rd_toy s hc b hb, wr_toy s hc a ha]
  simp only [putCell_cells]
  by_cases h : b = a
  · simp [h]
  · have : ¬ ((b : Int) = (a : Int)) := by omega
    simp [h, this]

end ArchSim.Toy
