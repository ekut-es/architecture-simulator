/-
The instruction cache (C11): the invariant `IInv im c` — every valid way holds exactly the block of instruction memory
its tag and set index name — and one fetch against the instruction memory and the tag-only reference cache
(`fetch_spec`): transparency, invariant and accounting from one walk over hit and miss.
-/
import ArchSim.Lemmas.C09Pol
import ArchSim.Lemmas.RvFetch

namespace ArchSim.Lemmas.C11
open ArchSim ArchSim.Cache ArchSim.Rv ArchSim.Repl ArchSim.Spec.TagCache ArchSim.Lemmas.C09

/-! ### Address arithmetic -/

/-- Base address of the block with tag `t` in set `k`: the formula of `Spec.CacheAbs.WayOK.base` and of
    `C03.decode_base`, with the exponent written `2 + blkBits` as `decode` writes it. -/
def blockBaseOf (g : Geo) (t k : Nat) : Nat := (t * 2 ^ g.idxBits + k) * 2 ^ (2 + g.blkBits)

theorem decode_blockBaseOf (g : Geo) (a : Int) :
    (decode g.idxBits g.blkBits a).blockBase =
      blockBaseOf g (decode g.idxBits g.blkBits a).tag (decode g.idxBits g.blkBits a).setIdx := by
  rw [blockBaseOf, Nat.add_comm 2, C03.decode_base]

theorem decode_base_off (g : Geo) (a : Int) :
    (decode g.idxBits g.blkBits a).blockBase + 4 * (decode g.idxBits g.blkBits a).blockOff =
      wrap32 a - wrap32 a % 4 := by
  have := C03.decode_full_eq g.idxBits g.blkBits a
  have : (decode g.idxBits g.blkBits a).byteOff = wrap32 a % 4 := rfl
  omega

/-! ### The block fetched from instruction memory -/

theorem iBlockFromMem_get (im : IMem) (base : Nat) (n i k : Nat) (hk : k < n) :
    (iBlockFromMem im base n i)[k]? = some (im.instrAt ((base : Int) + 4 * ((i + k : Nat) : Int))) := by
  induction n generalizing i k with
  | zero => omega
  | succ n ih =>
    cases k with
    | zero => simp [iBlockFromMem]
    | succ k =>
      simp only [iBlockFromMem, List.getElem?_cons_succ]
      rw [ih (i + 1) k (by omega)]
      congr 3
      omega

theorem iBlockFromMem_congr {im im' : IMem} (h : im'.prog = im.prog) (base n i : Nat) :
    iBlockFromMem im' base n i = iBlockFromMem im base n i := by
  induction n generalizing i with
  | zero => rfl
  | succ n ih =>
    simp only [iBlockFromMem, ih]
    congr 1
    simp only [IMem.instrAt, h]

theorem block_select (im : IMem) (g : Geo) (pc : Int) :
    ((iBlockFromMem im (decode g.idxBits g.blkBits pc).blockBase g.words 0)[(decode g.idxBits g.blkBits pc).blockOff]?).getD none
      = im.instrAt ((wrap32 pc - wrap32 pc % 4 : Nat) : Int) := by
  rw [iBlockFromMem_get im _ g.words 0 _ (C03.decode_blockOff_lt g.idxBits g.blkBits pc), Option.getD_some, ← decode_base_off g pc]
  congr 1
  simp

/-! ### The invariant: every valid way holds the block its tag names -/

structure ISetOK (im : IMem) (g : Geo) (k : Nat) (cs : CSet Pol (Option Instr)) : Prop where
  nways : cs.ways.length = g.assoc
  pol   : Pol.WF g.assoc cs.pol
  ways  : ∀ w ∈ cs.ways, w.valid = true →
            w.base = blockBaseOf g w.tag k ∧ w.vals = iBlockFromMem im w.base g.words 0

/-- Invariant of the instruction cache `c` of instruction memory `im`: the right number of sets and
    ways, well-formed policy states, and every valid way holds exactly the block of `im` its tag and
    set index name.  Unlike `CacheAbs.SetOK` there is no clause "valid ways carry distinct tags": whichever
    valid way `findWay` finds holds the right block; distinctness comes from the reference cache through the
    erasure (`Props.C11.icache_tags_distinct`). -/
structure IInv (im : IMem) (c : ICache) : Prop where
  assoc : AssocOK c.isLru c.geo.assoc
  nsets : c.sets.length = 2 ^ c.geo.idxBits
  sets  : ∀ k cs, c.sets[k]? = some cs → ISetOK im c.geo k cs

theorem IInv_init (im : IMem) (isLru : Bool) (g : Geo) (penalty : Nat) (ha : AssocOK isLru g.assoc) :
    IInv im (ICache.init isLru g penalty) where
  assoc := ha
  nsets := by simp [ICache.init, initSets]
  sets := by
    intro k cs hk
    simp only [ICache.init, initSets] at hk
    have hmem := List.mem_of_getElem? hk
    rw [List.eq_of_mem_replicate hmem]
    refine ⟨by simp only [List.length_replicate]; rfl, ?_, ?_⟩
    · show Pol.WF g.assoc ((polOps isLru).init g.assoc)
      exact (polOps_ok ha).init
    · intro w hw hv
      rw [List.eq_of_mem_replicate hw] at hv
      cases hv

theorem IInv.congr {im im' : IMem} {c : ICache} (h : IInv im c) (hp : im'.prog = im.prog) :
    IInv im' c where
  assoc := h.assoc
  nsets := h.nsets
  sets := by
    intro k cs hk
    obtain ⟨h1, h2, h3⟩ := h.sets k cs hk
    refine ⟨h1, h2, fun w hw hv => ?_⟩
    obtain ⟨h4, h5⟩ := h3 w hw hv
    exact ⟨h4, by rw [h5, iBlockFromMem_congr hp]⟩

theorem IInv.getSet {im : IMem} {c : ICache} (h : IInv im c) (pc : Int) :
    ∃ cs, c.sets[(decode c.geo.idxBits c.geo.blkBits pc).setIdx]? = some cs ∧
      ISetOK im c.geo (decode c.geo.idxBits c.geo.blkBits pc).setIdx cs := by
  have hlt := C03.decode_setIdx_lt c.geo.idxBits c.geo.blkBits pc
  rw [← h.nsets] at hlt
  exact ⟨_, List.getElem?_eq_getElem hlt, h.sets _ _ (List.getElem?_eq_getElem hlt)⟩

theorem IInv.update {im : IMem} {c : ICache} (h : IInv im c) (idx : Nat)
    {cs' : CSet Pol (Option Instr)} (hcs : ISetOK im c.geo idx cs') (hits accesses : Nat)
    (lastHit : Bool) :
    IInv im { c with sets := c.sets.set idx cs', hits := hits, accesses := accesses,
                     lastHit := lastHit } where
  assoc := h.assoc
  nsets := by simp [h.nsets]
  sets := by
    intro k cs hk
    simp only [List.getElem?_set] at hk
    split at hk
    · rename_i hik
      split at hk
      · cases hk; exact hik ▸ hcs
      · cases hk
    · exact h.sets k cs hk

/-! ### Explicit forms of `fetch` -/

section Forms
variable {im : IMem} {c : ICache} {pc : Int} {cs : CSet Pol (Option Instr)}

/-- The cache after a miss that replaced set `idx` by `cs'`. -/
def missCache (c : ICache) (idx : Nat) (cs' : CSet Pol (Option Instr)) : ICache :=
  { c with sets := c.sets.set idx cs', accesses := c.accesses + 1, lastHit := false }

theorem fetch_miss {v : Nat} {p : Pol} {old : Way (Option Instr)} {d : DAddr}
    (hd : d = decode c.geo.idxBits c.geo.blkBits pc) (hc : im.cache = some c)
    (hs : c.sets[d.setIdx]? = some cs) (hf : findWay cs.ways d.tag = none)
    (hv : (polOps c.isLru).victim cs.pol = some v) (ho : cs.ways[v]? = some old)
    (ha : (polOps c.isLru).access cs.pol v = some p) :
    im.fetch pc =
      { imem := { im with cache := some (missCache c d.setIdx
          { ways := cs.ways.set v (newWay d (iBlockFromMem im d.blockBase c.geo.words 0)), pol := p }) },
        res := .ok (((iBlockFromMem im d.blockBase c.geo.words 0)[d.blockOff]?).getD none),
        extra := c.penalty } := by
  subst hd
  simp only [IMem.fetch, hc, readBlock_miss hs hf, writeBlock_miss _ hs hf hv ho ha, missCache]

end Forms

/-! ### One fetch: transparency, invariant, accounting -/

/-- What one fetch `o` from `im` with cache `c` does.  `IInv` of the new cache is stated for the OLD `im`: it reads
    only `im.prog`, and `IInv.congr` carries it to `o.imem`.  `c'.isLru = c.isLru` is carried because `eraseI`
    forgets the policy kind, which `polOps c.isLru` needs at the next fetch. -/
structure FetchSpec (im : IMem) (c : ICache) (pc : Int) (o : FetchOut) : Prop where
  res      : o.res = .ok (im.instrAt ((wrap32 pc - wrap32 pc % 4 : Nat) : Int))
  imem     : ∃ c', o.imem = { im with cache := some c' } ∧ IInv im c' ∧
               eraseI c' = (refRead (polOps c.isLru) (eraseI c) pc true).cache ∧
               c'.isLru = c.isLru
  extra    : o.extra = (refRead (polOps c.isLru) (eraseI c) pc true).extra

theorem refRead_eraseI (c : ICache) (pc : Int) {S' : List (CSet Pol (Option Instr))} {hit : Bool}
    (h : lookupSets (polOps c.isLru) (c.sets.map eraseSet) (decode c.geo.idxBits c.geo.blkBits pc) true
          = (S'.map eraseSet, hit)) :
    refRead (polOps c.isLru) (eraseI c) pc true =
      { cache := eraseI { c with sets := S', accesses := c.accesses + 1,
                                 hits := c.hits + (if hit then 1 else 0), lastHit := hit },
        miss := !hit,
        extra := if !hit then c.penalty else 0 } := by
  have h' : lookupSets (polOps c.isLru) (eraseI c).sets
      (decode (eraseI c).geo.idxBits (eraseI c).geo.blkBits pc) true = (S'.map eraseSet, hit) := h
  simp only [refRead, h']
  cases hit <;> rfl

theorem fetch_spec {im : IMem} {c : ICache} (hc : im.cache = some c) (hinv : IInv im c) (pc : Int) :
    FetchSpec im c pc (im.fetch pc) := by
  obtain ⟨cs, hs, hcs⟩ := hinv.getSet pc
  have hP := polOps_ok hinv.assoc
  cases hf : findWay cs.ways (decode c.geo.idxBits c.geo.blkBits pc).tag with
  | some i =>
    have hi : i < c.geo.assoc := hcs.nways ▸ findWay_lt hf
    obtain ⟨p, hp, hokp⟩ := hP.access cs.pol i hcs.pol hi
    obtain ⟨w, hw, hwv, hwt⟩ := findWay_some hf
    obtain ⟨hbase, hvals⟩ := hcs.ways w (List.mem_of_getElem? hw) hwv
    have href := refRead_eraseI c pc (lookupSets_hit true hs hf hp)
    simp only [IMem.fetch, hc, readBlock_hit hs hf hp]
    refine ⟨?_, ⟨_, rfl, ?_, by rw [href]; rfl, rfl⟩, by rw [href]; rfl⟩
    · simp only [hw, Option.map_some, Option.getD_some]
      rw [hvals, hbase, hwt, ← decode_blockBaseOf, block_select]
    · exact hinv.update _ (show ISetOK im c.geo _ { cs with pol := p } from ⟨hcs.nways, hokp, hcs.ways⟩) _ _ _
  | none =>
    obtain ⟨v, hv, hvlt⟩ := hP.victim cs.pol hcs.pol
    obtain ⟨p, hp, hokp⟩ := hP.access cs.pol v hcs.pol hvlt
    have hvl : v < cs.ways.length := hcs.nways ▸ hvlt
    have ho : cs.ways[v]? = some cs.ways[v] := List.getElem?_eq_getElem hvl
    have href := refRead_eraseI c pc
      (lookupSets_miss_alloc (iBlockFromMem im (decode c.geo.idxBits c.geo.blkBits pc).blockBase c.geo.words 0)
        hs hf hv hp)
    rw [fetch_miss rfl hc hs hf hv ho hp]
    refine ⟨?_, ⟨_, rfl, ?_, by rw [href]; rfl, rfl⟩, by rw [href]; rfl⟩
    · simp only
      rw [block_select]
    · refine hinv.update _ ⟨by simp [hcs.nways], hokp, ?_⟩ _ _ _
      intro w hw hwv
      rcases List.mem_or_eq_of_mem_set hw with h1 | h1
      · exact hcs.ways w h1 hwv
      · subst h1
        exact ⟨decode_blockBaseOf c.geo pc, rfl⟩

theorem aligned_wrap {pc : Int} (h0 : 0 ≤ pc) (h1 : pc < 4294967296) (h4 : pc % 4 = 0) :
    ((wrap32 pc - wrap32 pc % 4 : Nat) : Int) = pc := by
  have hw : (wrap32 pc : Int) = pc := by
    unfold wrap32; rw [Int.emod_eq_of_lt h0 h1, Int.toNat_of_nonneg h0]
  omega

/-- Through a cache that satisfies the invariant the fetch at an address holding an instruction returns it
    (`pc` below `2^32`, or it would wrap in the cache's address decoder). -/
theorem fetch_instrAt {im : IMem} {c : ICache} (hc : im.cache = some c) (hinv : IInv im c) {pc : Int} {i : Instr}
    (hi : im.instrAt pc = some i) (h1 : pc < 4294967296) : (im.fetch pc).res = .ok (some i) := by
  obtain ⟨h0, h4, _⟩ := IMem.instrAt_some hi
  rw [(fetch_spec hc hinv pc).res, aligned_wrap h0 h1 h4, hi]

/-! ### Sequences of fetches -/

theorem fetchRun_spec {im : IMem} {c : ICache} (hc : im.cache = some c) (hinv : IInv im c)
    (pcs : List Int) :
    ∃ c', (fetchRun im pcs).1 = { im with cache := some c' } ∧ IInv im c' ∧ c'.isLru = c.isLru ∧
      eraseI c' = (refRun (polOps c.isLru) (eraseI c) (fetchOps pcs)).1 ∧
      (fetchRun im pcs).2 = (refRun (polOps c.isLru) (eraseI c) (fetchOps pcs)).2.1 := by
  induction pcs generalizing im c with
  | nil =>
    refine ⟨c, ?_, hinv, rfl, rfl, rfl⟩
    cases im; simp only [fetchRun] at *; rw [hc]
  | cons pc pcs ih =>
    obtain ⟨_, ⟨c1, h1, hinv1, he1, hl1⟩, hx⟩ := fetch_spec hc hinv pc
    have hprog : ({ im with cache := some c1 } : IMem).prog = im.prog := rfl
    obtain ⟨c', h2, hinv2, hl2, he2, hx2⟩ :=
      ih (im := { im with cache := some c1 }) (c := c1) rfl (hinv1.congr hprog)
    refine ⟨c', ?_, hinv2.congr hprog.symm, hl2.trans hl1, ?_, ?_⟩
    · simp only [fetchRun, h1, h2]
    · simp only [fetchOps, List.map_cons, refRun, refOp]
      rw [he2, he1, hl1]; rfl
    · simp only [fetchOps, List.map_cons, refRun, refOp, fetchRun, h1]
      rw [hx2, hx, he1, hl1]; rfl

theorem eraseI_init (isLru : Bool) (g : Geo) (penalty : Nat) :
    eraseI (ICache.init isLru g penalty) = TagCache.init (polOps isLru) false g penalty := by
  simp [eraseI, ICache.init, TagCache.init, initSets, eraseSet, eraseWay, Way.empty]

theorem fetchRun_init (prog : List Instr) (isLru : Bool) (g : Geo) (penalty : Nat)
    (ha : AssocOK isLru g.assoc) (pcs : List Int) :
    let im : IMem := { prog := prog, cache := some (ICache.init isLru g penalty) }
    let ref := refRun (polOps isLru) (TagCache.init (polOps isLru) false g penalty) (fetchOps pcs)
    ∃ c', (fetchRun im pcs).1 = { im with cache := some c' } ∧ IInv im c' ∧
      eraseI c' = ref.1 ∧ (fetchRun im pcs).2 = ref.2.1 := by
  intro im ref
  obtain ⟨c', h1, h2, _, h4, h5⟩ := fetchRun_spec (im := im) rfl (IInv_init im isLru g penalty ha) pcs
  rw [show (ICache.init isLru g penalty).isLru = isLru from rfl, eraseI_init] at h4 h5
  exact ⟨c', h1, h2, h4, h5⟩

theorem fetchOps_counted (pcs : List Int) : ((fetchOps pcs).filter Op.counted).length = pcs.length := by
  induction pcs with
  | nil => rfl
  | cons pc pcs ih =>
    have : fetchOps (pc :: pcs) = Op.read 32 pc true :: fetchOps pcs := rfl
    rw [this, List.filter_cons_of_pos (by rfl), List.length_cons, ih, List.length_cons]

end ArchSim.Lemmas.C11
