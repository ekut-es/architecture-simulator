/-
The single-cycle step fetches exactly once per executed instruction: `IInv` is kept and the instruction cache's access
counter advances with the instruction count.  `singleRun n` here recurses on the state after the first step.
-/
import ArchSim.Lemmas.C11
import ArchSim.Lemmas.C02SplitFamilies

namespace ArchSim.Lemmas.C11
open ArchSim ArchSim.Cache ArchSim.Rv ArchSim.Repl ArchSim.Spec.TagCache ArchSim.Lemmas.C09

theorem singleStep_fetch_count {s : St} {c : ICache} (hc : s.imem.cache = some c)
    (hinv : IInv s.imem c) :
    ∃ c', (singleStep s).st.imem.cache = some c' ∧ IInv (singleStep s).st.imem c' ∧
      c'.accesses + s.instrs = c.accesses + (singleStep s).st.instrs ∧
      (singleStep s).st.instrs = s.instrs + (if (s.imem.instrAt s.pc).isSome then 1 else 0) := by
  obtain ⟨h1, h2, _⟩ := C02Split.singleStep_frame s
  cases hi : s.imem.instrAt s.pc with
  | none =>
    simp only [hi, Option.isSome_none, Bool.false_eq_true, if_false, Nat.add_zero] at h1 h2
    exact ⟨c, by rw [h1, hc], by rw [h1]; exact hinv, by rw [h2], by simp [h2]⟩
  | some j =>
    simp only [hi, Option.isSome_some, if_true] at h1 h2
    obtain ⟨_, ⟨c', hc', hinv', he, _⟩, _⟩ := fetch_spec hc hinv s.pc
    have ha : c'.accesses = c.accesses + 1 := congrArg (·.accesses) he
    refine ⟨c', by rw [h1, hc'], ?_, ?_, by simp [h2]⟩
    · rw [h1, hc']; exact hinv'.congr rfl
    · rw [h2]; omega

/-- `n` single-cycle steps, recursing on the state after the first step (the shape the inductions
    over a run from a given start need).  `C03Prog.singleRun` and `Pipe.singleRun` are the same function
    written with the last step outermost; `singleRun_succ'` is that equation for this one. -/
def singleRun : Nat → St → St
  | 0, s => s
  | n + 1, s => singleRun n (singleStep s).st

theorem singleRun_succ' (n : Nat) : ∀ (s : St), singleRun (n + 1) s = (singleStep (singleRun n s)).st := by
  induction n with
  | zero => intro s; rfl
  | succ n ih => intro s; rw [singleRun, ih (singleStep s).st]; rfl

theorem singleRun_fetch_count (n : Nat) {s : St} {c : ICache} (hc : s.imem.cache = some c)
    (hinv : IInv s.imem c) :
    ∃ c', (singleRun n s).imem.cache = some c' ∧ IInv (singleRun n s).imem c' ∧
      c'.accesses + s.instrs = c.accesses + (singleRun n s).instrs := by
  induction n generalizing s c with
  | zero => exact ⟨c, hc, hinv, rfl⟩
  | succ n ih =>
    obtain ⟨c1, h1, hinv1, ha1, _⟩ := singleStep_fetch_count hc hinv
    obtain ⟨c', h2, hinv2, ha2⟩ := ih h1 hinv1
    exact ⟨c', h2, hinv2, by simp only [singleRun]; omega⟩

/-! ### Concrete objects for the non-vacuity examples of `Props/C11.lean` -/

/-- A three-instruction program and a tiny cache (2 sets, 2-word blocks, 2 ways: the geometry of
    `C09.exGeo`). -/
def exProg : List Instr :=
  [ { op := .addi, rd := 1, rs1 := 0, imm := 5 }, { op := .add, rd := 2, rs1 := 1, rs2 := 1 },
    { op := .beq, rs1 := 0, rs2 := 0, imm := -8 } ]
def exIGeo : Geo := { idxBits := 1, blkBits := 1, assoc := 2 }
def exIM (isLru : Bool) : IMem := { prog := exProg, cache := some (ICache.init isLru exIGeo 7) }

end ArchSim.Lemmas.C11
