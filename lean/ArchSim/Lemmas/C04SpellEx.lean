/-
The concrete spellings, lines and texts of the non-vacuity examples of Props/C04Spell, and the lemmas of its finding
about glued mnemonics: pyparsing needs no blank between the mnemonic and the first operand, so `addra, x1, x2` is
`add ra, x1, x2`; in upper case the glued register name is rejected.
-/
import ArchSim.Lemmas.C04SpellLabelTarget

namespace ArchSim.Lemmas.C04Spell
open ArchSim ArchSim.PP ArchSim.Rv ArchSim.Asm ArchSim.Lemmas.C14

theorem addra_low : ∀ c ∈ "addra".toList, isLow c = true := by decide

theorem mnSep_comma (r : List Char) : MnSep (',' :: r) := by
  intro c hc
  simp only [List.head?_cons, Option.mem_def, Option.some.injEq] at hc
  subst hc; decide

theorem stage_addra (w' : List Char) (hv : CaseVar w' "addra".toList) (r : List Char) :
    oneOfCaseless rrrMn (w' ++ ',' :: r) = .ok "add" (w'.drop 3 ++ ',' :: r) := by
  -- `add` is the longest symbol of the table that is a prefix of `addra`
  rw [oneOfCaseless_var rrrMn w' "addra".toList (',' :: r) (by unfold LowSyms; decide +kernel) hv (by decide)
      (mnSep_comma r),
    find_longestFirst_some rrrMn _ "add" (by decide) (by decide) (by decide +kernel)]
  rfl

theorem pRType_ADDRA : pRType "ADDRA, x1, x2".toList = .fail := by
  have hv : CaseVar "ADDRA".toList "addra".toList := ⟨by decide, addra_low⟩
  have h := stage_addra "ADDRA".toList hv " x1, x2".toList
  have e : "ADDRA, x1, x2".toList = "ADDRA".toList ++ ',' :: " x1, x2".toList := by decide +kernel
  have hr : pReg (("ADDRA".toList).drop 3 ++ ',' :: " x1, x2".toList) = .fail :=
    pReg_fail_upper 'R' _ (by decide) (by decide)
  rw [e]
  simp only [pRType, h, bind_ok, hr, bind_fail]

theorem pRType_addra : pRType "addra, x1, x2".toList = .ok (.rtype "add" 1 1 2) [] := by
  have hv : CaseVar "addra".toList "addra".toList := CaseVar.refl addra_low
  have h := stage_addra "addra".toList hv " x1, x2".toList
  have e : "addra, x1, x2".toList = "addra".toList ++ ',' :: " x1, x2".toList := by decide +kernel
  have e2 : ("addra".toList).drop 3 ++ ',' :: " x1, x2".toList
      = tReg [] .abi 1 (tSep [] ',' (tReg [' '] .x 1 (tSep [] ',' (tReg [' '] .x 2 [])))) := by decide +kernel
  have hsp : AllWs [' '] := by intro c hc; simp at hc; subst hc; decide
  rw [e]
  simp only [pRType, h, bind_ok, e2,
    pReg_tReg [] .abi 1 _ allWs_nil (by decide) (tokEnd_tSep [] ',' _ allWs_nil comma_nlb),
    pComma_tSep [] _ allWs_nil,
    pReg_tReg [' '] .x 1 _ hsp (by decide) (tokEnd_tSep [] ',' _ allWs_nil comma_nlb),
    pReg_tReg [' '] .x 2 _ hsp (by decide) tokEnd_nil, map_ok]

/-- `"  addi\tsp , sp , -0x10  "` -/
def spAddi : Spelling where
  lead := [false, false]
  gapTab := true
  r1 := .abi
  r2 := .abi
  imm := .hex 0 (fun _ => false)
  c1a := [false]
  c2a := [false]
  trail := [false, false]

def iAddi : Instr := { op := .addi, rd := 2, rs1 := 2, imm := -16 }

/-- `"bEq zero, ra, 0b100"` -/
def spBeq : Spelling where
  mnCase := fun k => k == 1
  r1 := .abi
  r2 := .abi
  imm := .bin 0

def iBeq : Instr := { op := .beq, rs1 := 0, rs2 := 1, imm := 4 }

/-- `"LW\ta0 , 0x1F ( fp )"` -/
def spLw : Spelling where
  mnCase := fun _ => true
  gapTab := true
  r1 := .abi
  r2 := .fp
  imm := .hex 0 (fun _ => true)
  c1a := [false]
  pa := [false]
  pb := [false]
  pc := [false]

def iLw : Instr := { op := .lw, rd := 10, rs1 := 8, imm := 31 }

theorem render_examples : render spAddi iAddi = "  addi\tsp , sp , -0x10  ".toList ∧
    render spBeq iBeq = "bEq zero, ra, 0b100".toList ∧ render spLw iLw = "LW\ta0 , 0x1F ( fp )".toList := by
  decide +kernel

/-- the spelling of `"ADDI a0, zero, 0x10"` -/
def spL1 : Spelling where
  mnCase := fun _ => true
  r1 := .abi
  r2 := .abi
  imm := .hex 0 (fun _ => false)

/-- the spelling of `"sw a0, 0b100(sp)"` -/
def spL2 : Spelling where
  r1 := .abi
  r2 := .abi
  imm := .bin 0

def exProg : List Instr :=
  [{ op := .addi, rd := 10, rs1 := 0, imm := 16 }, { op := .sw, rs1 := 2, rs2 := 10, imm := 4 }]

def exLines : List (List Char) := ["ADDI a0, zero, 0x10".toList, "sw a0, 0b100(sp)".toList]

def tClean : String := "ADDI a0, zero, 0x10\nsw a0, 0b100(sp)"

/-- the same program with a comment line, blank lines, indentation (blanks and a tab) and a trailing comment -/
def tMessy : String := "# demo\n\n  ADDI a0, zero, 0x10   # set\n\tsw a0, 0b100(sp)\n\n"

theorem exProg_canon : ∀ k (hk : k < exProg.length), exProg[k].Canon (4 * k) ∧ exProg[k].op ≠ .fence := by
  intro k hk
  have : k = 0 ∨ k = 1 := by simp [exProg] at hk; omega
  rcases this with rfl | rfl <;> simp [exProg, Instr.Canon, Op.ty]

theorem exProg_aux : ∀ i ∈ exProg, i.aux.natAbs < 10 ^ 4300 := by
  intro i hi
  simp only [exProg, List.mem_cons, List.not_mem_nil, or_false] at hi
  rcases hi with rfl | rfl <;> exact small_natAbs _ (by decide) (by decide)

theorem isLabel_loop : IsLabel "loop".toList := ⟨'l', "oop".toList, by decide, by decide, by decide⟩

theorem offOk_0C : OffOk (.some [' '] [' '] "0C".toList) :=
  ⟨by unfold AllWs; decide, by unfold AllWs; decide, by decide, by decide⟩

end ArchSim.Lemmas.C04Spell
