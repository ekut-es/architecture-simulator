/-
One cache set and the list of sets as a partial map, `Spec.CacheAbs.lookup`: on a well-formed cache
`read_block` and `write_block` never fail and change the map exactly at the written block and the victim.
What the two primitives compute in the hit and in the miss case is taken from `Lemmas/C09Set.lean`.
-/
import ArchSim.Lemmas.C09Set

namespace ArchSim.Lemmas.C03
open ArchSim ArchSim.Cache ArchSim.Mem ArchSim.Spec.CacheAbs

theorem getElem?_set_cases {α : Type} {l : List α} {v i : Nat} {x a : α}
    (h : (l.set v x)[i]? = some a) : (i = v ∧ a = x) ∨ (i ≠ v ∧ l[i]? = some a) := by
  rw [List.getElem?_set] at h
  by_cases hiv : v = i
  · rw [if_pos hiv] at h
    split at h
    · cases h; exact Or.inl ⟨hiv.symm, rfl⟩
    · cases h
  · rw [if_neg hiv] at h
    exact Or.inr ⟨fun e => hiv e.symm, h⟩

theorem findWay_none {ways : List (Way Nat)} {tag : Nat} (h : findWay ways tag = none) :
    ∀ (i : Nat) (w : Way Nat), ways[i]? = some w → ¬ (w.valid = true ∧ w.tag = tag) :=
  fun i w hw hv => C09.findWay_none h i (C09.eraseWay_get.mpr ⟨w, hw, hv⟩)

theorem findWay_of_mem {ways : List (Way Nat)} (hd : Distinct ways) {tag i : Nat} {w : Way Nat}
    (hw : ways[i]? = some w) (hv : w.valid = true) (ht : w.tag = tag) :
    findWay ways tag = some i := by
  cases hf : findWay ways tag with
  | none => exact absurd ⟨hv, ht⟩ (findWay_none hf i w hw)
  | some j =>
    obtain ⟨w', hw', hv', ht'⟩ := C09.findWay_some hf
    rw [hd j i w' w hw' hw hv' hv (ht'.trans ht.symm)]

/-! ### `lookupWays` -/

theorem lookupWays_some_iff {ways : List (Way Nat)} (hd : Distinct ways) (tag : Nat) (w : Way Nat) :
    lookupWays ways tag = some w ↔ ∃ i : Nat, ways[i]? = some w ∧ w.valid = true ∧ w.tag = tag := by
  unfold lookupWays
  constructor
  · intro h
    cases hf : findWay ways tag with
    | none => rw [hf] at h; cases h
    | some i =>
      rw [hf] at h
      obtain ⟨w', hw', hv', ht'⟩ := C09.findWay_some hf
      have h' : ways[i]? = some w := h
      rw [hw'] at h'; cases h'
      exact ⟨i, hw', hv', ht'⟩
  · rintro ⟨i, hw, hv, ht⟩
    rw [findWay_of_mem hd hw hv ht]
    exact hw

theorem lookupWays_none_iff {ways : List (Way Nat)} (tag : Nat) :
    lookupWays ways tag = none ↔
      ∀ (i : Nat) (w : Way Nat), ways[i]? = some w → ¬ (w.valid = true ∧ w.tag = tag) := by
  unfold lookupWays
  constructor
  · intro h
    cases hf : findWay ways tag with
    | none => exact findWay_none hf
    | some i =>
      rw [hf] at h
      obtain ⟨w', hw', _, _⟩ := C09.findWay_some hf
      have h' : ways[i]? = none := h
      rw [hw'] at h'; cases h'
  · intro h
    cases hf : findWay ways tag with
    | none => rfl
    | some i =>
      obtain ⟨w', hw', hv', ht'⟩ := C09.findWay_some hf
      exact absurd ⟨hv', ht'⟩ (h i w' hw')

theorem findWay_isSome (ways : List (Way Nat)) (tag : Nat) :
    (findWay ways tag).isSome = (lookupWays ways tag).isSome := by
  unfold lookupWays
  cases hf : findWay ways tag with
  | none => rfl
  | some i =>
    obtain ⟨w', hw', _, _⟩ := C09.findWay_some hf
    simp [hw']

theorem set_distinct {ways : List (Way Nat)} (hd : Distinct ways) (v : Nat) (wnew : Way Nat)
    (hu : ∀ (j : Nat) (w : Way Nat), ways[j]? = some w → w.valid = true → w.tag = wnew.tag → j = v) :
    Distinct (ways.set v wnew) := by
  intro i j wi wj hi hj hvi hvj ht
  rcases getElem?_set_cases hi with ⟨rfl, rfl⟩ | ⟨_, hi'⟩ <;>
    rcases getElem?_set_cases hj with ⟨rfl, rfl⟩ | ⟨_, hj'⟩
  · rfl
  · exact (hu j wj hj' hvj ht.symm).symm
  · exact hu i wi hi' hvi ht
  · exact hd i j wi wj hi' hj' hvi hvj ht

theorem lookupWays_set {ways : List (Way Nat)} (hd : Distinct ways) (v : Nat) (old wnew : Way Nat)
    (hold : ways[v]? = some old) (hnv : wnew.valid = true)
    (hu : ∀ (j : Nat) (w : Way Nat), ways[j]? = some w → w.valid = true → w.tag = wnew.tag → j = v)
    (tag : Nat) :
    lookupWays (ways.set v wnew) tag =
      if tag = wnew.tag then some wnew
      else if old.valid = true ∧ tag = old.tag then none
      else lookupWays ways tag := by
  have hd' := set_distinct hd v wnew hu
  have hvlt : v < ways.length := C09.lt_of_getElem? hold
  by_cases h1 : tag = wnew.tag
  · rw [if_pos h1]
    exact (lookupWays_some_iff hd' tag wnew).mpr ⟨v, List.getElem?_set_self hvlt, hnv, h1.symm⟩
  · rw [if_neg h1]
    by_cases h2 : old.valid = true ∧ tag = old.tag
    · rw [if_pos h2]
      apply (lookupWays_none_iff tag).mpr
      intro i w hw hvt
      rcases getElem?_set_cases hw with ⟨_, rfl⟩ | ⟨hiv, hw'⟩
      · exact h1 hvt.2.symm
      · exact hiv (hd v i old w hold hw' h2.1 hvt.1 (h2.2.symm.trans hvt.2.symm)).symm
    · rw [if_neg h2]
      apply Option.ext
      intro w
      rw [lookupWays_some_iff hd', lookupWays_some_iff hd]
      constructor
      · rintro ⟨i, hw, hv, ht⟩
        rcases getElem?_set_cases hw with ⟨_, rfl⟩ | ⟨_, hw'⟩
        · exact absurd ht.symm h1
        · exact ⟨i, hw', hv, ht⟩
      · rintro ⟨i, hw, hv, ht⟩
        refine ⟨i, ?_, hv, ht⟩
        rw [List.getElem?_set_ne, hw]
        rintro rfl
        rw [hold] at hw; cases hw
        exact h2 ⟨hv, ht.symm⟩

/-! ### `lookup` on the list of sets -/

variable {σ : Type} {P : PolicyOps σ} {g : Geo} {WFp : σ → Prop}

theorem lookup_of_get {sets : List (CSet σ Nat)} {k : Nat} {cs : CSet σ Nat}
    (h : sets[k]? = some cs) (tag : Nat) : lookup sets k tag = lookupWays cs.ways tag := by
  simp [lookup, h]

theorem lookup_set (sets : List (CSet σ Nat)) (k : Nat) (cs' : CSet σ Nat)
    (hk : k < sets.length) (k' tag : Nat) :
    lookup (sets.set k cs') k' tag =
      if k' = k then lookupWays cs'.ways tag else lookup sets k' tag := by
  unfold lookup
  rw [List.getElem?_set]
  by_cases h : k = k'
  · subst h; simp [hk]
  · rw [if_neg h, if_neg (fun e => h e.symm)]

theorem lookup_some_valid {sets : List (CSet σ Nat)}
    (hs : SetsOK g WFp sets) {k tag : Nat} {w : Way Nat} (h : lookup sets k tag = some w) :
    k < 2 ^ g.idxBits ∧ WayOK g k w ∧ w.valid = true ∧ w.tag = tag := by
  unfold lookup at h
  cases hk : sets[k]? with
  | none => rw [hk] at h; cases h
  | some cs =>
    rw [hk] at h
    have hcs := hs.set k cs hk
    obtain ⟨i, hw, hv, ht⟩ := (lookupWays_some_iff hcs.distinct tag w).mp h
    exact ⟨hs.len ▸ C09.lt_of_getElem? hk, hcs.ways i w hw, hv, ht⟩

theorem SetsOK_set {sets : List (CSet σ Nat)}
    (hs : SetsOK g WFp sets) {k : Nat} {cs' : CSet σ Nat} (h : SetOK g WFp k cs') :
    SetsOK g WFp (sets.set k cs') := by
  refine ⟨by rw [List.length_set]; exact hs.len, fun k' cs hk' => ?_⟩
  rcases getElem?_set_cases hk' with ⟨rfl, rfl⟩ | ⟨_, hk''⟩
  · exact h
  · exact hs.set k' cs hk''

theorem readBlock_spec (hP : PolicyOK P g.assoc WFp) {sets : List (CSet σ Nat)}
    (hs : SetsOK g WFp sets) (d : DAddr) (hk : d.setIdx < 2 ^ g.idxBits) :
    ∃ sets', readBlock P sets d = .ok (sets', (lookup sets d.setIdx d.tag).map (·.vals)) ∧
      SetsOK g WFp sets' ∧ ∀ k tag, lookup sets' k tag = lookup sets k tag := by
  have hklt : d.setIdx < sets.length := hs.len ▸ hk
  have hget : sets[d.setIdx]? = some sets[d.setIdx] := List.getElem?_eq_getElem hklt
  have hcs := hs.set _ _ hget
  rw [lookup_of_get hget]
  cases hf : findWay sets[d.setIdx].ways d.tag with
  | none =>
    have hl : lookupWays sets[d.setIdx].ways d.tag = none := by simp [lookupWays, hf]
    rw [C09.readBlock_miss hget hf, hl]
    exact ⟨_, rfl, hs, fun _ _ => rfl⟩
  | some i =>
    obtain ⟨w, hw, hv, ht⟩ := C09.findWay_some hf
    have hl : lookupWays sets[d.setIdx].ways d.tag = some w := by simp [lookupWays, hf, hw]
    obtain ⟨p', hp', hwf'⟩ := hP.access _ i hcs.pol (hcs.len ▸ C09.lt_of_getElem? hw)
    rw [C09.readBlock_hit hget hf hp', hl, hw]
    refine ⟨_, rfl, SetsOK_set hs ⟨hcs.len, hwf', hcs.ways, hcs.distinct⟩, fun k tag => ?_⟩
    rw [lookup_set _ _ _ hklt]
    by_cases hkk : k = d.setIdx
    · rw [if_pos hkk, hkk, lookup_of_get hget]
    · rw [if_neg hkk]

/-- `old` is the way that is overwritten: on a hit the resident one, on a miss the policy's victim.  If it
    held another block, that block leaves the cache and is handed back (by `WayOK.dirty` a way is dirty exactly
    when valid, so the model's `if old.dirty` is stated with `old.valid`). -/
theorem writeBlock_spec (hP : PolicyOK P g.assoc WFp) {sets : List (CSet σ Nat)}
    (hs : SetsOK g WFp sets) (d : DAddr) (hk : d.setIdx < 2 ^ g.idxBits) (vals : List Nat)
    (hnew : WayOK g d.setIdx (C09.newWay d vals)) :
    ∃ sets' old,
      writeBlock P sets d vals =
        .ok (sets', (lookup sets d.setIdx d.tag).isSome,
             if old.valid = true ∧ old.tag ≠ d.tag then some (old.base, old.vals) else none) ∧
      SetsOK g WFp sets' ∧ WayOK g d.setIdx old ∧
      (old.valid = true → lookup sets d.setIdx old.tag = some old) ∧
      ∀ k tag, lookup sets' k tag =
        if k = d.setIdx ∧ tag = d.tag then some (C09.newWay d vals)
        else if k = d.setIdx ∧ old.valid = true ∧ tag = old.tag then none
        else lookup sets k tag := by
  have hklt : d.setIdx < sets.length := hs.len ▸ hk
  have hget : sets[d.setIdx]? = some sets[d.setIdx] := List.getElem?_eq_getElem hklt
  have hcs := hs.set _ _ hget
  rw [lookup_of_get hget, ← findWay_isSome]
  -- one way `v` is overwritten, and no other valid way carries the tag
  obtain ⟨v, old, p', hold, hwf', hu, hwr⟩ : ∃ v old p', sets[d.setIdx].ways[v]? = some old ∧ WFp p' ∧
      (∀ (j : Nat) (w : Way Nat), sets[d.setIdx].ways[j]? = some w → w.valid = true →
        w.tag = d.tag → j = v) ∧
      writeBlock P sets d vals =
        .ok (sets.set d.setIdx ⟨sets[d.setIdx].ways.set v (C09.newWay d vals), p'⟩,
             (findWay sets[d.setIdx].ways d.tag).isSome,
             if old.valid = true ∧ old.tag ≠ d.tag then some (old.base, old.vals) else none) := by
    cases hf : findWay sets[d.setIdx].ways d.tag with
    | none =>
      obtain ⟨v, hv, hvlt⟩ := hP.victim _ hcs.pol
      have hvl : v < sets[d.setIdx].ways.length := hcs.len ▸ hvlt
      have hold := List.getElem?_eq_getElem hvl
      obtain ⟨p', hp', hwf'⟩ := hP.access _ v hcs.pol hvlt
      have hno := findWay_none hf
      refine ⟨v, _, p', hold, hwf', fun j w hw hv' ht => absurd ⟨hv', ht⟩ (hno j w hw), ?_⟩
      rw [C09.writeBlock_miss vals hget hf hv hold hp', (hcs.ways v _ hold).dirty]
      by_cases hv' : sets[d.setIdx].ways[v].valid = true
      · rw [if_pos hv', if_pos ⟨hv', fun ht => hno v _ hold ⟨hv', ht⟩⟩]; rfl
      · rw [if_neg hv', if_neg (fun h => hv' h.1)]; rfl
    | some i =>
      obtain ⟨w, hw, hv, ht⟩ := C09.findWay_some hf
      obtain ⟨p', hp', hwf'⟩ := hP.access _ i hcs.pol (hcs.len ▸ C09.lt_of_getElem? hw)
      refine ⟨i, w, p', hw, hwf',
        fun j w' hw' hv' ht' => hcs.distinct j i w' w hw' hw hv' hv (ht'.trans ht.symm), ?_⟩
      rw [C09.writeBlock_hit vals hget hf hp', if_neg (fun h => h.2 ht)]; rfl
  refine ⟨_, old, hwr, ?_, hcs.ways v old hold, fun hvalid => ?_, fun k tag => ?_⟩
  · refine SetsOK_set hs ⟨by rw [List.length_set]; exact hcs.len, hwf', fun i w hw => ?_,
      set_distinct hcs.distinct v _ hu⟩
    rcases getElem?_set_cases hw with ⟨_, rfl⟩ | ⟨_, hw'⟩
    · exact hnew
    · exact hcs.ways i w hw'
  · rw [lookup_of_get hget]
    exact (lookupWays_some_iff hcs.distinct _ _).mpr ⟨v, hold, hvalid, rfl⟩
  · rw [lookup_set _ _ _ hklt]
    by_cases hkk : k = d.setIdx
    · rw [if_pos hkk]
      simp only
      rw [lookupWays_set hcs.distinct v old _ hold rfl hu tag, hkk, lookup_of_get hget]
      simp only [true_and]
      rw [C09.newWay_tag]
    · rw [if_neg hkk]
      simp only [hkk, false_and, if_false]

end ArchSim.Lemmas.C03
