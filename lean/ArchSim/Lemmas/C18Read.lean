/-
Flat memory, reads.  THE description of the multi-cell read is `readN_eq`: `readN m a n` is the error of the first
cell out of range (`firstBad`), else the little-endian sum `leSum` of the `n` cells; `readN_ok` / `readN_err` are its
two cases with `firstBad` replaced by hypotheses on the cells, and they are what the clients call.  `WF` is the
invariant of every memory reached by writes.
-/
import ArchSim.Lemmas.C18Store

namespace ArchSim.Lemmas.C18
open ArchSim.Mem ArchSim.Spec.ByteStore

theorem readCell_ok (m : Mem) (a : Int) (h : inRange m.cfg (wrapAddr m.cfg a) = true) :
    readCell m a = .ok (m.cells (wrapAddr m.cfg a)) := by
  simp [readCell, h]

theorem readCell_err (m : Mem) (a : Int) (h : inRange m.cfg (wrapAddr m.cfg a) = false) :
    readCell m a = .error ⟨wrapAddr m.cfg a⟩ := by
  simp [readCell, h]

/-- `readNFrom` with `i` cells already read: the little-endian sum of the cells `i + j`, or the error of the first one
    out of range. -/
theorem readNFrom_eq (m : Mem) (a : Int) (n i : Nat) :
    readNFrom m a n i =
      if ((List.range n).takeWhile (fun j => cellOk m.cfg a (i + j))).length < n then
        .error ⟨wrapAddr m.cfg (a + ((i + ((List.range n).takeWhile
          (fun j => cellOk m.cfg a (i + j))).length : Nat) : Int))⟩
      else .ok ((List.range n).map (fun j => m.cells (wrapAddr m.cfg (a + ((i + j : Nat) : Int)))
          * 2 ^ ((i + j) * m.cfg.cellBits))).sum := by
  induction n generalizing i with
  | zero => rfl
  | succ n ih =>
    have e : ∀ j, i + 1 + j = i + (j + 1) := fun j => by omega
    rw [takeWhile_range_succ, readNFrom]
    by_cases h : cellOk m.cfg a i = true
    · rw [readCell_ok m (a + i) h]
      simp only [Nat.add_zero, h, if_true, ih (i + 1), e, List.length_cons, List.length_map,
        Nat.add_lt_add_iff_right]
      by_cases hl : ((List.range n).takeWhile (fun j => cellOk m.cfg a (i + (j + 1)))).length < n
      · simp only [hl, if_true]
      · simp only [hl, if_false, List.range_succ_eq_map, List.map_cons, List.sum_cons, List.map_map,
          Function.comp_def, Nat.add_zero, Nat.succ_eq_add_one]
    · rw [readCell_err m (a + i) (Bool.not_eq_true _ ▸ h)]
      simp [h]

theorem readN_eq (m : Mem) (a : Int) (n : Nat) :
    readN m a n =
      if firstBad m.cfg a n < n then .error ⟨wrapAddr m.cfg (a + (firstBad m.cfg a n : Nat))⟩
      else .ok (leSum m.cfg n (fun i => m.cells (wrapAddr m.cfg (a + (i : Int))))) := by
  rw [readN, readNFrom_eq]
  simp only [Nat.zero_add, firstBad, okIdx, leSum]
  rfl

theorem readN_ok (m : Mem) (a : Int) (n : Nat) (hok : ∀ i, i < n → cellOk m.cfg a i = true) :
    readN m a n = .ok (leSum m.cfg n (fun i => m.cells (wrapAddr m.cfg (a + (i : Int))))) := by
  rw [readN_eq, firstBad_eq m.cfg a n n (Nat.le_refl n) hok (fun h => absurd h (Nat.lt_irrefl n)),
    if_neg (Nat.lt_irrefl n)]

theorem readN_err (m : Mem) (a : Int) (n j : Nat) (hj : j < n)
    (hok : ∀ i, i < j → cellOk m.cfg a i = true) (hbad : cellOk m.cfg a j = false) :
    readN m a n = .error ⟨wrapAddr m.cfg (a + (j : Int))⟩ := by
  rw [readN_eq, firstBad_eq m.cfg a n j (Nat.le_of_lt hj) hok (fun _ => hbad), if_pos hj]

/-! ### the public accessors on a supported width -/

theorem read_of_le (m : Mem) (bits : Nat) (a : Int) (hb : m.cfg.cellBits ≤ bits) :
    Mem.read m bits a = some ((readN m a (cellsOf m.cfg bits)).map (· % 2 ^ bits)) := by
  simp only [Mem.read, show ¬ m.cfg.cellBits > bits by omega, if_false]

theorem write_of_le (m : Mem) (bits : Nat) (a : Int) (v : Nat) (hb : m.cfg.cellBits ≤ bits) :
    Mem.write m bits a v = some (writeN m a (cellsOf m.cfg bits) v) := by
  simp only [Mem.write, show ¬ m.cfg.cellBits > bits by omega, if_false]

theorem write_some {m : Mem} {bits : Nat} {a : Int} {v : Nat} {r : Mem × Option AddrErr}
    (h : Mem.write m bits a v = some r) : r = writeN m a (cellsOf m.cfg bits) v := by
  unfold Mem.write at h
  split at h
  · cases h
  · exact (Option.some.inj h).symm

theorem write_cfg {m m' : Mem} {bits : Nat} {a : Int} {v : Nat} {e : Option AddrErr}
    (h : Mem.write m bits a v = some (m', e)) : m'.cfg = m.cfg :=
  (congrArg (·.1.cfg) (write_some h)).trans (writeN_cfg m a _ v)

/-! ### little-endian sums -/

theorem leSum_zero (c : Cfg) (f : Nat → Nat) : leSum c 0 f = 0 := rfl

theorem leSum_succ (c : Cfg) (n : Nat) (f : Nat → Nat) :
    leSum c (n + 1) f = leSum c n f + f n * 2 ^ (n * c.cellBits) := by
  simp [leSum, List.range_succ, List.sum_append]

theorem leSum_four (c : Cfg) (hcb : c.cellBits = 8) (f : Nat → Nat) :
    leSum c 4 f = f 0 + f 1 * 256 + f 2 * 65536 + f 3 * 16777216 := by
  rw [show (4 : Nat) = 0 + 1 + 1 + 1 + 1 from rfl, leSum_succ, leSum_succ, leSum_succ, leSum_succ,
    leSum_zero, hcb]
  simp only [Nat.reduceMul, Nat.reducePow]
  omega

theorem leSum_congr (c : Cfg) (n : Nat) (f g : Nat → Nat) (h : ∀ i, i < n → f i = g i) :
    leSum c n f = leSum c n g := by
  induction n with
  | zero => rfl
  | succ n ih =>
    rw [leSum_succ, leSum_succ, ih (fun i hi => h i (by omega)), h n (by omega)]

theorem leSum_lt (c : Cfg) (n : Nat) (f : Nat → Nat) (h : ∀ i, i < n → f i < 2 ^ c.cellBits) :
    leSum c n f < 2 ^ (n * c.cellBits) := by
  induction n with
  | zero => simp [leSum]
  | succ n ih =>
    have h1 := ih (fun i hi => h i (by omega))
    have h2 := Nat.mul_le_mul_right (2 ^ (n * c.cellBits)) (h n (by omega))
    rw [leSum_succ, Nat.succ_mul n, Nat.pow_add, Nat.mul_comm (2 ^ (n * c.cellBits))]
    rw [Nat.succ_mul] at h2
    omega

theorem leSum_cellVal (c : Cfg) (n v : Nat) :
    leSum c n (cellVal c v) = v % 2 ^ (n * c.cellBits) := by
  induction n with
  | zero => simp [leSum, Nat.mod_one]
  | succ n ih =>
    rw [leSum_succ, ih, Nat.succ_mul, Nat.pow_add, Nat.mod_mul, cellVal, Nat.mul_comm (2 ^ (n * c.cellBits))]

theorem cellsOf_mul_le (c : Cfg) (bits : Nat) : cellsOf c bits * c.cellBits ≤ bits :=
  Nat.div_mul_le_self _ _

theorem leSum_mod_bits (c : Cfg) (bits : Nat) (f : Nat → Nat)
    (h : ∀ i, i < cellsOf c bits → f i < 2 ^ c.cellBits) :
    leSum c (cellsOf c bits) f % 2 ^ bits = leSum c (cellsOf c bits) f := by
  apply Nat.mod_eq_of_lt
  exact Nat.lt_of_lt_of_le (leSum_lt c _ f h)
    (Nat.pow_le_pow_right (by omega) (cellsOf_mul_le c bits))

/-! ### what a write leaves in the cells -/

theorem writeN_cells_written (m : Mem) (a : Int) (n v i : Nat) (hi : i < n)
    (hok : ∀ i, i < n → cellOk m.cfg a i = true)
    (hd : ∀ j, i < j → j < n → wrapAddr m.cfg (a + (j : Int)) ≠ wrapAddr m.cfg (a + (i : Int))) :
    (writeN m a n v).1.cells (wrapAddr m.cfg (a + (i : Int))) = cellVal m.cfg v i := by
  rw [writeN_eq, okIdx_all _ _ _ hok, applyCells_cells]
  exact foldl_pick_range n (fun j => wrapAddr m.cfg (a + (j : Int))) (cellVal m.cfg v) _ i hi hd

theorem writeN_cells_other (m : Mem) (a : Int) (n v : Nat) (x : Int)
    (hx : ∀ i, i < n → wrapAddr m.cfg (a + (i : Int)) ≠ x) :
    (writeN m a n v).1.cells x = m.cells x := by
  rw [writeN_eq, applyCells_cells, okIdx_eq_range]
  apply foldl_pick_not_mem
  simp only [List.map_map, List.mem_map, List.mem_range, not_exists, not_and]
  exact fun i hi => hx i (Nat.lt_of_lt_of_le hi (firstBad_le m.cfg a n))

theorem roundtrip (m : Mem) (a : Int) (n v : Nat)
    (hok : ∀ i, i < n → cellOk m.cfg a i = true)
    (hd : ∀ i j, i < n → j < n → wrapAddr m.cfg (a + (i : Int)) = wrapAddr m.cfg (a + (j : Int)) → i = j) :
    readN (writeN m a n v).1 a n = .ok (v % 2 ^ (n * m.cfg.cellBits)) := by
  rw [readN_ok _ a n (by simpa using hok)]
  simp only [writeN_cfg]
  rw [leSum_congr m.cfg n _ (cellVal m.cfg v), leSum_cellVal]
  intro i hi
  apply writeN_cells_written m a n v i hi hok
  intro j hij hj e
  have := hd j i hj hi e
  omega

/-! ### address wrap -/

theorem wrapAddr_add_mul (c : Cfg) (hov : c.overflow = true) (a k : Int) :
    wrapAddr c (a + k * (2 : Int) ^ c.addrBits) = wrapAddr c a := by
  simp [wrapAddr, hov, Int.add_mul_emod_self_right]

theorem wrapAddr_alias (c : Cfg) (hov : c.overflow = true) (a k : Int) (i : Nat) :
    wrapAddr c (a + k * (2 : Int) ^ c.addrBits + (i : Int)) = wrapAddr c (a + (i : Int)) := by
  rw [Int.add_right_comm, wrapAddr_add_mul c hov]

theorem readNFrom_alias (m : Mem) (hov : m.cfg.overflow = true) (a k : Int) (n i : Nat) :
    readNFrom m (a + k * (2 : Int) ^ m.cfg.addrBits) n i = readNFrom m a n i := by
  simp only [readNFrom_eq, cellOk, wrapAddr_alias m.cfg hov]
  rfl

theorem writeNFrom_alias (m : Mem) (hov : m.cfg.overflow = true) (a k : Int) (n i v : Nat) :
    writeNFrom m (a + k * (2 : Int) ^ m.cfg.addrBits) n i v = writeNFrom m a n i v := by
  simp only [writeNFrom_eq, cellOk, wrapAddr_alias m.cfg hov]
  rfl

/-! ### range errors and truncated writes -/

theorem firstBad_le_of_bad (c : Cfg) (a : Int) (n i : Nat) (hbad : cellOk c a i = false) :
    firstBad c a n ≤ i := by
  refine Nat.le_of_not_lt fun h => ?_
  have := (firstBad_spec c a n).2.1 i h
  rw [hbad] at this
  cases this

theorem writeN_err (m : Mem) (a : Int) (n j v : Nat) (hj : j < n)
    (hok : ∀ i, i < j → cellOk m.cfg a i = true) (hbad : cellOk m.cfg a j = false) :
    writeN m a n v = ((writeN m a j v).1, some ⟨wrapAddr m.cfg (a + (j : Int))⟩) := by
  rw [writeN_eq, writeN_eq, firstBad_eq m.cfg a n j (by omega) hok (fun _ => hbad),
    okIdx_of_firstBad m.cfg a n j (by omega) hok (fun _ => hbad), okIdx_all m.cfg a j hok]
  simp [hj]

theorem writeN_all_ok (m : Mem) (a : Int) (n v : Nat)
    (hok : ∀ i, i < n → cellOk m.cfg a i = true) : (writeN m a n v).2 = none := by
  rw [writeN_eq, firstBad_eq m.cfg a n n (Nat.le_refl _) hok (fun h => absurd h (Nat.lt_irrefl _))]
  simp

theorem writeN_first_bad (m : Mem) (a : Int) (n v : Nat) (hn : 0 < n)
    (hbad : cellOk m.cfg a 0 = false) :
    writeN m a n v = (m, some ⟨wrapAddr m.cfg a⟩) := by
  rw [writeN_err m a n 0 v hn (fun i hi => absurd hi (Nat.not_lt_zero _)) hbad]
  simp [writeN, writeNFrom]

/-! ### well-formed memories -/

/-- The invariant of every memory reachable from `Mem.empty` by writes. -/
structure WF (m : Mem) : Prop where
  cells_lt : ∀ x, m.cells x < 2 ^ m.cfg.cellBits
  keys_nodup : m.keys.Nodup
  keys_inRange : ∀ x, x ∈ m.keys → inRange m.cfg x = true
  cells_zero : ∀ x, x ∉ m.keys → m.cells x = 0

theorem WF_empty (c : Cfg) : WF (Mem.empty c) where
  cells_lt := fun _ => Nat.two_pow_pos _
  keys_nodup := List.nodup_nil
  keys_inRange := by intro x hx; simp [Mem.empty] at hx
  cells_zero := fun _ _ => rfl

theorem WF_put (m : Mem) (p : Int × Nat) (h : WF m) (hv : p.2 < 2 ^ m.cfg.cellBits)
    (hr : inRange m.cfg p.1 = true) : WF (put m p) where
  cells_lt := by
    intro x
    rw [put_cells, pick]
    split
    · exact hv
    · exact h.cells_lt x
  keys_nodup := put_keys_nodup m p h.keys_nodup
  keys_inRange := by
    intro x hx
    rcases (put_keys_mem m p x).mp hx with hx | hx
    · exact h.keys_inRange x hx
    · rw [hx]; exact hr
  cells_zero := by
    intro x hx
    rw [put_keys_mem, not_or] at hx
    rw [put_cells, pick, if_neg (fun e => hx.2 e.symm)]
    exact h.cells_zero x hx.1

theorem WF_applyCells (m : Mem) (l : List (Int × Nat)) (h : WF m)
    (hl : ∀ p ∈ l, p.2 < 2 ^ m.cfg.cellBits ∧ inRange m.cfg p.1 = true) : WF (applyCells m l) := by
  induction l generalizing m with
  | nil => exact h
  | cons p l ih =>
    rw [applyCells_cons]
    apply ih
    · exact WF_put m p h (hl p (by simp)).1 (hl p (by simp)).2
    · intro q hq; exact hl q (by simp [hq])

theorem WF_writeN (m : Mem) (a : Int) (n v : Nat) (h : WF m) : WF (writeN m a n v).1 := by
  rw [writeN_eq]
  apply WF_applyCells m _ h
  intro p hp
  simp only [List.mem_map] at hp
  obtain ⟨i, hi, rfl⟩ := hp
  exact ⟨cellVal_lt _ _ _, mem_okIdx m.cfg a n i hi⟩

theorem WF_applyOp (m : Mem) (op : Op) (h : WF m) : WF (applyOp m op) := by
  cases op with
  | write bits a v =>
    simp only [applyOp, ArchSim.Mem.write]
    by_cases hc : m.cfg.cellBits > bits
    · simpa [hc] using h
    · simpa [hc] using WF_writeN m a _ v h

theorem WF_run (c : Cfg) (h : List Op) : WF (run c h) := by
  rw [run_eq]
  exact WF_applyCells _ _ (WF_empty c) (fun p hp => ⟨trace_val_lt c h p hp, trace_key_inRange c h p hp⟩)

/-! ### the two concrete configurations -/

theorem riscv_wrap (a : Int) : wrapAddr riscvCfg a = a % 4294967296 := by
  simp only [wrapAddr, riscvCfg, if_true, Int.reducePow]

theorem riscv_inRange (a : Int) : inRange riscvCfg a = (decide (16384 ≤ a) && decide (a < 4294967296)) := rfl

theorem riscv_cellsOf (bits : Nat) : cellsOf riscvCfg bits = bits / 8 := rfl

theorem toy_wrap (a : Int) : wrapAddr toyCfg a = a := rfl

theorem toy_inRange (a : Int) : inRange toyCfg a = (decide (0 ≤ a) && decide (a < 4096)) := rfl

theorem riscv_cellOk_iff (a : Int) (i : Nat) :
    cellOk riscvCfg a i = true ↔ 16384 ≤ (a + i) % 4294967296 := by
  simp only [cellOk, riscv_wrap, riscv_inRange, Bool.and_eq_true, decide_eq_true_eq]
  omega

theorem toy_cellOk_iff (a : Int) (i : Nat) :
    cellOk toyCfg a i = true ↔ 0 ≤ a + i ∧ a + i < 4096 := by
  simp only [cellOk, toy_wrap, toy_inRange, Bool.and_eq_true, decide_eq_true_eq]

theorem toy_key_range (m : Mem) (hc : m.cfg = toyCfg) (hwf : WF m) (a : Int) (ha : a ∈ m.keys) :
    0 ≤ a ∧ a < 4096 := by
  have := hwf.keys_inRange a ha
  rw [hc, toy_inRange] at this
  simpa only [Bool.and_eq_true, decide_eq_true_eq] using this

theorem toy_readN_one (m : Mem) (hc : m.cfg = toyCfg) (a : Int) (h0 : 0 ≤ a) (h1 : a < 4096) :
    readN m a 1 = .ok (m.cells a) := by
  rw [readN_ok m a 1 (by intro i hi; rw [hc, toy_cellOk_iff]; omega)]
  rw [show (1 : Nat) = 0 + 1 from rfl, leSum_succ, leSum_zero]
  simp [hc, toy_wrap]

end ArchSim.Lemmas.C18
