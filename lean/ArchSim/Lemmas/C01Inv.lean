/-
The refinement of one instruction, all supported mnemonics together, and what `behavior` preserves: for any memory
system first, then on a flat well-formed memory (`RegMemOK`).
-/
import ArchSim.Lemmas.C01Ecall

namespace ArchSim.Lemmas.C01
open ArchSim ArchSim.Rv ArchSim.Spec.RvSpec ArchSim.Mem ArchSim.Cache

theorem execOne_refines (i : Instr) (s : St) (hi : InstrWF i) (hsup : Supported i.op) (hs : StOK s) :
    αBeh (execOne i s) = some (exec i (α s)) := by
  obtain ⟨m, hm, hc, hw⟩ := hs.flat
  have h1 := hs.regs_lt i.rs1
  have h2 := hs.regs_lt i.rs2
  have g1 := α_get s hs _ hi.rs1
  have g2 := α_get s hs _ hi.rs2
  have himm := hi.imm
  cases hop : i.op <;> simp only [ImmOK, hop, Op.ty] at himm
  -- `behavior` writes `aluRR`/`aluRI` to `rd`; the `alu_*` lemma says it is the prescribed value
  case add | sub | sll | slt | sltu | xor | srl | sra | or | and | mul | mulh | mulhu | mulhsu | div | divu | rem
      | remu =>
    rw [execOne_wr i s _ (behavior_r i s (by rw [hop]; rfl)) hi.rd, hop]
    simp only [exec, hop, g1, g2, alu_add, alu_sub, alu_sll, alu_slt, alu_sltu _ _ h1 h2, alu_xor,
      alu_srl _ _ h1, alu_sra, alu_or, alu_and, alu_mul, alu_mulh, alu_mulhu _ _ h1 h2, alu_mulhsu _ _ h2,
      alu_div _ _ h2, alu_divu _ _ h1 h2, alu_rem _ _ h2, alu_remu _ _ h1 h2]
  case addi | slti | sltiu | xori | ori | andi =>
    rw [execOne_wr i s _ (behavior_i i s (by rw [hop]; rfl) (by rw [hop]; decide) (by rw [hop]; decide)
      (by rw [hop]; decide)) hi.rd, hop]
    simp only [exec, hop, g1, immI_W i himm, aluRI_addi, aluRI_slti, aluRI_sltiu, aluRI_xori, aluRI_ori,
      aluRI_andi, alu_add, alu_slt, alu_sltu _ _ h1 (wrapU_lt _), alu_xor, alu_or, alu_and]
  case slli | srli | srai =>
    rw [execOne_wr i s _ (behavior_shiftI i s (by rw [hop]; rfl)) hi.rd, hop]
    simp only [exec, hop, g1, shamtI_eq i himm, aluRI_slli _ _ himm, aluRI_srli _ _ himm h1, aluRI_srai _ _ himm]
  case beq | bne | blt | bge | bltu | bgeu =>
    rw [execOne_b i s (by rw [hop]; rfl) himm, hop]
    simp only [exec, hop, g1, g2, br_beq _ _ h1 h2, br_bne _ _ h1 h2, br_blt, br_bge, br_bltu _ _ h1 h2,
      br_bgeu _ _ h1 h2]
  case lui => exact execOne_lui i s hi hop
  case auipc => exact execOne_auipc i s hi hop
  case jal => exact execOne_jal i s hi hop
  case jalr => exact execOne_jalr i s hi hs hop
  -- the value read is `αVal bits (readN …)` on the reference side too (`load*_rd`)
  case lb | lbu | lh | lhu | lw =>
    rw [execOne_load i s m hm hc (by rw [hop]; rfl) hi.rd, hop]
    simp only [exec, hop, g1, immI_eq i himm, accessBits, addr_base, loadByte_rd s m hm hc, loadHalf_rd s m hm hc hw,
      loadWord_rd s m hm hc hw, Nat.reduceDiv]
    exact congrArg some (loadOut_bind s i _ _ _ (fun v => by
      simp only [hop, ext_lb, ext_lh, ext_lbu, ext_lhu, ext_lw, ofNat_mod_pow]))
  -- both sides store the little-endian bytes of `rs2` one after the other (`storeSeq`)
  case sb | sh | sw =>
    rw [execOne_store i s m hm hc (by rw [hop]; rfl), hop, ← storeSeq_writeN s m hm hc, ← addr_store]
    simp only [exec, hop, g1, g2, immI_eq i himm, accessBits, Nat.reduceDiv, ← bytes_byte, ← bytes_half,
      ← bytes_word, storeByte_eq, storeHalf_eq, storeWord_eq]
  case ecall => exact execOne_ecall i s hs hop
  case ebreak | fence | csrrw | csrrs | csrrc | csrrwi | csrrsi | csrrci =>
    rw [hop] at hsup; exact absurd hsup (by decide)

/-! ### what every instruction keeps

Two facts about `behavior` for any memory system carry the invariants of single-cycle states (`RegMemOK` here, C09's
`RunInv` for a cached memory): register values stay 32-bit values as long as the memory returns such values, and
the memory system afterwards is the old one or what the one access of the instruction left. -/

theorem behavior_regs_lt (i : Instr) (s : St) (h : ∀ r, s.regs r < 4294967296)
    (hrd : ∀ a v, (s.mem.read (accessBits i.op) a true).res = .ok v → v < 4294967296) (r : Nat) :
    (behavior i s).st.regs r < 4294967296 := by
  cases hty : i.op.ty with
  | r => rw [behavior_r i s hty]; exact setReg_lt h _ (aluRR_lt _ _ _ (h _) (h _)) r
  | shiftI => rw [behavior_shiftI i s hty]; exact setReg_lt h _ (aluRI_lt _ _ _ (h _)) r
  | memI =>
    rw [behavior_memI i s hty]
    dsimp only
    split
    · exact h r
    · exact setReg_lt h _ (loadExt_lt _ _ (hrd _ _ ‹_›)) r
  | s => rw [behavior_s i s hty]; dsimp only; split <;> exact h r
  | b => rw [behavior_b i s hty]; split <;> exact h r
  | u => rw [behavior_u i s hty]; split <;> exact setReg_lt h _ (wrapU_lt _) r
  | j => rw [behavior_j i s hty]; exact setReg_lt h _ (wrapU_lt _) r
  | i =>
    by_cases hj : i.op = .jalr
    · rw [behavior_jalr i s hj]; exact setReg_lt h _ (wrapU_lt _) r
    by_cases he : i.op = .ecall
    · rw [behavior_ecall i s he]
      rcases processEcall s with ⟨m, _ | _ | _ | _⟩ <;> exact h r
    by_cases hb : i.op = .ebreak
    · rw [behavior_ebreak i s hb]; exact h r
    · rw [behavior_i i s hty hj he hb]; exact setReg_lt h _ (aluRI_lt _ _ _ (h _)) r
  | fence => rw [behavior_fence i s hty]; exact h r
  | csr => rw [behavior_csr i s (.inl hty)]; exact h r
  | csri => rw [behavior_csr i s (.inr hty)]; exact h r

theorem behavior_mem_cases (i : Instr) (s : St) :
    (i.op.ty ≠ .memI ∧ i.op.ty ≠ .s ∧ i.op ≠ .ecall ∧ (behavior i s).st.mem = s.mem) ∨
    (i.op.ty = .memI ∧ ∃ a, (behavior i s).st.mem = (s.mem.read (accessBits i.op) a true).mem ∧
      ((behavior i s).fault = none → ∃ v, (s.mem.read (accessBits i.op) a true).res = .ok v)) ∨
    (i.op.ty = .s ∧ ∃ a v, v < 2 ^ accessBits i.op ∧
      (behavior i s).st.mem = (s.mem.write (accessBits i.op) a v false).mem ∧
      ((behavior i s).fault = none → ∃ x, (s.mem.write (accessBits i.op) a v false).res = .ok x)) ∨
    (i.op = .ecall ∧ (behavior i s).st.mem = (processEcall s).1 ∧
      ((behavior i s).fault = none → ∀ e, (processEcall s).2 ≠ .err e)) := by
  by_cases he : i.op = .ecall
  · refine .inr (.inr (.inr ⟨he, ?_⟩))
    rw [behavior_ecall i s he]
    rcases processEcall s with ⟨m, _ | _ | _ | _⟩
    · exact ⟨rfl, fun _ _ h => nomatch h⟩
    · exact ⟨rfl, fun _ _ h => nomatch h⟩
    · exact ⟨rfl, fun h => nomatch h⟩
    · exact ⟨rfl, fun h => nomatch h⟩
  by_cases hty : i.op.ty = .memI
  · refine .inr (.inl ⟨hty, (s.regs i.rs1 : Int) + i.imm, ?_⟩)
    rw [behavior_memI i s hty]
    dsimp only
    split
    · exact ⟨rfl, fun h => nomatch h⟩
    · exact ⟨rfl, fun _ => ⟨_, ‹_›⟩⟩
  by_cases hs : i.op.ty = .s
  · refine .inr (.inr (.inl ⟨hs, ((s.regs i.rs1 + wrapU i.imm) % 4294967296 : Nat),
      s.regs i.rs2 % 2 ^ accessBits i.op, Nat.mod_lt _ (Nat.two_pow_pos _), ?_⟩))
    rw [behavior_s i s hs]
    dsimp only
    split
    · exact ⟨rfl, fun h => nomatch h⟩
    · exact ⟨rfl, fun _ => ⟨_, ‹_›⟩⟩
  · exact .inl ⟨hty, hs, he, behavior_nonmem_mem i s hty hs he⟩

theorem behavior_inv (i : Instr) (s : St) (h : RegMemOK s) : RegMemOK (behavior i s).st := by
  obtain ⟨m, hm, hc, hw⟩ := h.flat
  refine ⟨?_, behavior_regs_lt i s h.regs_lt (fun a v hv => ?_), by rw [behavior_regs0]; exact h.x0⟩
  · rcases behavior_mem_cases i s with ⟨_, _, _, e⟩ | ⟨_, a, e, _⟩ | ⟨_, a, v, _, e, _⟩ | ⟨_, e, _⟩ <;> rw [e]
    · exact h.flat
    · rw [hm, read_flat_mem]; exact ⟨m, rfl, hc, hw⟩
    · rw [hm, write_flat_mem]
      exact ⟨_, rfl, (C18.applyOp_cfg ..).trans hc, C18.WF_applyOp _ _ hw⟩
    · rw [processEcall_flat_mem hm]; exact h.flat
  -- a flat memory returns the value read modulo `2 ^ bits`
  · rw [hm, read_flat_eq_flatRead] at hv
    exact Nat.lt_of_lt_of_le (flatRead_lt m _ a v hv) (Nat.pow_le_pow_right (by decide) (accessBits_le i.op))

theorem atFault_non_store (i : Instr) (σ : SpecSt) (h : i.op.ty ≠ .s) : atFault i σ = σ := by
  cases hop : i.op <;> simp only [atFault, hop] <;> (rw [hop] at h; exact absurd rfl h)

theorem behavior_mem (i : Instr) (s : St) {m : Mem} (hm : s.mem = .flat m) (hty : i.op.ty ≠ .s) :
    (behavior i s).st.mem = s.mem := by
  rcases behavior_mem_cases i s with ⟨_, _, _, e⟩ | ⟨_, a, e, _⟩ | ⟨h, _⟩ | ⟨_, e, _⟩
  · exact e
  · rw [e, hm, read_flat_mem]
  · exact absurd h hty
  · rw [e, processEcall_flat_mem hm]

theorem behavior_fault_α (i : Instr) (s : St) {m : Mem} (hm : s.mem = .flat m) (hty : i.op.ty ≠ .s) (f : Fault)
    (hf : (behavior i s).fault = some f) : α (behavior i s).st = α s := by
  rw [behavior_fault_st hf]
  simp only [α, behavior_mem i s hm hty]

end ArchSim.Lemmas.C01
