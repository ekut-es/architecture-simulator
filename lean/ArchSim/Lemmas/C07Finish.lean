/-
The intermediate results of one `Pipe.step` as functions of the old pipeline state, state and register of each stage
apart, and what the stages' frame equations say about them: only WB writes registers, only IF and MEM add penalty cycles,
nothing writes the stored program. They are the components of `Pipe.ifOut … Pipe.memOut` of C02Step: C07/C08 are stated with
these, the refinement proof of C02 with those, and facts cross along `ifOut_eq … memOut_eq`. `regsAfterWB` is in namespace
`Lemmas.C08`.
-/
import ArchSim.Lemmas.C02Latches
import ArchSim.Spec.PipeSeq

namespace ArchSim.Lemmas.C07
open ArchSim ArchSim.Rv ArchSim.Pipe ArchSim.Lemmas.C02Split

/-- The state with the cycle counter ticked (`self.state.performance_metrics.cycles += 1`). -/
def tick (s : St) : St := { s with cycles := s.cycles + 1 }

/-- State after the IF stage of this cycle (IF is skipped while stalled). -/
def sIF (p : PSt) : St :=
  match p.stalled with
  | none => (ifStage (tick p.st)).1
  | some _ => tick p.st

/-- New IF/ID register of this cycle. -/
def nIF (p : PSt) : Option Latch :=
  match p.stalled with
  | none => (ifStage (tick p.st)).2
  | some _ => p.l0

/-- State after IF and WB. -/
def sWB (p : PSt) : St := (wbStage (sIF p) p.l3).1
def nWB (p : PSt) : Option Latch := (wbStage (sIF p) p.l3).2
/-- New ID/EX register: ID reads the register file left by this cycle's WB. -/
def nID (p : PSt) : Option Latch := idStage p.hazard (sWB p).regs (idInput p) p.l1 p.l2
def exO (p : PSt) : ExOut := exStage (sWB p) (exInput p) p.l2 p.l3
def meO (p : PSt) : MemStOut := memStage (exO p).st (memInput p)

theorem ifOut_eq (p : PSt) : ifOut p = (sIF p, nIF p) := by
  unfold ifOut sIF nIF
  cases p.stalled <;> rfl

theorem wbOut_eq (p : PSt) : wbOut p = (sWB p, nWB p) := by
  unfold wbOut; rw [ifOut_eq]; rfl

theorem idOut_eq (p : PSt) : idOut p = nID p := by
  unfold idOut; rw [wbOut_eq]; rfl

theorem exOut_eq (p : PSt) : exOut p = exO p := by
  unfold exOut; rw [wbOut_eq]; rfl

theorem memOut_eq (p : PSt) : memOut p = meO p := by
  unfold memOut; rw [exOut_eq]; rfl

theorem meO_latch_isSome (p : PSt) (hf : (meO p).fault = none) : (meO p).latch.isSome = (memInput p).isSome :=
  memStage_latch_isSome _ _ hf

theorem step_eq (p : PSt) :
    step p =
      match (exO p).fault with
      | some f => { p := { p with st := (exO p).st, l1 := exFaultL1 p }, fault := some f }
      | none =>
        match (meO p).fault with
        | some f => { p := { p with st := (meO p).st }, fault := some f }
        | none => { p := finishStep p (meO p).st (nIF p) (nID p) (exO p).latch (meO p).latch (nWB p),
                    fault := none } := by
  rw [Pipe.step_eq, exOut_eq, memOut_eq, idOut_eq, ifOut_eq, wbOut_eq]; rfl

theorem step_ok (p : PSt) (h1 : (exO p).fault = none) (h2 : (meO p).fault = none) :
    step p = { p := finishStep p (meO p).st (nIF p) (nID p) (exO p).latch (meO p).latch (nWB p),
               fault := none } := by
  rw [step_eq, h1]; simp only [h2]

theorem step_exFault (p : PSt) (f : PFault) (h1 : (exO p).fault = some f) :
    step p = { p := { p with st := (exO p).st, l1 := exFaultL1 p }, fault := some f } := by
  rw [step_eq, h1]

theorem step_memFault (p : PSt) (f : PFault) (h1 : (exO p).fault = none) (h2 : (meO p).fault = some f) :
    step p = { p := { p with st := (meO p).st }, fault := some f } := by
  rw [step_eq, h1]; simp only [h2]

theorem step_p_cases (p : PSt) (P : PSt → Prop)
    (h1 : P { p with st := (exO p).st, l1 := exFaultL1 p }) (h2 : P { p with st := (meO p).st })
    (h3 : P (finishStep p (meO p).st (nIF p) (nID p) (exO p).latch (meO p).latch (nWB p))) :
    P (step p).p := by
  rw [step_eq]
  cases (exO p).fault with
  | some f => exact h1
  | none => cases (meO p).fault <;> assumption

theorem step_fault_none_iff (p : PSt) :
    (step p).fault = none ↔ (exO p).fault = none ∧ (meO p).fault = none := by
  rw [← exOut_eq, ← memOut_eq]; exact Pipe.step_fault_none_iff p

/-- Extra cycles of the instruction fetch at the current pc (0 when there is nothing to fetch). -/
def ifExtra (s : St) : Nat :=
  match s.imem.instrAt s.pc with
  | none => 0
  | some _ => (s.imem.fetch s.pc).extra

/-- Extra cycles of the MEM stage's `memory_access` on memory system `ms` (0 for a bubble). -/
def maExtra (ms : MemSys) (inp : Option Latch) : Nat :=
  match inp with
  | none => 0
  | some e =>
    match memoryAccess e.instr e.result e.rr.d2 ms true with
    | none => 0
    | some o => o.extra

theorem ifStage_st (s : St) :
    (ifStage s).1 = { s with imem := (ifStage s).1.imem, pc := (ifStage s).1.pc,
                             cycles := s.cycles + ifExtra s } := by
  unfold ifStage ifExtra
  cases s.imem.instrAt s.pc with
  | none => rfl
  | some i => simp only; split <;> rfl

theorem ifStage_pc (s : St) :
    (ifStage s).1.pc = if (s.imem.instrAt s.pc).isSome then s.pc + 4 else s.pc := by
  unfold ifStage
  cases s.imem.instrAt s.pc with
  | none => rfl
  | some i => simp only; split <;> rfl

end ArchSim.Lemmas.C07

namespace ArchSim.Lemmas.C08
open ArchSim ArchSim.Rv ArchSim.Pipe ArchSim.Lemmas.C02Split

/-- The register file after this cycle's write-back of the MEM/WB register `l3`: `wbRegs`, or nothing for a bubble. -/
def regsAfterWB (l3 : Option Latch) (regs : Nat → Nat) : Nat → Nat :=
  match l3 with
  | none => regs
  | some m => wbRegs m regs

end ArchSim.Lemmas.C08

namespace ArchSim.Lemmas.C07
open ArchSim ArchSim.Rv ArchSim.Pipe ArchSim.Lemmas.C02Split ArchSim.Lemmas.C08

theorem wbStage_regs (s : St) (l : Option Latch) : (wbStage s l).1.regs = regsAfterWB l s.regs := by
  cases l with
  | none => rfl
  | some m => rw [wbStage_some]; rfl

theorem exStage_st_nonEcall (s : St) (inp l2 l3 : Option Latch)
    (h : ∀ d, inp = some d → d.instr.op ≠ .ecall) :
    (exStage s inp l2 l3).st = s := by
  rcases exStage_st_run s inp l2 l3 with h' | ⟨d, hd, hop, _⟩
  · exact h'
  · exact absurd hop (h d hd)

theorem memStage_cycles (s : St) (inp : Option Latch) :
    (memStage s inp).st.cycles = s.cycles + maExtra s.mem inp := by
  cases inp with
  | none => rfl
  | some e =>
    unfold maExtra; dsimp only
    cases hma : memoryAccess e.instr e.result e.rr.d2 s.mem true with
    | none => rw [memStage_assert s e hma]; rfl
    | some o =>
      cases hres : o.res with
      | error err => rw [memStage_error s e o err hma hres]; rfl
      | ok rd => rw [memStage_some s e o rd hma hres, memCount_st]; rfl

/-- Extra cycles of this cycle's instruction fetch: none while stalled or with nothing at the pc. -/
def fetchExtra (p : PSt) : Nat :=
  match p.stalled with
  | none => ifExtra p.st
  | some _ => 0

/-- Extra cycles of this cycle's MEM-stage memory access (on the memory system EX leaves behind). -/
def memExtra (p : PSt) : Nat := maExtra (exO p).st.mem (memInput p)

theorem sIF_st (p : PSt) :
    sIF p = { p.st with imem := (sIF p).imem, pc := (sIF p).pc,
                        cycles := p.st.cycles + 1 + fetchExtra p } := by
  unfold sIF fetchExtra
  cases p.stalled with
  | none => exact ifStage_st (tick p.st)
  | some st => rfl

theorem sIF_exitCode (p : PSt) : (sIF p).exitCode = p.st.exitCode :=
  (congrArg St.exitCode (sIF_st p) :)

theorem sIF_instrs (p : PSt) : (sIF p).instrs = p.st.instrs :=
  (congrArg St.instrs (sIF_st p) :)

theorem sWB_pc (p : PSt) : (sWB p).pc = (sIF p).pc := (congrArg St.pc (wbStage_st (sIF p) p.l3) :)

theorem sWB_imem (p : PSt) : (sWB p).imem = (sIF p).imem := (congrArg St.imem (wbStage_st (sIF p) p.l3) :)

theorem sWB_cycles (p : PSt) : (sWB p).cycles = p.st.cycles + 1 + fetchExtra p :=
  (congrArg St.cycles (wbStage_st (sIF p) p.l3)).trans (congrArg St.cycles (sIF_st p) :)

theorem sWB_mem (p : PSt) : (sWB p).mem = p.st.mem :=
  (congrArg St.mem (wbStage_st (sIF p) p.l3)).trans (congrArg St.mem (sIF_st p) :)

theorem sWB_regs (p : PSt) : (sWB p).regs = regsAfterWB p.l3 p.st.regs :=
  (wbStage_regs (sIF p) p.l3).trans (congrArg (fun t => regsAfterWB p.l3 t.regs) (sIF_st p) :)

theorem exO_cycles (p : PSt) : (exO p).st.cycles = p.st.cycles + 1 + fetchExtra p :=
  (congrArg St.cycles (exStage_st (sWB p) (exInput p) p.l2 p.l3)).trans (sWB_cycles p)

theorem exO_regs (p : PSt) : (exO p).st.regs = regsAfterWB p.l3 p.st.regs :=
  (congrArg St.regs (exStage_st (sWB p) (exInput p) p.l2 p.l3)).trans (sWB_regs p)

theorem meO_cycles (p : PSt) : (meO p).st.cycles = p.st.cycles + 1 + fetchExtra p + memExtra p :=
  (memStage_cycles (exO p).st (memInput p)).trans (congrArg (· + memExtra p) (exO_cycles p))

theorem meO_regs (p : PSt) : (meO p).st.regs = regsAfterWB p.l3 p.st.regs :=
  (congrArg St.regs (memStage_st (exO p).st (memInput p))).trans (exO_regs p)

theorem meO_st (p : PSt) :
    (meO p).st = { sWB p with mem := (meO p).st.mem, output := (exO p).st.output,
                              cycles := (meO p).st.cycles, branches := (meO p).st.branches,
                              procs := (meO p).st.procs } :=
  (memStage_st (exO p).st (memInput p)).trans
    (congrArg (fun s : St => { s with mem := (meO p).st.mem, cycles := (meO p).st.cycles,
                                      branches := (meO p).st.branches, procs := (meO p).st.procs })
      (exStage_st (sWB p) (exInput p) p.l2 p.l3))

theorem sWB_stalls_flushes (p : PSt) : (sWB p).stalls = p.st.stalls ∧ (sWB p).flushes = p.st.flushes :=
  ⟨(congrArg St.stalls (wbStage_st (sIF p) p.l3)).trans (congrArg St.stalls (sIF_st p) :),
   (congrArg St.flushes (wbStage_st (sIF p) p.l3)).trans (congrArg St.flushes (sIF_st p) :)⟩

theorem meO_stalls (p : PSt) : (meO p).st.stalls = p.st.stalls :=
  (congrArg St.stalls (meO_st p)).trans (sWB_stalls_flushes p).1

theorem meO_flushes (p : PSt) : (meO p).st.flushes = p.st.flushes :=
  (congrArg St.flushes (meO_st p)).trans (sWB_stalls_flushes p).2

theorem step_imem (p : PSt) : (step p).p.st.imem = (sIF p).imem :=
  (step_st_imem p).trans (congrArg (·.1.imem) (ifOut_eq p))

/-! ### the stored program is never written -/

theorem ifStage_prog (s : St) : (ifStage s).1.imem.prog = s.imem.prog := by
  unfold ifStage
  cases s.imem.instrAt s.pc with
  | none => rfl
  | some i => dsimp only; split <;> exact IMem.fetch_prog ..

theorem step_prog (p : PSt) : (step p).p.st.imem.prog = p.st.imem.prog := by
  rw [step_imem]; unfold sIF
  cases p.stalled with
  | none => exact ifStage_prog (tick p.st)
  | some st => rfl

theorem pipeRun_prog (p : PSt) : ∀ n, (pipeRun n p).st.imem.prog = p.st.imem.prog
  | 0 => rfl
  | n + 1 => (step_prog (pipeRun n p)).trans (pipeRun_prog p n)

section
variable (p : PSt) (s : St) (n0 n1 n2 n3 n4 : Option Latch)

theorem finishStep_stalls :
    (finishStep p s n0 n1 n2 n3 n4).st.stalls =
      s.stalls + (if (pickStall p.stalled n1 n2).isSome then 1 else 0) := by
  obtain ⟨s', _, _, _, _, _, h, hs, _, _⟩ := finishStep_shape p s n0 n1 n2 n3 n4
  rw [h]
  rcases hs with rfl | ⟨a, rfl⟩ <;> rw [stallBump_st] <;> rfl

end

theorem finishStep_l4 (p : PSt) (s : St) (n0 n1 n2 n3 n4 : Option Latch) :
    (finishStep p s n0 n1 n2 n3 n4).l4 = n4 :=
  (finishStep_hazard_l4 p s n0 n1 n2 n3 n4).2

/-- No stage raises in this cycle. -/
def NoFault (p : PSt) : Prop := (exO p).fault = none ∧ (meO p).fault = none
/-- No register produced in this cycle carries a flush signal. -/
def NoFlush (p : PSt) : Prop :=
  latchFlush (nWB p) = none ∧ latchFlush (meO p).latch = none ∧ latchFlush (exO p).latch = none

instance (p : PSt) : Decidable (NoFault p) := by unfold NoFault; infer_instance
instance (p : PSt) : Decidable (NoFlush p) := by unfold NoFlush; infer_instance

theorem step_quiet (p : PSt) (hf : NoFault p) (hfl : NoFlush p) :
    step p =
      { p := { p with st := stallBump (pickStall p.stalled (nID p) (exO p).latch) (meO p).st, l0 := nIF p,
                      l1 := nID p,
                      l2 := (exO p).latch, l3 := (meO p).latch, l4 := nWB p,
                      stalled := nextStall p.stalled (pickStall p.stalled (nID p) (exO p).latch) p.l0 p.l1 },
        fault := none } := by
  rw [step_ok p hf.1 hf.2, finishStep_noflush _ _ _ _ _ _ _ hfl.1 hfl.2.1 hfl.2.2]

/-- The MEM-stage term of this cycle: MEM does not run when EX raised. -/
def memExtraRun (p : PSt) : Nat := if (exO p).fault.isSome then 0 else memExtra p

theorem step_cycles (p : PSt) :
    (step p).p.st.cycles = p.st.cycles + 1 + fetchExtra p + memExtraRun p := by
  rw [step_eq]; unfold memExtraRun
  cases h1 : (exO p).fault with
  | some f => simp [exO_cycles]
  | none =>
    cases h2 : (meO p).fault with
    | some f => simp [meO_cycles]
    | none => simp [(congrArg St.cycles (finishStep_st ..) :), meO_cycles]

theorem step_cycles_ok (p : PSt) (h : (step p).fault = none) :
    (step p).p.st.cycles = p.st.cycles + 1 + fetchExtra p + memExtra p := by
  rw [step_cycles]; unfold memExtraRun
  simp [((step_fault_none_iff p).1 h).1]

theorem step_stalls (p : PSt) :
    (step p).p.st.stalls = p.st.stalls +
      (if (step p).fault = none ∧ (pickStall p.stalled (nID p) (exO p).latch).isSome then 1 else 0) := by
  rw [step_eq]
  cases h1 : (exO p).fault with
  | some f =>
    simp
    exact (congrArg St.stalls (exStage_st (sWB p) (exInput p) p.l2 p.l3)).trans (sWB_stalls_flushes p).1
  | none =>
    cases h2 : (meO p).fault with
    | some f => simp [meO_stalls]
    | none => simp only [finishStep_stalls, meO_stalls, true_and]

theorem fetchExtra_none (p : PSt) (h : p.st.imem.cache = none) : fetchExtra p = 0 := by
  unfold fetchExtra ifExtra
  split
  · split
    · rfl
    · exact (fetch_uncached_frame _ _ h).2
  · rfl

end ArchSim.Lemmas.C07
