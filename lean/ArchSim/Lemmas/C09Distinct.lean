/-
The reference cache never holds a tag twice in one set, hence (by the
erasure equations) neither does the model: the valid ways of a set carry pairwise distinct tags.
-/
import ArchSim.Lemmas.C09Commute

namespace ArchSim.Lemmas.C09
open ArchSim ArchSim.Cache ArchSim.Spec.TagCache

/-- No tag occurs in two ways. -/
def TagsDistinct (tags : List (Option Nat)) : Prop :=
  ∀ (i j t : Nat), tags[i]? = some (some t) → tags[j]? = some (some t) → i = j

/-- Every set of the reference cache holds pairwise distinct tags (`Spec.CacheAbs.Distinct` says the
    same of the valid ways of one set of the model). -/
def Distinct {σ : Type} (sets : List (TSet σ)) : Prop := ∀ ts ∈ sets, TagsDistinct ts.tags

theorem TagsDistinct_set {tags : List (Option Nat)} {t v : Nat} (h : TagsDistinct tags)
    (hn : ∀ j : Nat, tags[j]? ≠ some (some t)) : TagsDistinct (tags.set v (some t)) := by
  intro i j t' hi hj
  rw [List.getElem?_set] at hi hj
  split at hi <;> split at hj
  · omega
  · split at hi
    · cases hi; exact absurd hj (hn j)
    · cases hi
  · split at hj
    · cases hj; exact absurd hi (hn i)
    · cases hj
  · exact h i j t' hi hj

section
variable {σ : Type} (P : PolicyOps σ)

theorem lookup_distinct (s : TSet σ) (t : Nat) (alloc : Bool) (h : TagsDistinct s.tags) :
    TagsDistinct (s.lookup P t alloc).1.tags := by
  unfold TSet.lookup
  cases hf : findTag s.tags t with
  | some i => exact h
  | none =>
    cases alloc
    · exact h
    · exact TagsDistinct_set h (findTag_none hf)

theorem lookupSets_distinct (sets : List (TSet σ)) (d : DAddr) (alloc : Bool) (h : Distinct sets) :
    Distinct (lookupSets P sets d alloc).1 := by
  unfold lookupSets
  cases hs : sets[d.setIdx]? with
  | none => exact h
  | some s =>
    intro ts hts
    rcases List.mem_or_eq_of_mem_set hts with h1 | h1
    · exact h ts h1
    · rw [h1]; exact lookup_distinct P s d.tag alloc (h s (List.mem_of_getElem? hs))

theorem refOp_distinct (c : TagCache σ) (op : Op) (h : Distinct c.sets) :
    Distinct (refOp P c op).cache.sets := by
  cases op with
  | read b a counted =>
    have := lookupSets_distinct P c.sets (decode c.geo.idxBits c.geo.blkBits a) true h
    cases counted <;> exact this
  | write b a v direct =>
    cases direct
    · exact lookupSets_distinct P c.sets (decode c.geo.idxBits c.geo.blkBits a) (!c.wt) h
    · exact h

theorem refRun_distinct (c : TagCache σ) (ops : List Op) (h : Distinct c.sets) :
    Distinct (refRun P c ops).1.sets := by
  induction ops generalizing c with
  | nil => exact h
  | cons op ops ih => exact ih _ (refOp_distinct P c op h)

theorem init_distinct (wt : Bool) (g : Geo) (penalty : Nat) :
    Distinct (TagCache.init P wt g penalty).sets := by
  intro ts hts
  simp only [TagCache.init] at hts
  rw [List.eq_of_mem_replicate hts]
  intro i j t hi _
  simp only [List.getElem?_replicate] at hi
  split at hi <;> cases hi

end

theorem distinct_ways {σ α : Type} {sets : List (CSet σ α)} (h : Distinct (sets.map eraseSet))
    {cs : CSet σ α} (hcs : cs ∈ sets) {i j : Nat} {wi wj : Way α}
    (hi : cs.ways[i]? = some wi) (hj : cs.ways[j]? = some wj)
    (hvi : wi.valid = true) (hvj : wj.valid = true) (ht : wi.tag = wj.tag) : i = j := by
  have hts : eraseSet cs ∈ sets.map eraseSet := List.mem_map_of_mem hcs
  apply (h _ hts) i j wi.tag
  · simp [eraseSet, List.getElem?_map, hi, eraseWay, hvi]
  · simp [eraseSet, List.getElem?_map, hj, eraseWay, hvj, ht]

end ArchSim.Lemmas.C09
