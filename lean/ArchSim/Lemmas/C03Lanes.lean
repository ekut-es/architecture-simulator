/-
Byte lanes of a 32-bit word.  A word is a little-endian number in base 256 (`byteOf` is its digit,
`leSum riscvCfg` the composition); the lane operations of the cache are described digit by digit, one
lemma per acceptance class of the access (`_ok`: within the word, `_crossing`: over its end).
-/
import ArchSim.Spec.CacheAbs

namespace ArchSim.Lemmas.C03
open ArchSim ArchSim.Cache ArchSim.Mem ArchSim.Spec.ByteStore ArchSim.Lemmas.C18 ArchSim.Spec.CacheAbs

/-! ### digits in base 256 -/

theorem byteOf_lt (w i : Nat) : byteOf w i < 256 := Nat.mod_lt _ (by decide)

theorem byteOf_eq_cellVal (v i : Nat) : byteOf v i = cellVal riscvCfg v i := rfl

theorem byteOf_zero (w : Nat) : byteOf w 0 = w % 256 := by
  rw [byteOf, Nat.zero_mul, Nat.pow_zero, Nat.div_one]

theorem byteOf_add_mul (l y : Nat) {i k : Nat} (h : i < k) :
    byteOf (l + 2 ^ (k * 8) * y) i = byteOf l i := by
  obtain ⟨d, rfl⟩ : ∃ d, k = i + (1 + d) := ⟨k - (i + 1), by omega⟩
  unfold byteOf
  rw [Nat.add_mul, Nat.add_mul, Nat.pow_add, Nat.pow_add, Nat.mul_assoc, Nat.mul_assoc,
    Nat.add_mul_div_left _ _ (Nat.two_pow_pos _), Nat.add_mul_mod_self_left]

theorem byteOf_mod (w : Nat) {i k : Nat} (h : i < k) : byteOf (w % 2 ^ (k * 8)) i = byteOf w i := by
  have := byteOf_add_mul (w % 2 ^ (k * 8)) (w / 2 ^ (k * 8)) h
  rw [Nat.mod_add_div] at this
  exact this.symm

theorem byteOf_add (x k j : Nat) : byteOf x (k + j) = byteOf (x / 2 ^ (k * 8)) j := by
  unfold byteOf; rw [Nat.add_mul, Nat.pow_add, Nat.div_div_eq_div_mul]

theorem leSum_byteOf (w off n : Nat) :
    leSum riscvCfg n (fun i => byteOf w (off + i)) = w / 2 ^ (off * 8) % 2 ^ (n * 8) := by
  rw [show (fun i => byteOf w (off + i)) = cellVal riscvCfg (w / 2 ^ (off * 8)) from
    funext fun i => byteOf_add w off i]
  exact leSum_cellVal riscvCfg n _

theorem leSum_byteOf_word (w : Nat) (hw : w < 4294967296) : leSum riscvCfg 4 (byteOf w) = w :=
  (leSum_cellVal riscvCfg 4 w).trans (Nat.mod_eq_of_lt hw)

theorem byteOf_leSum (n : Nat) (f : Nat → Nat) (hf : ∀ j, j < n → f j < 256) {i : Nat} (hi : i < n) :
    byteOf (leSum riscvCfg n f) i = f i := by
  induction n with
  | zero => omega
  | succ n ih =>
    have hl : leSum riscvCfg n f < 2 ^ (n * 8) := leSum_lt riscvCfg n f fun j hj => hf j (by omega)
    rw [leSum_succ, Nat.mul_comm (f n)]
    by_cases h : i < n
    · rw [show n * riscvCfg.cellBits = n * 8 from rfl, byteOf_add_mul _ _ h]
      exact ih (fun j hj => hf j (by omega)) h
    · obtain rfl : i = n := by omega
      have := byteOf_add (leSum riscvCfg i f + 2 ^ (i * 8) * f i) i 0
      rw [Nat.add_mul_div_left _ _ (Nat.two_pow_pos _), Nat.div_eq_of_lt hl, Nat.zero_add] at this
      exact this.trans ((byteOf_zero _).trans (Nat.mod_eq_of_lt (hf i (by omega))))

/-! ### reading a lane: `fromBlock` -/

theorem fromBlock_ok (bits : Nat) (d : DAddr) (block : List Nat) (hb : widthOK bits)
    (hoff : d.byteOff + bits / 8 ≤ 4) (hw : wordAt block d.blockOff < 4294967296) :
    fromBlock bits d block =
      .ok (leSum riscvCfg (bits / 8) (fun i => byteOf (wordAt block d.blockOff) (d.byteOff + i))) := by
  rw [leSum_byteOf]
  rcases hb with rfl | rfl | rfl
  · simp only [fromBlock, if_true, Nat.reduceDiv, Nat.reduceMul, Nat.reducePow]
  · simp only [fromBlock, Nat.reduceEqDiff, if_false, if_true, Nat.reduceDiv, Nat.reduceMul,
      Nat.reducePow, show ¬ d.byteOff > 2 by omega]
  · simp only [fromBlock, Nat.reduceEqDiff, if_false, Nat.reduceDiv, Nat.reduceMul, Nat.reducePow,
      show d.byteOff = 0 by omega, ne_eq, not_true_eq_false, Nat.zero_mul, Nat.pow_zero,
      Nat.div_one, Nat.mod_eq_of_lt hw]

theorem fromBlock_crossing (bits : Nat) (d : DAddr) (block : List Nat) (hb : widthOK bits)
    (hoff : ¬ d.byteOff + bits / 8 ≤ 4) (h4 : d.byteOff < 4) :
    fromBlock bits d block = .error (.byteOffset d.byteOff (if bits = 16 then 2 else 0)) := by
  rcases hb with rfl | rfl | rfl
  · omega
  · simp only [fromBlock, Nat.reduceEqDiff, if_false, if_true, show d.byteOff > 2 by omega]
  · simp only [fromBlock, Nat.reduceEqDiff, if_false, ne_eq, show ¬ d.byteOff = 0 by omega,
      not_false_eq_true, if_true]

/-! ### replacing lanes: `mergeLane`, `intoBlock` -/

/-- The subtraction-free form "low part + 2^s · (v + 2^bits · high part)" of the model's `w − lane·2^s + v·2^s`;
    `byteOf_mergeLane` reads the digits off it, `mergeLane_lt` the bound. -/
theorem mergeLane_eq (w bits s v : Nat) :
    mergeLane w bits s v = w % 2 ^ s + 2 ^ s * (v + 2 ^ bits * (w / 2 ^ s / 2 ^ bits)) := by
  unfold mergeLane
  generalize 2 ^ s = a; generalize 2 ^ bits = b
  have h1 := Nat.div_add_mod w a
  have h3 : a * (b * (w / a / b) + w / a % b) = a * (b * (w / a / b)) + w / a % b * a := by
    rw [Nat.mul_add, Nat.mul_comm a (w / a % b)]
  rw [Nat.div_add_mod] at h3
  rw [Nat.mul_add, Nat.mul_comm a v]
  omega

theorem add_mul_lt {l y a c : Nat} (hl : l < a) (hy : y < c) : l + a * y < a * c :=
  calc l + a * y < a * (y + 1) := by rw [Nat.mul_succ]; omega
    _ ≤ a * c := Nat.mul_le_mul_left a hy

theorem byteOf_mergeLane (w v n off i : Nat) (hv : v < 2 ^ (n * 8)) :
    byteOf (mergeLane w (n * 8) (off * 8) v) i =
      if off ≤ i ∧ i < off + n then byteOf v (i - off) else byteOf w i := by
  rw [mergeLane_eq]
  by_cases h1 : i < off
  · rw [if_neg (by omega), byteOf_add_mul _ _ h1, byteOf_mod w h1]
  · obtain ⟨j, rfl⟩ : ∃ j, i = off + j := ⟨i - off, by omega⟩
    rw [byteOf_add, Nat.add_mul_div_left _ _ (Nat.two_pow_pos _),
      Nat.div_eq_of_lt (Nat.mod_lt _ (Nat.two_pow_pos _)), Nat.zero_add]
    by_cases h2 : j < n
    · rw [if_pos (by omega), byteOf_add_mul _ _ h2, Nat.add_sub_cancel_left]
    · obtain ⟨j', rfl⟩ : ∃ j', j = n + j' := ⟨j - n, by omega⟩
      rw [if_neg (by omega), byteOf_add, Nat.add_mul_div_left _ _ (Nat.two_pow_pos _),
        Nat.div_eq_of_lt hv, Nat.zero_add, byteOf_add, byteOf_add]

theorem mergeLane_lt (w v n off k : Nat) (hv : v < 2 ^ (n * 8)) (hw : w < 2 ^ (k * 8))
    (hk : off + n ≤ k) : mergeLane w (n * 8) (off * 8) v < 2 ^ (k * 8) := by
  obtain ⟨d, rfl⟩ : ∃ d, k = off + (n + d) := ⟨k - (off + n), by omega⟩
  rw [Nat.add_mul, Nat.add_mul, Nat.pow_add, Nat.pow_add] at hw ⊢
  rw [mergeLane_eq]
  exact add_mul_lt (Nat.mod_lt _ (Nat.two_pow_pos _))
    (add_mul_lt hv (Nat.div_lt_of_lt_mul (Nat.div_lt_of_lt_mul hw)))

/-- The word `intoBlock` stores at the addressed position. -/
def newWord (bits off w v : Nat) : Nat :=
  if bits = 8 then mergeLane w 8 (off * 8) v
  else if bits = 16 then mergeLane w 16 (off * 8) v
  else v

theorem newWord_lt (bits off w v : Nat) (hb : widthOK bits) (hoff : off + bits / 8 ≤ 4)
    (hw : w < 4294967296) (hv : v < 2 ^ bits) : newWord bits off w v < 4294967296 := by
  rcases hb with rfl | rfl | rfl
  · exact mergeLane_lt w v 1 off 4 hv hw hoff
  · exact mergeLane_lt w v 2 off 4 hv hw hoff
  · exact hv

theorem byteOf_newWord (bits off w v i : Nat) (hb : widthOK bits) (hoff : off + bits / 8 ≤ 4)
    (hv : v < 2 ^ bits) (hi : i < 4) :
    byteOf (newWord bits off w v) i =
      if off ≤ i ∧ i < off + bits / 8 then byteOf v (i - off) else byteOf w i := by
  rcases hb with rfl | rfl | rfl
  · exact byteOf_mergeLane w v 1 off i hv
  · exact byteOf_mergeLane w v 2 off i hv
  · obtain rfl : off = 0 := by omega
    exact (if_pos ⟨Nat.zero_le i, by omega⟩).symm

theorem intoBlock_ok (bits : Nat) (d : DAddr) (block : List Nat) (v : Nat) (hb : widthOK bits)
    (hoff : d.byteOff + bits / 8 ≤ 4) :
    intoBlock bits d block v =
      .ok (block.set d.blockOff (newWord bits d.byteOff (wordAt block d.blockOff) v)) := by
  rcases hb with rfl | rfl | rfl
  · simp only [intoBlock, newWord, if_true]
  · simp only [intoBlock, newWord, Nat.reduceEqDiff, if_false, if_true,
      show ¬ d.byteOff > 2 by omega]
  · simp only [intoBlock, newWord, Nat.reduceEqDiff, if_false, ne_eq,
      show d.byteOff = 0 by omega, not_true_eq_false]

theorem intoBlock_crossing (bits : Nat) (d : DAddr) (block : List Nat) (v : Nat) (hb : widthOK bits)
    (hoff : ¬ d.byteOff + bits / 8 ≤ 4) (h4 : d.byteOff < 4) :
    intoBlock bits d block v = .error (.byteOffset d.byteOff (if bits = 16 then 2 else 0)) := by
  rcases hb with rfl | rfl | rfl
  · omega
  · simp only [intoBlock, Nat.reduceEqDiff, if_false, if_true, show d.byteOff > 2 by omega]
  · simp only [intoBlock, Nat.reduceEqDiff, if_false, ne_eq, show ¬ d.byteOff = 0 by omega,
      not_false_eq_true, if_true]

theorem laneErr_ok (bits : Nat) (d : DAddr) (hb : widthOK bits) (hoff : d.byteOff + bits / 8 ≤ 4) :
    laneErr bits d = none := by
  rcases hb with rfl | rfl | rfl
  · simp only [laneErr, if_true]
  · simp only [laneErr, Nat.reduceEqDiff, if_false, if_true, show ¬ d.byteOff > 2 by omega]
  · simp only [laneErr, Nat.reduceEqDiff, if_false, ne_eq, show d.byteOff = 0 by omega,
      not_true_eq_false]

theorem laneErr_crossing (bits : Nat) (d : DAddr) (hb : widthOK bits)
    (hoff : ¬ d.byteOff + bits / 8 ≤ 4) (h4 : d.byteOff < 4) :
    laneErr bits d = some (.byteOffset d.byteOff (if bits = 16 then 2 else 0)) := by
  rcases hb with rfl | rfl | rfl
  · omega
  · simp only [laneErr, Nat.reduceEqDiff, if_false, if_true, show d.byteOff > 2 by omega]
  · simp only [laneErr, Nat.reduceEqDiff, if_false, ne_eq, show ¬ d.byteOff = 0 by omega,
      not_false_eq_true, if_true]

/-! ### `wordAt` of an updated block -/

theorem wordAt_set (block : List Nat) (j j' w : Nat) (hj : j < block.length) :
    wordAt (block.set j w) j' = if j = j' then w else wordAt block j' := by
  simp only [wordAt, List.getD_eq_getElem?_getD, List.getElem?_set]
  by_cases h : j = j'
  · subst h; simp [hj]
  · simp [h]

theorem wordAt_lt (block : List Nat) (j : Nat) (h : ∀ x, x ∈ block → x < 4294967296) :
    wordAt block j < 4294967296 := by
  simp only [wordAt, List.getD_eq_getElem?_getD]
  cases hj : block[j]? with
  | none => simp
  | some x => simpa using h x (List.mem_of_getElem? hj)

theorem mem_set_lt (block : List Nat) (j w : Nat) (h : ∀ x, x ∈ block → x < 4294967296)
    (hw : w < 4294967296) : ∀ x, x ∈ block.set j w → x < 4294967296 := by
  intro x hx
  rcases List.mem_or_eq_of_mem_set hx with hx | rfl
  · exact h x hx
  · exact hw

end ArchSim.Lemmas.C03
