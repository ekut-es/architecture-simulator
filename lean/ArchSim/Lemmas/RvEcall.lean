/-
`processEcall` in two equations: every service but print-string is the table `ecallPure` and leaves the memory
alone; print-string (code 4) reports the outcome of its read loop.  Either way the service reads the registers and the
data memory only, and a flat data memory comes back as it was, whatever its configuration or contents.
-/
import ArchSim.Lemmas.RvFlat

namespace ArchSim.Rv

/-- The ecall services that do not touch the data memory (everything but print-string). -/
def ecallPure (code arg : Nat) : EcallRes :=
  if code = 1 then .out (intToDec (toS arg))
  else if code = 2 then .out (floatMarker arg)
  else if code = 11 then .out (String.ofList [Char.ofNat (arg % 128)])
  else if code = 34 then .out ("0x" ++ natToBase 16 (by decide) arg)
  else if code = 35 then .out ("0b" ++ natToBase 2 (by decide) arg)
  else if code = 36 then .out (natToBase 10 (by decide) arg)
  else if code = 10 then .exit 0
  else if code = 93 then .exit arg
  else .invalid code

/-- `apply_ite` moves the equation into the branches of the table, where each is refuted by its constructor. -/
theorem ecallPure_ne_err {code arg : Nat} {e : Cache.Err} : ecallPure code arg ≠ .err e := by
  simp only [ecallPure, ne_eq, apply_ite (· = EcallRes.err e), reduceCtorEq, ite_self, not_false_eq_true]

theorem processEcall_of_ne4 (s : St) (h4 : s.regs 17 ≠ 4) :
    processEcall s = (s.mem, ecallPure (s.regs 17) (s.regs 10)) := by
  simp only [processEcall, ecallPure, if_neg h4, apply_ite (Prod.mk s.mem)]

/-- What print-string (ecall 4) reports for the outcome of its read loop. -/
def strRes : Except Cache.Err (List Char) → EcallRes
  | .ok cs => .out (String.ofList cs)
  | .error e => .err e

theorem processEcall_of_eq4 (s : St) (h4 : s.regs 17 = 4) :
    processEcall s = ((printStrLoop printStrFuel s.mem (s.regs 10) []).1,
      strRes (printStrLoop printStrFuel s.mem (s.regs 10) []).2) := by
  simp only [processEcall, h4, Nat.reduceEqDiff, if_false, if_true]
  rcases printStrLoop printStrFuel s.mem (s.regs 10) [] with ⟨m, _ | _⟩ <;> rfl

theorem printStrLoop_flat_mem (fuel : Nat) (m : Mem.Mem) (a : Int) (acc : List Char) :
    (printStrLoop fuel (.flat m) a acc).1 = .flat m := by
  induction fuel generalizing a acc with
  | zero => rfl
  | succ n ih =>
    unfold printStrLoop
    dsimp only
    split
    · exact read_flat_mem ..
    · split
      · exact read_flat_mem ..
      · rw [read_flat_mem]; exact ih _ _

theorem processEcall_flat_mem {s : St} {m : Mem.Mem} (hm : s.mem = .flat m) : (processEcall s).1 = s.mem := by
  by_cases h4 : s.regs 17 = 4
  · rw [processEcall_of_eq4 s h4, hm]; exact printStrLoop_flat_mem ..
  · rw [processEcall_of_ne4 s h4]

theorem processEcall_congr (s t : St) (h1 : s.regs = t.regs) (h2 : s.mem = t.mem) :
    processEcall s = processEcall t := by
  by_cases h4 : s.regs 17 = 4
  · rw [processEcall_of_eq4 s h4, processEcall_of_eq4 t (h1 ▸ h4), h1, h2]
  · rw [processEcall_of_ne4 s h4, processEcall_of_ne4 t (h1 ▸ h4), h1, h2]

theorem ecallPure_exit (code a : Nat) (c : Int) (h : ecallPure code a = .exit c) :
    (code = 10 ∧ c = 0) ∨ (code = 93 ∧ c = (a : Int)) := by
  simp only [ecallPure, apply_ite (· = EcallRes.exit c), reduceCtorEq, EcallRes.exit.injEq, if_false_left,
    if_false_right] at h
  -- the six `.out` rows are refuted by their constructor and leave `code ≠ 1 ∧ code ≠ 2 ∧ code ≠ 11 ∧ code ≠ 34 ∧
  -- code ≠ 35 ∧ code ≠ 36`; behind them stand the two `.exit` rows, `if code = 10 then 0 = c else code = 93 ∧ a = c`
  obtain ⟨-, -, -, -, -, -, h⟩ := h
  split at h
  · exact .inl ⟨‹code = 10›, h.symm⟩
  · exact .inr ⟨h.1, h.2.symm⟩

theorem processEcall_exit (s : St) (c : Int) (h : (processEcall s).2 = .exit c) :
    (s.regs 17 = 10 ∧ c = 0) ∨ (s.regs 17 = 93 ∧ c = (s.regs 10 : Int)) := by
  by_cases h4 : s.regs 17 = 4
  · rw [processEcall_of_eq4 s h4] at h
    generalize (printStrLoop printStrFuel s.mem (s.regs 10 : Int) []).2 = r at h
    cases r <;> cases h
  · rw [processEcall_of_ne4 s h4] at h
    exact ecallPure_exit _ _ c h

end ArchSim.Rv
