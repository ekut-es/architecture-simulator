/-
Run-time failures, single-stage mode: the kind of the fault fits the instruction (`FaultFits`), provided the
fetch returns the stored instruction (`FetchOK`, which the loader's guarantees give). That the step reports the
address `pc`, which holds an instruction, is `C02Split.singleStep_fault_pc`.
-/
import ArchSim.Lemmas.SimStep
import ArchSim.Lemmas.C11
import ArchSim.Lemmas.RvEcall
import ArchSim.Lemmas.C02SplitFamilies

namespace ArchSim.Lemmas.C15
open ArchSim ArchSim.Rv

/-- The service codes of `ECALL` (`isa/riscv/rv32i_instructions.py`, the `match code` of the dispatcher, in its order).
    Code 4 (print string) reads the memory and is handled by `processEcall`; the other eight are the tests of `ecallPure`. -/
def ecallCodes : List Nat := [1, 2, 4, 11, 34, 35, 36, 10, 93]

/-- `ecallPure` answers `.invalid` only when all eight service tests fail, and then with the code
    itself. (The predicate is pushed through the `if` chain; the services answer `.out`/`.exit`.) -/
theorem ecallPure_invalid {code arg c : Nat} (h4 : code ≠ 4) (h : ecallPure code arg = .invalid c) :
    c = code ∧ c ∉ ecallCodes := by
  simp only [ecallPure, apply_ite (· = EcallRes.invalid c), reduceCtorEq, EcallRes.invalid.injEq,
    if_false_left] at h
  obtain ⟨h1, h2, h11, h34, h35, h36, h10, h93, rfl⟩ := h
  exact ⟨rfl, by simp [ecallCodes, *]⟩

theorem processEcall_invalid {s : St} {m : MemSys} {c : Nat} (h : processEcall s = (m, .invalid c)) :
    c = s.regs 17 ∧ c ∉ ecallCodes := by
  by_cases h4 : s.regs 17 = 4
  · rw [processEcall_of_eq4 s h4] at h
    generalize printStrLoop printStrFuel s.mem (s.regs 10) [] = r at h
    rcases r with ⟨_, _ | _⟩ <;> cases h
  · rw [processEcall_of_ne4 s h4] at h
    exact ecallPure_invalid h4 (Prod.mk.inj h).2

theorem processEcall_err {s : St} {m : MemSys} {e : Cache.Err} (h : processEcall s = (m, .err e)) :
    s.regs 17 = 4 := by
  by_cases h4 : s.regs 17 = 4
  · exact h4
  · rw [processEcall_of_ne4 s h4] at h
    exact absurd (Prod.mk.inj h).2 ecallPure_ne_err

/-- What `behavior` can raise, by instruction. -/
def FaultFits (regs : Nat → Nat) (i : Instr) : Fault → Prop
  | .notImplemented => i.op = .ebreak ∨ i.op = .fence
  | .unmodelled => i.op.ty = .csr ∨ i.op.ty = .csri
  | .ecallCode c => i.op = .ecall ∧ c = regs 17 ∧ c ∉ ecallCodes
  | .mem _ => i.op.ty = .memI ∨ i.op.ty = .s ∨ (i.op = .ecall ∧ regs 17 = 4)

theorem behavior_fault {i : Instr} {s : St} {f : Fault} (h : (behavior i s).fault = some f) :
    FaultFits s.regs i f := by
  revert h
  -- the branches of `behavior` that set no fault go by `cases h`; the others, in the order of the
  -- definition: load, store, print-string ecall, invalid ecall, ebreak, fence, csr, csri
  fun_cases behavior i s <;> intro h <;> cases h
  case case3 hty _ _ _ _ => exact .inl hty
  case case5 hty _ _ _ _ _ _ => exact .inr (.inl hty)
  case case15 hop _ _ hp => exact .inr (.inr ⟨hop, processEcall_err hp⟩)
  case case16 hop _ _ hp => exact ⟨hop, processEcall_invalid hp⟩
  case case17 hop => exact .inl hop
  case case19 hty => exact .inr (by cases hop : i.op <;> simp_all [Op.ty])
  case case20 hty => exact .inl hty
  case case21 hty => exact .inr hty

/-- The fetch at `pc` returns the instruction stored there (true for the uncached instruction
    memory with at most 4096 instructions, and for a cached one under the C11 invariant). -/
def FetchOK (s : St) : Prop :=
  ∀ i, s.imem.instrAt s.pc = some i → (s.imem.fetch s.pc).res = .ok (some i)

theorem fetch_res {im : IMem} (hl : im.prog.length ≤ 4096)
    (hc : ∀ c, im.cache = some c → ArchSim.Lemmas.C11.IInv im c) {pc : Int} {i : Instr}
    (hi : im.instrAt pc = some i) : (im.fetch pc).res = .ok (some i) := by
  have h1 : pc < 16384 := by have := IMem.instrAt_lt hi; omega
  cases hcache : im.cache with
  | none => rw [IMem.fetch_uncached hcache hi h1]
  | some c => exact ArchSim.Lemmas.C11.fetch_instrAt hcache (hc c hcache) hi (by omega)

theorem fetchOK {s : St} (hl : s.imem.prog.length ≤ 4096)
    (hc : ∀ c, s.imem.cache = some c → ArchSim.Lemmas.C11.IInv s.imem c) : FetchOK s :=
  fun _ hi => fetch_res hl hc hi

/-- The step is `singleTail` on the stored instruction: its fault is the one `behavior` sets, or the memory fault of
    the display re-read of a load. -/
theorem singleStep_fault_fits {s : St} {a : Int} {f : Fault} {i : Instr} (hf : FetchOK s)
    (hi : s.imem.instrAt s.pc = some i) (h : (singleStep s).fault = some (a, f)) :
    FaultFits s.regs i f := by
  rw [C02Split.singleStep_fetched s hi (hf i hi)] at h
  rcases ((C02Split.singleTail_frame i _).2.2.2.2 a f h).2 with hb | ⟨hty, e, rfl⟩
  · exact (behavior_fault hb :)
  · exact .inl hty

theorem simStep_single_fault {s : Sim.RSim} (h5 : s.five = false) {a : Int} {oi : Option Instr} {f : Fault} :
    (Sim.step s).fault = some (a, oi, f) ↔
      (Sim.isDone s = false ∧ (singleStep s.p.st).fault = some (a, f) ∧ oi = s.p.st.imem.instrAt a) := by
  rw [Sim.step_fault_iff, h5]
  simp only [Sim.exec, Bool.false_eq_true, if_false, Option.map_eq_some_iff, Prod.mk.injEq]
  refine and_congr_right fun _ => ⟨?_, fun ⟨h1, h2⟩ => ⟨(a, f), h1, rfl, h2.symm, rfl⟩⟩
  rintro ⟨⟨a', f'⟩, h1, rfl, rfl, rfl⟩
  exact ⟨h1, rfl⟩

end ArchSim.Lemmas.C15
