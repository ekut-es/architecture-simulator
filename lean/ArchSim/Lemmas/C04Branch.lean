/-
The control transfer that results from one single-cycle step of an instruction that is no load
(`singleStep_transfer`, read off `C02Split.singleStep_eq`); with `Rv.behavior_b` / `Rv.behavior_j` it gives the
branch and `jal` theorems of `Props/C04`.
-/
import ArchSim.Lemmas.C02SplitFamilies

namespace ArchSim.Lemmas.C04
open ArchSim ArchSim.Rv

/-- The target enters as `t - 4` because `behavior` of a taken branch or `jal` leaves `pc + (imm - 4)` and the
    step then adds 4 and reduces modulo 2^32 (`C02Split.singleTail_nonLoad`). -/
theorem singleStep_transfer (s : St) (i : Instr) (hc : s.imem.cache = none) (hpc : s.pc < 16384)
    (hat : s.imem.instrAt s.pc = some i) (hty : i.op.ty ≠ .memI) (b : BehOut) (t : Int)
    (hb : behavior i { s with cycles := s.cycles + 1, instrs := s.instrs + 1 } = b)
    (hf : b.fault = none) (ht : b.st.pc = t - 4) :
    (singleStep s).fault = none ∧ (singleStep s).st.pc = t % 4294967296 ∧
      (singleStep s).st.regs = b.st.regs ∧ (singleStep s).st.mem = b.st.mem := by
  subst hb
  rw [C02Split.singleStep_eq s i hc hat hpc, C02Split.singleTail_nonLoad i _ hty, C02Split.sSingle, hf]
  refine ⟨rfl, ?_, rfl, rfl⟩
  show (_ + 4) % 4294967296 = t % 4294967296
  rw [ht, Int.sub_add_cancel]

end ArchSim.Lemmas.C04
