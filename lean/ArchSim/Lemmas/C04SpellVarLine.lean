/-
Instruction bodies and lines whose operand is a variable (load by name, store by name, `la`), in any spelling: the
competing operand parsers read a register out of a prefix of the name and then fail.
-/
import ArchSim.Lemmas.C04SpellVar

namespace ArchSim.Lemmas.C04Spell
open ArchSim ArchSim.PP ArchSim.Rv ArchSim.Asm ArchSim.Lemmas.C14

theorem allWs_head_ne (tr : List Char) (htr : AllWs tr) (d : Char) (hd : isWs d = false) : tr.head? ≠ some d := by
  cases tr with
  | nil => simp
  | cons c r =>
    have := htr c (by simp)
    simp only [List.head?_cons, ne_eq, Option.some.injEq]
    rintro rfl; rw [hd] at this; cases this

theorem pComma_allWs (tr : List Char) (htr : AllWs tr) : pComma tr = .fail := by
  simp [pComma, lit, skipWs_allWs tr htr, stripPrefix]

theorem skipWs_tSep (w : List Char) (c : Char) (r : List Char) (hw : AllWs w) (hc : isWs c = false) :
    skipWs (tSep w c r) = c :: r := by
  rw [tSep, skipWs_append w _ hw, skipWs_cons_of_not_ws c r hc]

/-- `reg_on_label_fail` for a variable operand with its optional index: an index starts with `[`, which is neither
    a label character, nor a digit, nor a comma; without index the conditions are those on `tail`. -/
theorem reg_on_var_fail {α : Type} (w name : List Char) (ix : IdxSp) (tail : List Char) (hw : AllWs w)
    (hl : IsLabel name) (ht : TokEnd tail) (hd : ∀ c ∈ (skipWs tail).head?, isNum c = false) (k : Nat → Inp → R α)
    (hk : ∀ n r, pComma r = .fail → k n r = .fail) (hk0 : ∀ n, k n tail = .fail) :
    (pReg (tVar w name ix tail)).bind k = .fail := by
  cases ix with
  | none => exact reg_on_label_fail w name tail hw hl ht hd k hk hk0
  | some ds =>
    refine reg_on_label_fail w name _ hw hl (tokEnd_cons '[' _ (by decide)) ?_ k hk
      (fun n => hk n _ (pComma_fail_head '[' _ (by decide) (by decide)))
    intro c hc
    simp only [skipWs_cons_of_not_ws '[' _ (by decide), List.head?_cons, Option.mem_def,
      Option.some.injEq] at hc
    subst hc; decide

section
variable (g w1 w2 w3 w4 tr : List Char) (hg : AllWs g) (hgne : g ≠ []) (h1 : AllWs w1) (h2 : AllWs w2)
  (h3 : AllWs w3) (h4 : AllWs w4) (htr : AllWs tr)

include hg h1 h2 in
/-- On `rd, <variable> tail` the operand parsers `r, imm(r)` and `r, r, imm` fail: a name is no number, and whatever
    prefix of the name the register pattern reads, no `, imm` follows — not inside the name, not after the index,
    and (`hc`) not in `tail`. -/
theorem var_tails_fail (m : String) (a : Nat) (ha : a < 32) (s1 : RegStyle) (name : List Char) (hl : IsLabel name)
    (ix : IdxSp) (tail : List Char) (ht : TokEnd tail) (hd : ∀ c ∈ (skipWs tail).head?, isNum c = false)
    (hc : pComma tail = .fail ∨ ∃ r, pComma tail = .ok () r ∧ pImm r = .fail) :
    tailMem m (tReg g s1 a (tSep w1 ',' (tVar w2 name ix tail))) = .fail ∧
      tailRRI m (tReg g s1 a (tSep w1 ',' (tVar w2 name ix tail))) = .fail := by
  have hRR : (pReg (tVar w2 name ix tail)).bind (fun b r3 => (pComma r3).bind fun _ r4 =>
      (pImm r4).map fun imm => PInstr.rri m a b imm) = .fail := by
    refine reg_on_var_fail w2 name ix tail h2 hl ht hd _ (fun n r hf => by simp only [hf, bind_fail]) (fun n => ?_)
    rcases hc with hf | ⟨r, ho, hi⟩
    · simp only [hf, bind_fail]
    · simp only [ho, bind_ok, hi, map_fail]
  have hImm : pImm (tVar w2 name ix tail) = .fail := pImm_fail_tLab w2 name _ h2 hl
  constructor
  · simp only [tailMem, bind_ok, pReg_tReg g s1 a _ hg ha (tokEnd_tSep w1 ',' _ h1 comma_nlb), pComma_tSep w1 _ h1, hImm,
      bind_fail, map_fail]
  · simp only [tailRRI, bind_ok, pReg_tReg g s1 a _ hg ha (tokEnd_tSep w1 ',' _ h1 comma_nlb), pComma_tSep w1 _ h1, hRR,
      map_fail]

include hg h1 h2 htr in
theorem tailMemP_var (m : String) (a : Nat) (ha : a < 32) (s1 : RegStyle) (name : List Char) (hl : IsLabel name)
    (ix : IdxSp) (hi : IdxOk ix) :
    tailMemP m (tReg g s1 a (tSep w1 ',' (tVar w2 name ix tr)))
      = .ok (.grp (.memPseudo m a (String.ofList name) (idxVal ix))) tr := by
  simp only [tailMemP, bind_ok, pReg_tReg g s1 a _ hg ha (tokEnd_tSep w1 ',' _ h1 comma_nlb), pComma_tSep w1 _ h1,
    pVariable_tVar w2 name ix tr h2 hl hi (tokEnd_allWs tr htr) (allWs_head_ne tr htr '[' (by decide)), map_ok]

include hg hgne h1 h2 htr in
theorem bodyS_loadVar (op : Op) (h : cls op = .load) (a : Nat) (ha : a < 32) (s1 : RegStyle) (name : List Char)
    (hl : IsLabel name) (ix : IdxSp) (hi : IdxOk ix) :
    pInstrBody (mn op ++ tReg g s1 a (tSep w1 ',' (tVar w2 name ix tr)))
      = .ok (.grp (.memPseudo op.mnemonic a (String.ofList name) (idxVal ix))) tr := by
  obtain ⟨hM, hI⟩ := var_tails_fail g w1 w2 hg h1 h2 op.mnemonic a ha s1 name hl ix tr
    (tokEnd_allWs tr htr) (by simp [skipWs_allWs tr htr]) (Or.inl (pComma_allWs tr htr))
  rw [pInstrBody_cls op _ (wordSep_tReg g s1 a _ hg hgne), h]
  simp [clsRows, Row.tail, pick, hM, hI, tailMemP_var g w1 w2 tr hg h1 h2 htr op.mnemonic a ha s1 name hl ix hi, orStep, isAbort]

include hg hgne h1 h2 h3 h4 htr in
theorem bodyS_storeVar (op : Op) (h : cls op = .store) (a b : Nat) (ha : a < 32) (hb : b < 32) (s1 s2 : RegStyle)
    (name : List Char) (hl : IsLabel name) (ix : IdxSp) (hi : IdxOk ix) :
    pInstrBody (mn op ++ tReg g s1 a (tSep w1 ',' (tVar w2 name ix (tSep w3 ',' (tReg w4 s2 b tr)))))
      = .ok (.grp (.sPseudo op.mnemonic a (String.ofList name) (idxVal ix) b)) tr := by
  have hte : TokEnd (tSep w3 ',' (tReg w4 s2 b tr)) := tokEnd_tSep w3 ',' _ h3 comma_nlb
  -- after `name , ` the third operand is a register, not a number
  obtain ⟨hM, hI⟩ := var_tails_fail g w1 w2 hg h1 h2 op.mnemonic a ha s1 name hl ix _ hte
    (by rw [skipWs_tSep w3 ',' _ h3 (by decide)]; simp; decide)
    (Or.inr ⟨_, pComma_tSep w3 _ h3, pImm_fail_tReg w4 s2 b tr h4 hb⟩)
  have hS : tailSP op.mnemonic (tReg g s1 a (tSep w1 ',' (tVar w2 name ix (tSep w3 ',' (tReg w4 s2 b tr)))))
      = .ok (.grp (.sPseudo op.mnemonic a (String.ofList name) (idxVal ix) b)) tr := by
    simp only [tailSP, bind_ok, pReg_tReg g s1 a _ hg ha (tokEnd_tSep w1 ',' _ h1 comma_nlb), pComma_tSep w1 _ h1,
      pVariable_tVar w2 name ix _ h2 hl hi hte (tSep_head_ne w3 ',' '[' _ h3 (by decide) (by decide)),
      pComma_tSep w3 _ h3, pReg_tReg w4 s2 b _ h4 hb (tokEnd_allWs tr htr), map_ok]
  rw [pInstrBody_cls op _ (wordSep_tReg g s1 a _ hg hgne), h]
  simp [clsRows, Row.tail, pick, hM, hI, hS, orStep, isAbort]

include hg hgne h1 h2 htr in
theorem bodyP_la (a : Nat) (ha : a < 32) (s1 : RegStyle) (name : List Char) (hl : IsLabel name) (ix : IdxSp)
    (hi : IdxOk ix) :
    pInstrBody ("la".toList ++ tReg g s1 a (tSep w1 ',' (tVar w2 name ix tr)))
      = .ok (.grp (.memPseudo "la" a (String.ofList name) (idxVal ix))) tr := by
  rw [pInstrBody_pseudo ("la", .memP) (by simp) _ (wordSep_tReg g s1 a _ hg hgne)]
  simp [pick, Row.tail, tailMemP_var g w1 w2 tr hg h1 h2 htr "la" a ha s1 name hl ix hi, orStep, isAbort]

end

section
variable (p : LinePre) (hp : p.Ok) (sel : Nat → Bool) (g w1 w2 tr : List Char) (hg : AllWs g) (hgne : g ≠ [])
  (h1 : AllWs w1) (h2 : AllWs w2) (htr : AllWs tr)

include hp hg hgne h1 h2 htr in
theorem line_loadVar (op : Op) (h : cls op = .load) (a : Nat) (ha : a < 32) (s1 : RegStyle) (name : List Char)
    (hl : IsLabel name) (ix : IdxSp) (hi : IdxOk ix) :
    parseLine (p.txt (recase sel (mn op) ++ tReg g s1 a (tSep w1 ',' (tVar w2 name ix tr))))
      = some { lbl := p.lbl, item := .grp (.memPseudo op.mnemonic a (String.ofList name) (idxVal ix)) } :=
  parseLine_pre_word p hp op.mnemonic (mnemonic_mem op) sel _ (lineSep_tReg g s1 a _ hg hgne ha) _ tr htr
    (suffix_tReg (suffix_tSep (suffix_tVar (List.suffix_refl tr))))
    (bodyS_loadVar g w1 w2 tr hg hgne h1 h2 htr op h a ha s1 name hl ix hi)

end

end ArchSim.Lemmas.C04Spell
