/-
The sequential reference machine of C02 (`seqStep`, `seqRun`) follows the single-cycle machine (`singleStep` iterated) as
long as the two agree on each step (`AgreeStep`) and neither raises (`seqRun_follows`); the one-step agreement comes from
the data-path half (`agreeStep_of_memOK`).
-/
import ArchSim.Lemmas.C02Conv
import ArchSim.Lemmas.C02SplitMain
import ArchSim.Lemmas.C01Step

namespace ArchSim.Pipe
open ArchSim ArchSim.Rv

theorem instrOK_of_range {i : Instr} (hr : immRange i.op i.imm) (he : i.op = .ecall → i.rd = 0 ∧ i.rs1 = 0 ∧ i.imm = 0) :
    InstrOK i := by
  refine ⟨fun h => (he h).1, fun hs => ?_⟩
  unfold immRange at hr
  rw [hs] at hr
  exact hr.1

theorem progOK_of_wf {im : IMem} (h : ∀ i, i ∈ im.prog → i.WF) : ProgOK im :=
  ProgOK_of_all im (fun i hi => instrOK_of_range (h i hi).2.2.2.2.1 (h i hi).2.2.2.2.2)

theorem supported_of (op : Rv.Op) (h : op.supported = true) : ArchSim.Lemmas.C01.Supported op := by
  unfold Op.supported at h
  split at h
  · cases h
  · cases h
  · cases h
  · rename_i h1 h2 h3
    exact ⟨h3, h1, h2, bne_iff_ne.1 h⟩

theorem c01ProgOK_of_wf {prog : List Instr} (hlen : prog.length ≤ 4096) (hwf : ∀ i, i ∈ prog → i.WF) :
    ArchSim.Lemmas.C01.ProgOK prog :=
  ⟨hlen, fun i hi =>
    have w := hwf i hi
    -- `immRange` (C02Split) and `C01.ImmOK` are the same definition written twice
    ⟨⟨w.2.1, w.2.2.1, w.2.2.2.1, w.2.2.2.2.1⟩, supported_of _ w.1⟩⟩

/-- The two implementations agree on the step taken in `t`. -/
def AgreeStep (t : St) : Prop :=
  (splitStep t).fault = (singleStep t).fault ∧
    ((singleStep t).fault = none → (splitStep t).st = (singleStep t).st)

theorem AgreeStep.fault {t : St} (a : AgreeStep t) : seqFault t = (singleStep t).fault := a.1

theorem AgreeStep.seq {t : St} (a : AgreeStep t) (hn : (singleStep t).fault = none) :
    seqStep t = (singleStep t).st := by
  unfold seqStep; rw [a.1, hn]; exact a.2 hn

theorem agreeStep_of_memOK (t : St) (hc : t.imem.cache = none) (hlen : t.imem.prog.length ≤ 4096)
    (hwf : ∀ i, i ∈ t.imem.prog → i.WF) (hregs : ∀ r, t.regs r < 4294967296)
    (hm : ∀ i, t.imem.instrAt t.pc = some i → ArchSim.Lemmas.C02Split.MemOK i t) : AgreeStep t := by
  cases hi : t.imem.instrAt t.pc with
  | none =>
    unfold AgreeStep
    rw [splitStep_noinstr t hi, ArchSim.Lemmas.C02Split.singleStep_nofetch t hi]
    exact ⟨rfl, fun _ => rfl⟩
  | some i =>
    obtain ⟨_, _, hidx, _, hmem⟩ := IMem.instrAt_some hi
    have h := ArchSim.Lemmas.C02Split.agree_step t i (hwf i hmem) hc hi (by omega) hregs (hm i hi)
    exact ⟨h.1, h.2.1⟩

/-- The sequential machine follows the single-cycle machine (`singleRun`: any of the three copies of the
    iterated `singleStep`, given by its two equations): if the two agree on the step taken in every
    state of the single-cycle run before `k` (which may be shown knowing that no earlier step raised) and
    each of these steps raises on neither side — it is enough to know it of one side — then the two runs
    coincide up to `k`. -/
theorem seqRun_follows (singleRun : Nat → St → St) (h0 : ∀ s, singleRun 0 s = s)
    (h1 : ∀ n s, singleRun (n + 1) s = (singleStep (singleRun n s)).st) (s : St) : ∀ k,
    (∀ j, j < k → (∀ i, i < j → (singleStep (singleRun i s)).fault = none) → AgreeStep (singleRun j s)) →
    (∀ j, j < k → seqFault (seqRun j s) = none ∨ (singleStep (singleRun j s)).fault = none) →
    (∀ j, j ≤ k → seqRun j s = singleRun j s) ∧
      ∀ j, j < k → (singleStep (singleRun j s)).fault = none ∧ seqFault (seqRun j s) = none
  | 0, _, _ => ⟨fun _ hj => by rw [Nat.le_zero.1 hj, h0]; rfl, fun _ hj => absurd hj (Nat.not_lt_zero _)⟩
  | k + 1, hag, hnf => by
    obtain ⟨e, f⟩ := seqRun_follows singleRun h0 h1 s k (fun j hj => hag j (Nat.lt_succ_of_lt hj))
      (fun j hj => hnf j (Nat.lt_succ_of_lt hj))
    have ek := e k (Nat.le_refl k)
    have a := hag k (Nat.lt_succ_self k) (fun i hi => (f i hi).1)
    have hk : (singleStep (singleRun k s)).fault = none := by
      rcases hnf k (Nat.lt_succ_self k) with h | h
      · rw [← a.fault, ← ek]; exact h
      · exact h
    refine ⟨fun j hj => ?_, fun j hj => ?_⟩
    · rcases Nat.le_succ_iff.1 hj with hle | rfl
      · exact e j hle
      · exact ((congrArg seqStep ek).trans (a.seq hk)).trans (h1 k s).symm
    · rcases Nat.lt_succ_iff_lt_or_eq.1 hj with hlt | rfl
      · exact f j hlt
      · exact ⟨hk, by rw [ek]; exact a.fault.trans hk⟩

end ArchSim.Pipe
