/-
For C13Asm: `RiscvSimulation.run()` against the run iterators of the property files. A `run()` that returns normally in a
done state is `Sim.exec` iterated, whatever the mode (C13Life); here `exec` iterated is read as `pipeRun` in five-stage
mode and as `singleRun` on the architectural state in single-stage mode.
-/
import ArchSim.Lemmas.C13Life
import ArchSim.Lemmas.C02Compose
import ArchSim.Lemmas.E2E2Pipe

namespace ArchSim.Lemmas.E2E2
open ArchSim ArchSim.Rv ArchSim.Pipe ArchSim.Sim

/-- `exec true` leaves `(Pipe.step p).p`, which is `stepP p`. -/
theorem iter_exec_five (n : Nat) (p : PSt) : iter (fun p => (exec true p).1) n p = pipeRun n p :=
  (pipeRun_eq_iter n p).symm

theorem iter_exec_single (n : Nat) (p : PSt) : (iter (fun p => (exec false p).1) n p).st = singleRun n p.st := by
  induction n with
  | zero => rfl
  | succ n ih => rw [iter_succ', (exec_single _).1, ih]; rfl

theorem run_five_char (s : Sim.RSim) (h5 : s.five = true) (fuel : Nat)
    (hnf : (Sim.run fuel s).2.2 = none) (hdone : Sim.isDone (Sim.run fuel s).1 = true) :
    ∃ n, n ≤ fuel ∧ (Sim.run fuel s).2.1 = n ∧ (Sim.run fuel s).1.p = pipeRun n s.p ∧
      runOK n s.p ∧ Pipe.isDone (pipeRun n s.p) = true ∧ ∀ m, m < n → Pipe.isDone (pipeRun m s.p) = false := by
  obtain ⟨n, hn, hc, hp, hpre, hd⟩ := run_char s fuel hnf hdone
  simp only [h5, iter_exec_five] at hp hpre hd
  exact ⟨n, hn, hc, hp, fun m hm => (exec_five _).2.1 (hpre m hm).1, hd, fun m hm => (hpre m hm).2⟩

theorem run_single_char (s : Sim.RSim) (h5 : s.five = false) (fuel : Nat)
    (hnf : (Sim.run fuel s).2.2 = none) (hdone : Sim.isDone (Sim.run fuel s).1 = true) :
    ∃ k, k ≤ fuel ∧ (Sim.run fuel s).2.1 = k ∧ (Sim.run fuel s).1.p.st = singleRun k s.p.st ∧
      (∀ j, j < k → (singleStep (singleRun j s.p.st)).fault = none ∧ singleDone (singleRun j s.p.st) = false) ∧
      singleDone (singleRun k s.p.st) = true := by
  obtain ⟨n, hn, hc, hp, hpre, hd⟩ := run_char s fuel hnf hdone
  rw [h5] at hp hpre hd
  refine ⟨n, hn, hc, by rw [hp, iter_exec_single], fun j hj => ?_, ?_⟩
  · obtain ⟨h1, h2⟩ := hpre j hj
    rw [← iter_exec_single]
    exact ⟨(exec_single _).2.1 h1, h2⟩
  · rw [← iter_exec_single]; exact hd

theorem run_single_of_singleRun (s : Sim.RSim) (h5 : s.five = false) (k : Nat)
    (hpre : ∀ j, j < k → (singleStep (singleRun j s.p.st)).fault = none ∧ singleDone (singleRun j s.p.st) = false)
    (hd : singleDone (singleRun k s.p.st) = true) (fuel : Nat) (hfuel : k ≤ fuel) :
    (Sim.run fuel s).2.2 = none ∧ (Sim.run fuel s).2.1 = k ∧ (Sim.run fuel s).1.p.st = singleRun k s.p.st ∧
    Sim.isDone (Sim.run fuel s).1 = true := by
  obtain ⟨r1, r2, r3, r4⟩ := run_of_exec s k
    (by
      rw [h5]; intro j hj
      obtain ⟨h1, h2⟩ := hpre j hj
      rw [← iter_exec_single] at h1 h2
      exact ⟨(exec_single _).2.2 h1, h2⟩)
    (by rw [h5]; rw [← iter_exec_single] at hd; exact hd) fuel hfuel
  rw [h5] at r3
  exact ⟨r1, r2, by rw [r3, iter_exec_single], r4⟩

end ArchSim.Lemmas.E2E2
