/-
What `load` sees of a source text: what `sanitize` keeps of a line (`entryOf`), and that comments, blank lines and
indentation do not change it; first, that a text joined from lines without a line break splits into those lines.
-/
import ArchSim.Model.Asm

namespace ArchSim.Lemmas.C14
open ArchSim ArchSim.PP ArchSim.Asm

/-! ### `splitLines` of a joined text, and `pyStrip` of a line it leaves alone

`NoBreak` is the hypothesis of `splitLines_intercalate` here and of `sanitize_of_lines` / `entryTexts_joinLines` below;
`C14Listing` (inside the proof of `load_listing`) uses it in this namespace and `E2E2Pad` opens it from here. -/

def NoBreak (l : List Char) : Prop := ∀ c ∈ l, isLineBreak c = false

theorem splitLines_go_line (l rest cur : List Char) (acc : List (List Char)) (hl : NoBreak l) :
    splitLines.go (l ++ rest) false cur acc = splitLines.go rest false (l.reverse ++ cur) acc := by
  induction l generalizing cur with
  | nil => rfl
  | cons c cs ih =>
    have hc : isLineBreak c = false := hl c (by simp)
    have hn : c ≠ '\n' := by rintro rfl; exact absurd hc (by decide)
    simp only [List.cons_append, splitLines.go, hc, Bool.and_false, Bool.false_eq_true, if_false]
    rw [ih (c :: cur) (fun d hd => hl d (by simp [hd]))]
    simp

theorem splitLines_go_nl (rest cur : List Char) (acc : List (List Char)) :
    splitLines.go ('\n' :: rest) false cur acc = splitLines.go rest false [] (cur.reverse :: acc) := by
  simp [splitLines.go, isLineBreak]

/-- `str.splitlines()` gives no empty last line -/
def dropLastEmpty (ls : List (List Char)) : List (List Char) :=
  if ls.getLast? = some [] then ls.dropLast else ls

theorem dropLastEmpty_cons_cons (l l' : List Char) (ls : List (List Char)) :
    dropLastEmpty (l :: l' :: ls) = l :: dropLastEmpty (l' :: ls) := by
  simp only [dropLastEmpty, List.getLast?_cons_cons, List.dropLast_cons_cons]
  split <;> rfl

theorem splitLines_go_intercalate (ls : List (List Char)) (acc : List (List Char)) (hnb : ∀ l ∈ ls, NoBreak l) :
    splitLines.go (['\n'].intercalate ls) false [] acc = acc.reverse ++ dropLastEmpty ls := by
  induction ls generalizing acc with
  | nil => simp [splitLines.go, dropLastEmpty]
  | cons l ls ih =>
    cases ls with
    | nil =>
      have h := splitLines_go_line l [] [] acc (hnb l (by simp))
      simp only [List.append_nil] at h
      by_cases hl : l = []
      · subst hl; simp [splitLines.go, dropLastEmpty]
      · simp [h, splitLines.go, hl, dropLastEmpty]
    | cons l' ls' =>
      rw [List.intercalate_cons_cons, List.append_assoc, splitLines_go_line _ _ _ _ (hnb l (by simp))]
      simp only [List.singleton_append, List.append_nil, splitLines_go_nl, List.reverse_reverse]
      rw [ih (l :: acc) (fun x hx => hnb x (by simp [hx])), dropLastEmpty_cons_cons]
      simp

theorem splitLines_intercalate (ls : List (List Char)) (hnb : ∀ l ∈ ls, NoBreak l) :
    splitLines (['\n'].intercalate ls) = dropLastEmpty ls := by
  unfold splitLines
  simpa using splitLines_go_intercalate ls [] hnb

theorem dropWhile_fixed {p : Char → Bool} (l : List Char) (h : ∀ c ∈ l.head?, p c = false) : l.dropWhile p = l := by
  cases l with
  | nil => rfl
  | cons a l => simp [h a (by simp)]

theorem pyStrip_fixed (l : List Char) (hh : ∀ c ∈ l.head?, pyIsSpace c = false)
    (hl : ∀ c ∈ l.reverse.head?, pyIsSpace c = false) : pyStrip l = l := by
  simp only [pyStrip, dropWhile_fixed l hh, dropWhile_fixed _ hl, List.reverse_reverse]

end ArchSim.Lemmas.C14

namespace ArchSim.Lemmas.C04Spell
open ArchSim ArchSim.PP ArchSim.Asm
open ArchSim.Lemmas.C14 (pyStrip_fixed)

/-! ### `str.strip()` -/

def AllSpace (ws : List Char) : Prop := ∀ c ∈ ws, pyIsSpace c = true

theorem dropWhile_allSpace (ws : List Char) (h : AllSpace ws) : ws.dropWhile pyIsSpace = [] := by
  induction ws with
  | nil => rfl
  | cons a l ih => simp [h a (by simp), ih (fun c hc => h c (by simp [hc]))]

theorem pyStrip_allSpace (ws : List Char) (h : AllSpace ws) : pyStrip ws = [] := by
  simp [pyStrip, dropWhile_allSpace ws h]

theorem pyStrip_prepend (ws x : List Char) (h : AllSpace ws) : pyStrip (ws ++ x) = pyStrip x := by
  simp only [pyStrip, List.dropWhile_append_of_pos h]

theorem allSpace_reverse {ws : List Char} (h : AllSpace ws) : AllSpace ws.reverse :=
  fun c hc => h c (List.mem_reverse.mp hc)

theorem pyStrip_append (x ws : List Char) (h : AllSpace ws) : pyStrip (x ++ ws) = pyStrip x := by
  simp only [pyStrip, List.dropWhile_append]
  split
  · next he =>
    have : x.dropWhile pyIsSpace = [] := by simpa using he
    simp [this, dropWhile_allSpace ws h]
  · simp only [List.reverse_append, List.dropWhile_append_of_pos (allSpace_reverse h)]

theorem pyStrip_absorb (a x b : List Char) (ha : AllSpace a) (hb : AllSpace b) :
    pyStrip (a ++ x ++ b) = pyStrip x := by
  rw [pyStrip_append _ b hb, pyStrip_prepend a x ha]

theorem dropWhile_head_not {p : Char → Bool} (l : List Char) : ∀ c ∈ (l.dropWhile p).head?, p c = false := by
  intro c hc
  have := List.head?_dropWhile_not p l
  rwa [Option.mem_def.mp hc] at this

/-! ### what `sanitize` keeps of a line -/

/-- the line is kept: it is not blank and its first non-blank character is not `#` -/
def keepLine (l : List Char) : Bool := !(pyStrip l).isEmpty && (pyStrip l).head? != some '#'

/-- the text of the entry: the line up to the first `#`, stripped -/
def entryText (l : List Char) : List Char := pyStrip (l.takeWhile (· != '#'))

/-- the entry a source line contributes, if any -/
def entryOf (l : List Char) : Option (List Char) := if keepLine l then some (entryText l) else none

def numberLines (ls : List (List Char)) : List (Nat × List Char) :=
  ((List.range ls.length).zip ls).map fun (k, l) => (k + 1, l)

theorem map_filter_eq_filterMap {α β : Type} (p : α → Bool) (f : α → β) (l : List α) :
    (l.filter p).map f = l.filterMap (fun x => if p x then some (f x) else none) := by
  induction l with
  | nil => rfl
  | cons a l ih =>
    by_cases h : p a = true
    · simp [h, ih]
    · simp [h, ih]

theorem filterMap_congr {α β : Type} (f g : α → Option β) (l : List α) (h : ∀ x ∈ l, f x = g x) :
    l.filterMap f = l.filterMap g := by
  induction l with
  | nil => rfl
  | cons a l ih =>
    simp only [List.filterMap_cons, h a (by simp), ih (fun x hx => h x (by simp [hx]))]

theorem filterMap_map_of {α β γ : Type} (f : α → β) (g : β → Option γ) (h : α → γ) (l : List α)
    (H : ∀ x ∈ l, g (f x) = some (h x)) : (l.map f).filterMap g = l.map h := by
  rw [List.filterMap_map, filterMap_congr (g ∘ f) _ l H, List.filterMap_eq_map']

theorem sanitize_eq (text : String) :
    sanitize text = (numberLines (splitLines text.toList)).filterMap
      (fun p => (entryOf p.2).map (fun e => (p.1, e))) := by
  unfold sanitize
  simp only []
  rw [map_filter_eq_filterMap]
  apply filterMap_congr
  intro p _
  obtain ⟨k, l⟩ := p
  simp only [entryOf, keepLine, entryText]
  split
  · next h => simp [h]
  · next h => simp [h]

theorem numberLines_snd (ls : List (List Char)) : (numberLines ls).map (·.2) = ls := by
  unfold numberLines
  rw [List.map_map]
  have : ((fun x : Nat × List Char => x.2) ∘ fun (x : Nat × List Char) => (x.1 + 1, x.2)) = Prod.snd := by
    funext x; rfl
  rw [this]
  exact List.map_snd_zip (by simp)

theorem sanitize_texts (text : String) :
    (sanitize text).map (·.2) = (splitLines text.toList).filterMap entryOf := by
  rw [sanitize_eq, List.map_filterMap]
  conv => rhs; rw [← numberLines_snd (splitLines text.toList), List.filterMap_map]
  apply filterMap_congr
  intro p _
  show ((entryOf p.2).map (fun e => (p.1, e))).map (·.2) = (entryOf ∘ fun x => x.2) p
  simp only [Function.comp]
  cases entryOf p.2 <;> rfl

/-! ### what does not change the entry of a line -/

def firstNonSpace (x : List Char) : Option Char := (x.dropWhile pyIsSpace).head?

theorem pyStrip_head (x : List Char) : (pyStrip x).head? = firstNonSpace x := by
  unfold pyStrip firstNonSpace
  cases hy : x.dropWhile pyIsSpace with
  | nil => rfl
  | cons a r =>
    have ha : pyIsSpace a = false := by
      have := dropWhile_head_not (p := pyIsSpace) x a
      rw [hy] at this
      exact this (by simp)
    have : ∃ z, (a :: r).reverse.dropWhile pyIsSpace = z ++ [a] := by
      rw [List.reverse_cons, List.dropWhile_append]
      split
      · exact ⟨[], by simp [ha]⟩
      · exact ⟨_, rfl⟩
    obtain ⟨z, hz⟩ := this
    rw [hz]; simp

theorem pyStrip_idem (l : List Char) : pyStrip (pyStrip l) = pyStrip l :=
  pyStrip_fixed _ (by rw [pyStrip_head]; exact dropWhile_head_not l)
    (by simp only [pyStrip, List.reverse_reverse]; exact dropWhile_head_not _)

def keepOf : Option Char → Bool
  | none => false
  | some c => c != '#'

theorem keepLine_eq (x : List Char) : keepLine x = keepOf (firstNonSpace x) := by
  unfold keepLine
  rw [← pyStrip_head]
  cases pyStrip x with
  | nil => rfl
  | cons a r =>
    simp only [List.isEmpty_cons, Bool.not_false, Bool.true_and, List.head?_cons, keepOf]
    by_cases h : a = '#'
    · subst h; rfl
    · have : (some a != some '#') = true := by simpa using h
      rw [this]; simpa using h

theorem firstNonSpace_of_empty (l : List Char) (h : (l.dropWhile pyIsSpace).isEmpty = true) :
    firstNonSpace l = none := by
  have : l.dropWhile pyIsSpace = [] := by simpa using h
  simp [firstNonSpace, this]

theorem firstNonSpace_append (l t : List Char) :
    firstNonSpace (l ++ t) = if (l.dropWhile pyIsSpace).isEmpty then firstNonSpace t else firstNonSpace l := by
  unfold firstNonSpace
  rw [List.dropWhile_append]
  split
  · rfl
  · next h =>
    cases hl : l.dropWhile pyIsSpace with
    | nil => simp [hl] at h
    | cons a r => simp

theorem firstNonSpace_allSpace (a : List Char) (h : AllSpace a) : firstNonSpace a = none := by
  simp [firstNonSpace, dropWhile_allSpace a h]

theorem firstNonSpace_prepend (a x : List Char) (h : AllSpace a) : firstNonSpace (a ++ x) = firstNonSpace x := by
  rw [firstNonSpace_append, dropWhile_allSpace a h]; rfl

theorem hash_not_space : pyIsSpace '#' = false := by decide

theorem takeWhile_hash_append (l t : List Char) (h : '#' ∉ l) :
    (l ++ t).takeWhile (· != '#') = l ++ t.takeWhile (· != '#') :=
  List.takeWhile_append_of_pos fun _ hc => bne_iff_ne.mpr fun e => h (e ▸ hc)

theorem takeWhile_noHash (l : List Char) (h : '#' ∉ l) : l.takeWhile (· != '#') = l := by
  simpa using takeWhile_hash_append l [] h

theorem allSpace_noHash (a : List Char) (h : AllSpace a) : '#' ∉ a := by
  intro hm
  have := h '#' hm
  rw [hash_not_space] at this
  cases this

theorem entryOf_comment (l c : List Char) (h : '#' ∉ l) : entryOf (l ++ '#' :: c) = entryOf l := by
  have ht : entryText (l ++ '#' :: c) = entryText l := by
    simp only [entryText, takeWhile_hash_append l _ h, takeWhile_noHash l h]
    simp
  have hk : keepLine (l ++ '#' :: c) = keepLine l := by
    rw [keepLine_eq, keepLine_eq, firstNonSpace_append]
    by_cases he : (l.dropWhile pyIsSpace).isEmpty = true
    · rw [if_pos he, firstNonSpace_of_empty l he]
      simp [firstNonSpace, hash_not_space, keepOf]
    · rw [if_neg he]
  simp only [entryOf, ht, hk]

theorem entryOf_indent (a l b : List Char) (ha : AllSpace a) (hb : AllSpace b) :
    entryOf (a ++ l ++ b) = entryOf l := by
  have hk : keepLine (a ++ l ++ b) = keepLine l := by
    rw [keepLine_eq, keepLine_eq, List.append_assoc, firstNonSpace_prepend a _ ha, firstNonSpace_append]
    by_cases he : (l.dropWhile pyIsSpace).isEmpty = true
    · rw [if_pos he, firstNonSpace_of_empty l he, firstNonSpace_allSpace b hb]
    · rw [if_neg he]
  have ht : entryText (a ++ l ++ b) = entryText l := by
    simp only [entryText]
    rw [List.append_assoc, takeWhile_hash_append a _ (allSpace_noHash a ha), List.takeWhile_append]
    split
    · rw [takeWhile_noHash b (allSpace_noHash b hb), ← List.append_assoc, pyStrip_absorb a l b ha hb]
      next he =>
      have : l.takeWhile (· != '#') = l := by
        have hp := List.takeWhile_prefix (l := l) (fun x => x != '#')
        exact hp.eq_of_length he
      rw [this]
    · exact pyStrip_prepend a _ ha
  simp only [entryOf, ht, hk]

theorem entryOf_blank (a : List Char) (ha : AllSpace a) : entryOf a = none := by
  simp [entryOf, keepLine_eq, firstNonSpace_allSpace a ha, keepOf]

theorem entryOf_commentLine (a c : List Char) (ha : AllSpace a) : entryOf (a ++ '#' :: c) = none := by
  have h1 : firstNonSpace (a ++ '#' :: c) = some '#' := by
    rw [firstNonSpace_prepend a _ ha]
    simp [firstNonSpace, hash_not_space]
  simp [entryOf, keepLine_eq, h1, keepOf]

/-- the entry texts of a source text, in order -/
def entryTexts (text : String) : List (List Char) := (splitLines text.toList).filterMap entryOf

/-! ### texts given as lists of lines -/

open ArchSim.Lemmas.C14 (NoBreak dropLastEmpty splitLines_intercalate)

theorem entryOf_nil : entryOf [] = none := entryOf_blank [] (by intro c hc; cases hc)

theorem filterMap_dropLastEmpty (ls : List (List Char)) :
    (dropLastEmpty ls).filterMap entryOf = ls.filterMap entryOf := by
  unfold dropLastEmpty
  split
  · next h =>
    obtain ⟨ys, rfl⟩ := List.getLast?_eq_some_iff.mp h
    simp [List.filterMap_append, entryOf_nil]
  · rfl

/-- the text made of the lines `ls` -/
def joinLines (ls : List (List Char)) : String := String.ofList (['\n'].intercalate ls)

theorem sanitize_of_lines (text : String) (ls : List (List Char)) (ht : text.toList = ['\n'].intercalate ls)
    (hnb : ∀ l ∈ ls, NoBreak l) : (sanitize text).map (·.2) = ls.filterMap entryOf := by
  rw [sanitize_texts, ht, splitLines_intercalate ls hnb, filterMap_dropLastEmpty]

theorem entryTexts_joinLines (ls : List (List Char)) (hnb : ∀ l ∈ ls, NoBreak l) :
    entryTexts (joinLines ls) = ls.filterMap entryOf := by
  simp only [entryTexts, joinLines, String.toList_ofList, splitLines_intercalate ls hnb, filterMap_dropLastEmpty]

end ArchSim.Lemmas.C04Spell
