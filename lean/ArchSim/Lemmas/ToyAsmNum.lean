/-
TOY assembler numerals: the decimal and `0x` hexadecimal digit strings of a number, over any table of digit characters
(`IsDigitTable`), are read back by `natOfDigits` / `_value_to_int` as that number, and the `pValue` scanner accepts
any hex digit string and any decimal one of at most 4300 digits (the limit of Python's `int()`, modelled by `pyIntDec`).
-/
import ArchSim.Model.ToyAsm
import ArchSim.Lemmas.C17Digits
import ArchSim.Lemmas.PPFacts

namespace ArchSim.ToyAsm
open ArchSim ArchSim.PP
open ArchSim.Fmt (digitsRev digitChar)
open ArchSim.Lemmas.C17 (valRev digitsRev_lt valRev_digitsRev digitsRev_ne_nil digitsRev_length_le)

/-- lower-case digit character (what Python's `hex()` prints) -/
def lowerDigit (d : Nat) : Char := if d < 10 then Char.ofNat (48 + d) else Char.ofNat (87 + d)

/-- A digit-character table: maps every digit below 16 to a character with that digit value. -/
def IsDigitTable (dc : Nat → Char) : Prop :=
  ∀ d < 16, PP.digitVal (dc d) = some d ∧ isHexNum (dc d) = true ∧ (d < 10 → isNum (dc d) = true)

theorem isDigitTable_upper : IsDigitTable digitChar := by unfold IsDigitTable; decide

theorem isDigitTable_lower : IsDigitTable lowerDigit := by unfold IsDigitTable; decide

/-- The digit string of `n` in `base` (most significant digit first, no leading zero, `"0"` for 0). -/
def digitStr (dc : Nat → Char) (base n : Nat) : List Char :=
  if n = 0 then [dc 0] else (digitsRev base (n + 1) n).reverse.map dc

def decNumeral (n : Nat) : String := String.ofList (digitStr digitChar 10 n)
def hexNumeral (n : Nat) : String := "0x" ++ String.ofList (digitStr digitChar 16 n)
def hexNumeralLower (n : Nat) : String := "0x" ++ String.ofList (digitStr lowerDigit 16 n)

theorem natOfDigits_nil (base : Nat) : natOfDigits base [] = some 0 := rfl

theorem natOfDigits_snoc (base : Nat) (s : List Char) (c : Char) (a d : Nat)
    (hs : natOfDigits base s = some a) (hc : PP.digitVal c = some d) (hd : d < base) :
    natOfDigits base (s ++ [c]) = some (a * base + d) := by
  simp only [natOfDigits, List.foldl_append, List.foldl_cons, List.foldl_nil] at hs ⊢
  rw [hs, hc]
  simp [hd]

/-- Horner: a list of digits (least significant first) written most significant first. -/
theorem natOfDigits_reverse_map (dc : Nat → Char) (hdc : IsDigitTable dc) (base : Nat) (hb : base ≤ 16)
    (ds : List Nat) (hds : ∀ d ∈ ds, d < base) :
    natOfDigits base (ds.reverse.map dc) = some (valRev base ds) := by
  induction ds with
  | nil => rfl
  | cons d ds ih =>
    have hd : d < base := hds d (by simp)
    have ih' := ih (fun x hx => hds x (by simp [hx]))
    simp only [List.reverse_cons, List.map_append, List.map_cons, List.map_nil]
    rw [natOfDigits_snoc base _ _ _ d ih' (hdc d (by omega)).1 hd]
    simp only [valRev]
    congr 1
    rw [Nat.mul_comm]; omega

theorem natOfDigits_digitStr (dc : Nat → Char) (hdc : IsDigitTable dc) (base : Nat) (hb : 2 ≤ base)
    (hb' : base ≤ 16) (n : Nat) : natOfDigits base (digitStr dc base n) = some n := by
  unfold digitStr
  split
  · next h =>
    subst h
    have := natOfDigits_snoc base [] (dc 0) 0 0 rfl (hdc 0 (by omega)).1 (by omega)
    simpa using this
  · rw [natOfDigits_reverse_map dc hdc base hb' _ (digitsRev_lt base (by omega) _ _),
      valRev_digitsRev base hb _ _ (by omega)]

theorem digitStr_ne_nil (dc : Nat → Char) (base n : Nat) : digitStr dc base n ≠ [] := by
  unfold digitStr
  split
  · simp
  · next h => simpa using digitsRev_ne_nil base (n + 1) n h (by omega)

theorem digitStr_mem (dc : Nat → Char) (base : Nat) (hb : 0 < base) (n : Nat) :
    ∀ c ∈ digitStr dc base n, ∃ d < base, c = dc d := by
  unfold digitStr
  split
  · intro c hc
    simp only [List.mem_singleton] at hc
    exact ⟨0, hb, hc⟩
  · intro c hc
    simp only [List.mem_map, List.mem_reverse] at hc
    obtain ⟨d, hd, rfl⟩ := hc
    exact ⟨d, digitsRev_lt base hb _ _ d hd, rfl⟩

theorem digitStr_isNum (dc : Nat → Char) (hdc : IsDigitTable dc) (n : Nat) :
    ∀ c ∈ digitStr dc 10 n, isNum c = true := by
  intro c hc
  obtain ⟨d, hd, rfl⟩ := digitStr_mem dc 10 (by omega) n c hc
  exact (hdc d (by omega)).2.2 hd

theorem digitStr_isHexNum (dc : Nat → Char) (hdc : IsDigitTable dc) (n : Nat) :
    ∀ c ∈ digitStr dc 16 n, isHexNum c = true := by
  intro c hc
  obtain ⟨d, hd, rfl⟩ := digitStr_mem dc 16 (by omega) n c hc
  exact (hdc d hd).2.1

theorem digitStr_length_le (dc : Nat → Char) (base : Nat) (hb : 0 < base) (n w : Nat) (hw : 1 ≤ w)
    (hn : n < base ^ w) : (digitStr dc base n).length ≤ w := by
  unfold digitStr
  split
  · simpa using hw
  · simpa using digitsRev_length_le base hb (n + 1) n w hn

theorem valueToInt_dec (ds : List Char) (h : ∀ c ∈ ds, isNum c = true) :
    valueToInt (String.ofList ds) = (natOfDigits 10 ds).getD 0 := by
  unfold valueToInt
  simp only [String.toList_ofList]
  split
  · next ds' =>
    have := h 'x' (by simp)
    exact absurd this (by decide)
  · rfl

theorem valueToInt_hex (hs : List Char) :
    valueToInt ("0x" ++ String.ofList hs) = (natOfDigits 16 hs).getD 0 := by
  unfold valueToInt
  have : ("0x" ++ String.ofList hs).toList = '0' :: 'x' :: hs := by simp
  rw [this]
  rfl

theorem pValue_dec (ws ds r : List Char) (hws : ∀ c ∈ ws, isWs c = true) (hne : ds ≠ [])
    (hnum : ∀ c ∈ ds, isNum c = true) (hlen : ds.length ≤ 4300)
    (hr : ∀ c, r.head? = some c → isAlnum c = false) :
    pValue (ws ++ (ds ++ r)) = .ok (String.ofList ds) r := by
  have hrnum : ∀ x, r.head? = some x → isNum x = false := by
    intro x hx
    have := hr x hx
    simp only [isAlnum, Bool.or_eq_false_iff] at this
    exact this.2
  have hskip : skipWs (ws ++ (ds ++ r)) = ds ++ r := by
    obtain ⟨c, cs, rfl⟩ := List.exists_cons_of_ne_nil hne
    exact Lemmas.C14.skipWs_class ws _ hws
      (by intro x hx; simp at hx; subst hx; exact isNum_not_ws _ (hnum _ (by simp)))
  have hx : ∀ e ∈ r.head?, e ≠ 'x' := by
    rintro e he rfl; exact absurd (hr _ he) (by decide)
  unfold pValue
  simp only [hskip, litAdj, show ("0x" : String).toList = ['0', 'x'] from rfl,
    Lemmas.C14.stripPrefix_zero_digits 'x' rfl ds r hne hnum hx, R.bind,
    Lemmas.C14.wordAdj_run isNum ds r hne hnum hrnum]
  have : (pyIntDec (String.ofList ds)).isSome = true := by
    rw [Lemmas.C04Spell.pyIntDec_digits _ hnum hne hlen]; rfl
  rw [if_pos this]

theorem isHexNum_not_ws : ∀ c, isHexNum c = true → isWs c = false := by
  intro c h
  rw [isHexNum_iff] at h
  exact not_ws_of_ge c (by omega)

theorem pValue_hex (ws hs r : List Char) (hws : ∀ c ∈ ws, isWs c = true) (hne : hs ≠ [])
    (hhex : ∀ c ∈ hs, isHexNum c = true)
    (hr : ∀ c, r.head? = some c → isAlnum c = false) :
    pValue (ws ++ ('0' :: 'x' :: (hs ++ r))) = .ok ("0x" ++ String.ofList hs) r := by
  have hrhex : ∀ x, r.head? = some x → isHexNum x = false := fun x hx =>
    Bool.eq_false_iff.2 fun h => by
      have := hr x hx
      rw [isAlnum_of_isHexNum x h] at this
      cases this
  have hskip : skipWs (ws ++ ('0' :: 'x' :: (hs ++ r))) = '0' :: 'x' :: (hs ++ r) :=
    Lemmas.C14.skipWs_class ws _ hws (by intro x hx; simp at hx; subst hx; decide)
  unfold pValue
  simp only [hskip, Lemmas.C14.hexWord hs r hne hhex hrhex]

end ArchSim.ToyAsm
