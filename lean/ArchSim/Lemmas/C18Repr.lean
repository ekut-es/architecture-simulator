/-
Flat memory: the memory table.  `reprKeys m bits` are the addresses `a - a % k` (`k` cells per word) of the stored
keys, in order of first occurrence and without duplicates; `reprEntries` reads the word at each of them, as a `foldr`
of `entryStep` that returns the keys with the values read there or the error of one of the reads.
-/
import ArchSim.Lemmas.C18Read

namespace ArchSim.Lemmas.C18
open ArchSim.Mem ArchSim.Spec.ByteStore

theorem reprKeysAux_nodup (k : Int) (l acc : List Int) (h : acc.Nodup) :
    (reprKeysAux k l acc).Nodup := by
  induction l generalizing acc with
  | nil => simpa [reprKeysAux] using h
  | cons a l ih =>
    simp only [reprKeysAux]
    split
    · exact ih acc h
    · rename_i hin
      exact ih _ (List.nodup_append.mpr ⟨h, by simp, fun x hx y hy e =>
        hin (by simp at hy; rw [← hy, ← e]; exact hx)⟩)

/-- The table keys are the stored keys' aligned addresses in first-seen order: `eraseDups` keeps the
    first occurrence of each element. -/
theorem reprKeysAux_eq_loop (k : Int) (l acc : List Int) :
    reprKeysAux k l acc =
      List.eraseDupsBy.loop (· == ·) (l.map (fun a => a - a % k)) acc.reverse := by
  induction l generalizing acc with
  | nil => simp [reprKeysAux, List.eraseDupsBy.loop]
  | cons a l ih =>
    have hany : (acc.reverse.any fun x => a - a % k == x) = decide (a - a % k ∈ acc) := by
      rw [Bool.eq_iff_iff]
      simp only [List.any_eq_true, List.mem_reverse, beq_iff_eq, decide_eq_true_eq]
      exact ⟨fun ⟨x, hx, e⟩ => e ▸ hx, fun h => ⟨_, h, rfl⟩⟩
    simp only [reprKeysAux, List.map_cons, List.eraseDupsBy.loop, hany]
    by_cases hin : (a - a % k) ∈ acc <;> simp [hin, ih]

theorem reprKeys_mem (m : Mem) (bits : Nat) (x : Int) :
    x ∈ reprKeys m bits ↔ ∃ a, a ∈ m.keys ∧ x = a - a % (cellsOf m.cfg bits : Int) := by
  rw [reprKeys, reprKeysAux_eq_loop]
  show x ∈ (m.keys.map _).eraseDups ↔ _
  rw [List.mem_eraseDups, List.mem_map]
  exact exists_congr fun a => and_congr_right fun _ => eq_comm

theorem aligned_key_iff (k : Nat) (hk : 0 < k) (keys : List Int) (x : Int) :
    (∃ a, a ∈ keys ∧ x = a - a % (k : Int)) ↔
      x % (k : Int) = 0 ∧ ∃ i : Nat, i < k ∧ x + (i : Int) ∈ keys := by
  have hk' : (0 : Int) < (k : Int) := by omega
  constructor
  · rintro ⟨a, ha, rfl⟩
    have h1 := Int.emod_lt_of_pos a hk'
    have h2 := Int.emod_nonneg a (Int.ne_of_gt hk')
    refine ⟨by rw [Int.sub_emod, Int.emod_emod, Int.sub_self, Int.zero_emod],
      (a % (k : Int)).toNat, by omega, ?_⟩
    rwa [Int.toNat_of_nonneg h2, Int.sub_add_cancel]
  · rintro ⟨hx, i, hi, hmem⟩
    refine ⟨x + (i : Int), hmem, ?_⟩
    rw [Int.add_emod, hx, Int.zero_add, Int.emod_emod, Int.emod_eq_of_lt (by omega) (by omega)]
    omega

theorem reprKeys_aligned_iff (m : Mem) (bits : Nat) (hk : 0 < cellsOf m.cfg bits) (x : Int) :
    x ∈ reprKeys m bits ↔
      x % (cellsOf m.cfg bits : Int) = 0 ∧ ∃ i : Nat, i < cellsOf m.cfg bits ∧ x + (i : Int) ∈ m.keys := by
  rw [← aligned_key_iff _ hk, reprKeys_mem]

theorem reprKeysAux_id (k : Int) (l acc : List Int) (hk : ∀ a, a ∈ l → a - a % k = a)
    (hnd : (acc ++ l).Nodup) : reprKeysAux k l acc = acc ++ l := by
  induction l generalizing acc with
  | nil => simp [reprKeysAux]
  | cons a l ih =>
    simp only [reprKeysAux, hk a (by simp)]
    have hnot : a ∉ acc := by
      intro ha
      rw [List.nodup_append] at hnd
      exact hnd.2.2 a ha a (by simp) rfl
    rw [if_neg hnot, ih (acc ++ [a]) (fun b hb => hk b (by simp [hb])) (by simpa using hnd)]
    simp

def entryStep (m : Mem) (bits : Nat) (a : Int) (acc : Except AddrErr (List (Int × Nat))) :
    Except AddrErr (List (Int × Nat)) :=
  match acc, readN m a (cellsOf m.cfg bits) with
  | .error e, _ => .error e
  | _, .error e => .error e
  | .ok l, .ok v => .ok ((a, v % 2 ^ bits) :: l)

theorem reprEntries_eq (m : Mem) (bits : Nat) :
    reprEntries m bits = (reprKeys m bits).foldr (entryStep m bits) (.ok []) := rfl

theorem foldr_entryStep_ok (m : Mem) (bits : Nat) (f : Int → Nat) (l : List Int)
    (h : ∀ a, a ∈ l → readN m a (cellsOf m.cfg bits) = .ok (f a)) :
    l.foldr (entryStep m bits) (.ok []) = .ok (l.map (fun a => (a, f a % 2 ^ bits))) := by
  induction l with
  | nil => rfl
  | cons a l ih =>
    rw [List.foldr_cons, ih (fun b hb => h b (by simp [hb]))]
    simp only [entryStep, h a (by simp), List.map_cons]

theorem foldr_entryStep_spec (m : Mem) (bits : Nat) (l : List Int) :
    match l.foldr (entryStep m bits) (.ok []) with
    | .ok r => r.map Prod.fst = l ∧
        ∀ p, p ∈ r → ∃ v, readN m p.1 (cellsOf m.cfg bits) = .ok v ∧ p.2 = v % 2 ^ bits
    | .error e => ∃ a, a ∈ l ∧ readN m a (cellsOf m.cfg bits) = .error e := by
  induction l with
  | nil => exact ⟨rfl, fun _ h => nomatch h⟩
  | cons a l ih =>
    rw [List.foldr_cons]
    cases hacc : l.foldr (entryStep m bits) (.ok []) with
    | error e =>
      rw [hacc] at ih
      obtain ⟨b, hb, hr⟩ := ih
      exact ⟨b, List.mem_cons_of_mem _ hb, hr⟩
    | ok r =>
      rw [hacc] at ih
      cases hrd : readN m a (cellsOf m.cfg bits) with
      | error e => simp only [entryStep, hrd]; exact ⟨a, List.mem_cons_self, hrd⟩
      | ok v =>
        simp only [entryStep, hrd, List.map_cons, ih.1, List.mem_cons, true_and]
        rintro p (rfl | hp)
        · exact ⟨v, hrd, rfl⟩
        · exact ih.2 p hp

theorem reprEntries_sound {m : Mem} {bits : Nat} {r : List (Int × Nat)} (h : reprEntries m bits = .ok r) :
    r.map Prod.fst = reprKeys m bits ∧
      ∀ p, p ∈ r → ∃ v, readN m p.1 (cellsOf m.cfg bits) = .ok v ∧ p.2 = v % 2 ^ bits := by
  have := foldr_entryStep_spec m bits (reprKeys m bits)
  rwa [← reprEntries_eq, h] at this

theorem reprEntries_error {m : Mem} {bits : Nat} {e : AddrErr} (h : reprEntries m bits = .error e) :
    ∃ a, a ∈ reprKeys m bits ∧ readN m a (cellsOf m.cfg bits) = .error e := by
  have := foldr_entryStep_spec m bits (reprKeys m bits)
  rwa [← reprEntries_eq, h] at this

theorem toy_reprEntries_wf (m : Mem) (hc : m.cfg = toyCfg) (hwf : WF m) :
    reprKeys m 16 = m.keys ∧ reprEntries m 16 = .ok (m.keys.map (fun a => (a, m.cells a))) := by
  have hk : cellsOf m.cfg 16 = 1 := by rw [hc]; rfl
  have hkeys : reprKeys m 16 = m.keys := by
    rw [reprKeys, hk]
    exact reprKeysAux_id _ _ _ (fun a _ => by omega) (by simpa using hwf.keys_nodup)
  refine ⟨hkeys, ?_⟩
  rw [reprEntries_eq, foldr_entryStep_ok m 16 (fun a => m.cells a), hkeys]
  · refine congrArg Except.ok (List.map_congr_left fun a _ => ?_)
    have hlt : m.cells a < 2 ^ 16 := by have := hwf.cells_lt a; rwa [hc] at this
    rw [Nat.mod_eq_of_lt hlt]
  · intro x hx
    rw [hkeys] at hx
    have hxr := toy_key_range m hc hwf x hx
    rw [hk, toy_readN_one m hc x hxr.1 hxr.2]

/-- Both bounds of the data range, 16384 and `2^32`, are multiples of `k` (`hk`: the cell counts 1, 2, 4, 8 of the
    four access widths, as literals so that `omega` can take `x % k`), so the aligned block `x - x % k, …, + (k - 1)`
    around an in-range `x` lies in range and does not wrap. -/
theorem riscv_aligned_ok (x : Int) (k : Nat) (hk : k = 1 ∨ k = 2 ∨ k = 4 ∨ k = 8)
    (hx : inRange riscvCfg x = true) (i : Nat) (hi : i < k) :
    cellOk riscvCfg (x - x % (k : Int)) i = true := by
  rw [riscv_cellOk_iff]
  simp only [riscv_inRange, Bool.and_eq_true, decide_eq_true_eq] at hx
  rcases hk with rfl | rfl | rfl | rfl <;> omega

theorem riscv_reprEntries_wf (m : Mem) (hc : m.cfg = riscvCfg) (hwf : WF m) (bits : Nat)
    (hbits : bits = 8 ∨ bits = 16 ∨ bits = 32 ∨ bits = 64) :
    reprEntries m bits = .ok ((reprKeys m bits).map (fun a =>
      (a, leSum riscvCfg (bits / 8) (fun i => m.cells (wrapAddr riscvCfg (a + (i : Int))))))) := by
  have hk : cellsOf m.cfg bits = bits / 8 := by rw [hc]; rfl
  rw [reprEntries_eq, foldr_entryStep_ok m bits
    (fun a => leSum riscvCfg (bits / 8) (fun i => m.cells (wrapAddr riscvCfg (a + (i : Int)))))]
  · refine congrArg Except.ok (List.map_congr_left fun a _ => ?_)
    -- the cells are below 256, so truncating their composition to `bits` bits changes nothing
    have := leSum_mod_bits m.cfg bits (fun i => m.cells (wrapAddr riscvCfg (a + (i : Int))))
      (fun i _ => hwf.cells_lt _)
    rw [hk, hc] at this
    rw [this]
  · intro x hx
    obtain ⟨y, hy, rfl⟩ := (reprKeys_mem m bits x).mp hx
    have hyr := hwf.keys_inRange y hy
    rw [hc] at hyr
    rw [hk, readN_ok m _ _ (fun i hi => by
      rw [hc]
      exact riscv_aligned_ok y (bits / 8) (by rcases hbits with rfl | rfl | rfl | rfl <;> simp) hyr i hi), hc]

/-! ### a concrete history for the non-vacuity examples -/

/-- A history with an unaligned word write, a byte overwrite, a write that wraps modulo 2^32, a truncated
    write at the top of memory, a failing write below the data range and a write at a negative address
    (it wraps to 16385). -/
def exHist : List Op :=
  [.write 32 16386 0x11223344, .write 8 16387 0xAA, .write 16 (16384 + 4294967296) 0xBEEF,
   .write 32 4294967294 0xCAFEF00D, .write 8 100 7, .write 16 (-4294950911) 0x0102]

end ArchSim.Lemmas.C18
