/-
The interlock-free pipeline: with hazard detection off the ID stage raises no stall signal, so the stall pick-up can only
start an EX (ecall-drain) stall and the bookkeeping never records an ID stall (`k = 1`): `NoIdStall` is kept by `finishStep`.
-/
import ArchSim.Lemmas.C07Finish

namespace ArchSim.Lemmas.C08
open ArchSim ArchSim.Rv ArchSim.Pipe ArchSim.Lemmas.C02Split ArchSim.Lemmas.C07

/-- No decode-stage stall is in progress: a recorded stall, if any, belongs to the EX stage. -/
def NoIdStall (p : PSt) : Prop := ∀ st, p.stalled = some st → st.k = 2

theorem latchStall_idStage_off (regs : Nat → Nat) (inp l1 l2 : Option Latch) :
    latchStall (idStage false regs inp l1 l2) = false := by
  cases inp with
  | none => rfl
  | some f => rw [idStage_some]; exact idStall_off (accessRegs f.instr regs) l1 l2

theorem nID_no_stall (p : PSt) (h : p.hazard = false) : latchStall (nID p) = false := by
  unfold nID; rw [h]; exact latchStall_idStage_off ..

theorem pickStall_off_eq (old : Option Stall) (n1 n2 : Option Latch) (h : latchStall n1 = false)
    (hk : ∀ st, old = some st → st.k = 2) :
    pickStall old n1 n2 = if latchStall n2 && old.isNone then some 2 else none := by
  unfold pickStall
  simp only [h, Bool.false_and, Bool.false_eq_true, if_false]
  cases old with
  | none => simp
  | some st => simp [hk st rfl]

theorem finishStep_noIdStall (p : PSt) (s : St) (n0 n1 n2 n3 n4 : Option Latch)
    (h1 : latchStall n1 = false) (hp : NoIdStall p) : NoIdStall (finishStep p s n0 n1 n2 n3 n4) := by
  intro st hst
  obtain ⟨_, _, _, _, _, sl, he, _, _, hsl, _⟩ := finishStep_shape p s n0 n1 n2 n3 n4
  rw [he] at hst
  have hst : sl = some st := hst
  have hns : nextStall p.stalled (pickStall p.stalled n1 n2) p.l0 p.l1 = some st := by
    rcases hsl with rfl | rfl | rfl
    · cases hst
    · exact hst
    · exact dropLowStall_some _ _ hst
  -- a stall picked up now is an EX stall; otherwise the old one goes on
  have hk := pickStall_off_eq p.stalled n1 n2 h1 hp
  have h2 : ∀ k, pickStall p.stalled n1 n2 = some k → k = 2 := by
    intro k hpk; rw [hk] at hpk; split at hpk <;> cases hpk; rfl
  rcases nextStall_parts _ _ _ _ _ hns with ⟨_, _, _, _, hpk⟩ | ⟨st0, hs0, _, _, hkeep, hpk⟩
  · exact h2 _ hpk
  · cases hp' : pickStall p.stalled n1 n2 with
    | none => rw [hkeep hp']; exact hp st0 hs0
    | some k => rw [hpk k hp']; exact h2 k hp'

end ArchSim.Lemmas.C08
