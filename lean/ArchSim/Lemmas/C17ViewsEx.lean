/-
Concrete states for the non-vacuity examples of `Props/C17Views.lean`, each with its keys, its table entries and
their sorted form evaluated once.
-/
import ArchSim.Lemmas.C17ViewsRows

namespace ArchSim.Lemmas.C17Views
open ArchSim ArchSim.Mem ArchSim.Views ArchSim.Toy ArchSim.Lemmas.C18

/-- Three bytes in two words, written in DESCENDING address order: 16394, 16393 (word 16392), then
16385 (word 16384). -/
def exMem : Mem :=
  (writeN (writeN (writeN (Mem.empty riscvCfg) 16394 1 0xAB).1 16393 1 0x7F).1 16385 1 0x80).1

theorem exMem_wf : WF exMem :=
  WF_writeN _ _ _ _ (WF_writeN _ _ _ _ (WF_writeN _ _ _ _ (WF_empty riscvCfg)))

theorem exMem_keys : exMem.keys = [16394, 16393, 16385] := by decide +kernel

theorem exMem_entries : reprEntries exMem 32 = .ok [(16392, 0xAB7F00), (16384, 0x8000)] := rfl

/-- Stated apart from `exMem_entries` because `List.mergeSort` is well-founded recursion: neither `rfl` nor `decide`
    evaluates it (the trap of `ToyAsmFront`'s head), `simp` with its equations does.  Likewise `exToy_sorted`. -/
theorem exMem_sorted :
    [((16392 : Int), 0xAB7F00), (16384, 0x8000)].mergeSort addrLe
      = [(16384, 0x8000), (16392, 0xAB7F00)] := by
  simp [List.mergeSort, List.MergeSort.Internal.splitInTwo, addrLe]

/-- A TOY state: data words at 6 and 5 (written first, in descending order), the three instructions
`LDA 5; ADD 6; STO 7` at 0, 1, 2, and the first cycle of the first instruction executed. -/
def exToy : TSim :=
  (firstCycle (loadImage {} [⟨1, 5⟩, ⟨3, 6⟩, ⟨0, 7⟩] [(6, 0xFFFF), (5, 1)])).t

theorem exToy_keys : exToy.s.mem.keys = [6, 5, 0, 1, 2] := by decide +kernel

theorem exToy_state : exToy.s.maxPc = some 2 ∧ exToy.s.addrCur = some 0 ∧ exToy.nextCycle = 2 ∧
    exToy.s.accu = 1 ∧ exToy.s.pc = 1 ∧ exToy.s.loaded = some ⟨1, 5⟩ := by decide +kernel

theorem exToy_entries : reprEntries exToy.s.mem 16 =
    .ok [(6, 0xFFFF), (5, 1), (0, 0x1005), (1, 0x3006), (2, 0x0007)] := rfl

theorem exToy_sorted :
    [((6 : Int), 0xFFFF), (5, 1), (0, 0x1005), (1, 0x3006), (2, 0x0007)].mergeSort addrLe
      = [(0, 0x1005), (1, 0x3006), (2, 0x0007), (5, 1), (6, 0xFFFF)] := by
  simp [List.mergeSort, List.MergeSort.Internal.splitInTwo, addrLe]

end ArchSim.Lemmas.C17Views
