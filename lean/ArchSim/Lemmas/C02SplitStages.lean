/-
The five stage functions one at a time: the output of each on a non-empty input as an explicit record, the one case
analysis of EX, where a fault or an output register comes from, and one frame equation per stage; then `Pipe.splitStep` as
the "completion" of an instruction from the register it sits in, and `singleStep` as its fetch followed by `singleTail`.
Both halves of C02, C07/C08 and C15 reason about the stages through these. `SameAddr` and its lemmas are in namespace `Pipe`.
-/
import ArchSim.Model.Pipe
import ArchSim.Lemmas.RvEcall
import ArchSim.Lemmas.RvFetch
import ArchSim.Lemmas.RvBits

namespace ArchSim.Lemmas.C02Split
open ArchSim ArchSim.Rv ArchSim.Pipe

theorem fetch_uncached_frame (im : IMem) (pc : Int) (h : im.cache = none) :
    (im.fetch pc).imem = im ∧ (im.fetch pc).extra = 0 := by
  unfold IMem.fetch
  simp only [h]
  split
  · split <;> exact ⟨rfl, rfl⟩
  · exact ⟨rfl, rfl⟩

/-- The ID/EX register the ID stage produces from a non-empty IF/ID register `f`. -/
def idLatch (hazard : Bool) (regs : Nat → Nat) (f : Latch) (l1 l2 : Option Latch) : Latch :=
  { instr := f.instr, addr := f.addr, pc4 := f.pc4, rr := accessRegs f.instr regs,
    wreg := writeReg f.instr, stall := idStall hazard (accessRegs f.instr regs) l1 l2 }

theorem idStage_some (hazard : Bool) (regs : Nat → Nat) (f : Latch) (l1 l2 : Option Latch) :
    idStage hazard regs (some f) l1 l2 = some (idLatch hazard regs f l1 l2) := rfl

theorem idStage_none (hazard : Bool) (regs : Nat → Nat) (l1 l2 : Option Latch) :
    idStage hazard regs none l1 l2 = none := rfl

theorem idStall_none (hazard : Bool) (rr : RegRead) : idStall hazard rr none none = false := by
  simp [idStall, hazardWith]

theorem idStall_off (rr : RegRead) (l1 l2 : Option Latch) : idStall false rr l1 l2 = false := by
  simp [idStall]

theorem accessRegs_congr (i : Instr) (regs regs' : Nat → Nat)
    (h : ∀ r, ((accessRegs i regs).a1 = some r ∨ (accessRegs i regs).a2 = some r) → regs r = regs' r) :
    accessRegs i regs = accessRegs i regs' := by
  unfold accessRegs at h ⊢
  split <;> simp_all

/-- The EX/MEM register of a non-stalling, non-exiting instruction. -/
def exBase (d : Latch) (cmp : Option Bool) (result : Option Int) : Latch :=
  { instr := d.instr, addr := d.addr, pc4 := d.pc4, rr := d.rr, wreg := d.wreg,
    result := result, cmp := cmp, pcImm := d.rr.imm.map (· + d.addr) }

theorem exStage_none (s : St) (l2 l3 : Option Latch) :
    exStage s none l2 l3 = { st := s, latch := none, fault := none } := rfl

/-- `alu_compute` hit a failed `assert` (a `None` operand): the stage raises. -/
theorem exStage_assert (s : St) (d : Latch) (l2 l3 : Option Latch)
    (halu : aluCompute d.instr (aluIn1 d) (aluIn2 d) = none) :
    exStage s (some d) l2 l3 = { st := s, latch := none, fault := some ⟨d.addr, d.instr, .mem .policy⟩ } := by
  simp [exStage, halu]

theorem exStage_nonEcall (s : St) (d : Latch) (l2 l3 : Option Latch) (cmp : Option Bool)
    (result : Option Int) (hop : d.instr.op ≠ .ecall)
    (halu : aluCompute d.instr (aluIn1 d) (aluIn2 d) = some (cmp, result)) :
    exStage s (some d) l2 l3 = { st := s, latch := some (exBase d cmp result), fault := none } := by
  simp [exStage, halu, hop, exBase]

/-- The ALU never hits a failed assertion on a latch decoded by ID: ID supplies every operand the
    instruction's type selects; what is left is that the shift amount of `srai` is not negative. -/
theorem aluCompute_some (d : Latch) (regs : Nat → Nat) (hrr : d.rr = accessRegs d.instr regs)
    (hs : d.instr.op = .srai → 0 ≤ d.instr.imm) : aluCompute d.instr (aluIn1 d) (aluIn2 d) ≠ none := by
  cases hop : d.instr.op <;>
    simp [aluCompute, aluIn1, aluIn2, ctlOf, accessRegs, hrr, hop, Op.ty] <;>
    (try (rw [hop] at hs; simp at hs; omega))

theorem aluCompute_ecall (i : Instr) (h : i.op = .ecall) (x y : Option Int) :
    aluCompute i x y = some (none, some 0) := by
  simp [aluCompute, h, Op.ty]

theorem exStage_ecall_wait (s : St) (d : Latch) (l2 l3 : Option Latch) (hop : d.instr.op = .ecall)
    (hw : ecallMustWait d l2 l3 = true) :
    exStage s (some d) l2 l3 =
      { st := s, latch := some { exBase d none (some 0) with stall := true }, fault := none } := by
  simp [exStage, aluCompute_ecall d.instr hop, hop, hw, exBase]

/-- What the EX stage does with a drained ecall, by the result of `process_ecall`. -/
def ecallRun (s : St) (d : Latch) : ExOut :=
  match processEcall s with
  | (m, .out str) =>
    { st := { s with mem := m, output := s.output ++ str }, latch := some (exBase d none (some 0)),
      fault := none }
  | (m, .exit c) =>
    { st := { s with mem := m },
      latch := some { exBase d none (some 0) with exitCode := some c, flush := some d.pc4 }, fault := none }
  | (m, .err e) => { st := { s with mem := m }, latch := none, fault := some ⟨d.addr, d.instr, .mem e⟩ }
  | (m, .invalid c) =>
    { st := { s with mem := m }, latch := none, fault := some ⟨d.addr, d.instr, .ecallCode c⟩ }

theorem exStage_ecall_run (s : St) (d : Latch) (l2 l3 : Option Latch) (hop : d.instr.op = .ecall)
    (hw : ecallMustWait d l2 l3 = false) :
    exStage s (some d) l2 l3 = ecallRun s d := by
  simp only [exStage, aluCompute_ecall d.instr hop, hop, hw, ecallRun, exBase]
  rfl

theorem ecallMustWait_none (d : Latch) : ecallMustWait d none none = false := by
  simp [ecallMustWait]

theorem exStage_ecall_out (s : St) (d : Latch) (l2 l3 : Option Latch) (hop : d.instr.op = .ecall)
    (hw : ecallMustWait d l2 l3 = false) (m : MemSys) (str : String) (hp : processEcall s = (m, .out str)) :
    exStage s (some d) l2 l3 =
      { st := { s with mem := m, output := s.output ++ str }, latch := some (exBase d none (some 0)),
        fault := none } := by
  rw [exStage_ecall_run s d l2 l3 hop hw]; simp [ecallRun, hp]

theorem exStage_ecall_exit (s : St) (d : Latch) (l2 l3 : Option Latch) (hop : d.instr.op = .ecall)
    (hw : ecallMustWait d l2 l3 = false) (m : MemSys) (c : Int) (hp : processEcall s = (m, .exit c)) :
    exStage s (some d) l2 l3 =
      { st := { s with mem := m },
        latch := some { exBase d none (some 0) with exitCode := some c, flush := some d.pc4 },
        fault := none } := by
  rw [exStage_ecall_run s d l2 l3 hop hw]; simp [ecallRun, hp]

theorem exStage_ecall_err (s : St) (d : Latch) (l2 l3 : Option Latch) (hop : d.instr.op = .ecall)
    (hw : ecallMustWait d l2 l3 = false) (m : MemSys) (e : Cache.Err) (hp : processEcall s = (m, .err e)) :
    exStage s (some d) l2 l3 =
      { st := { s with mem := m }, latch := none, fault := some ⟨d.addr, d.instr, .mem e⟩ } := by
  rw [exStage_ecall_run s d l2 l3 hop hw]; simp [ecallRun, hp]

theorem exStage_ecall_invalid (s : St) (d : Latch) (l2 l3 : Option Latch) (hop : d.instr.op = .ecall)
    (hw : ecallMustWait d l2 l3 = false) (m : MemSys) (c : Nat) (hp : processEcall s = (m, .invalid c)) :
    exStage s (some d) l2 l3 =
      { st := { s with mem := m }, latch := none, fault := some ⟨d.addr, d.instr, .ecallCode c⟩ } := by
  rw [exStage_ecall_run s d l2 l3 hop hw]; simp [ecallRun, hp]

theorem exStage_cases (s : St) (d : Latch) (l2 l3 : Option Latch) :
    (d.instr.op ≠ .ecall ∧
      exStage s (some d) l2 l3 = { st := s, latch := none, fault := some ⟨d.addr, d.instr, .mem .policy⟩ }) ∨
    (d.instr.op ≠ .ecall ∧ ∃ cmp res,
      exStage s (some d) l2 l3 = { st := s, latch := some (exBase d cmp res), fault := none }) ∨
    (d.instr.op = .ecall ∧ ecallMustWait d l2 l3 = true ∧
      exStage s (some d) l2 l3 =
        { st := s, latch := some { exBase d none (some 0) with stall := true }, fault := none }) ∨
    (d.instr.op = .ecall ∧ ecallMustWait d l2 l3 = false ∧ exStage s (some d) l2 l3 = ecallRun s d) := by
  by_cases hop : d.instr.op = .ecall
  · cases hw : ecallMustWait d l2 l3 with
    | true => exact .inr (.inr (.inl ⟨hop, rfl, exStage_ecall_wait s d l2 l3 hop hw⟩))
    | false => exact .inr (.inr (.inr ⟨hop, rfl, exStage_ecall_run s d l2 l3 hop hw⟩))
  · cases halu : aluCompute d.instr (aluIn1 d) (aluIn2 d) with
    | none => exact .inl ⟨hop, exStage_assert s d l2 l3 halu⟩
    | some cr => exact .inr (.inl ⟨hop, cr.1, cr.2, exStage_nonEcall s d l2 l3 cr.1 cr.2 hop halu⟩)

theorem exStage_fault_origin (s : St) (d : Latch) (l2 l3 : Option Latch) (ft : PFault)
    (h : (exStage s (some d) l2 l3).fault = some ft) :
    ft.addr = d.addr ∧ ft.instr = d.instr ∧
      ((∃ e, ft.fault = .mem e) ∨
       ∃ c m, ft.fault = .ecallCode c ∧ d.instr.op = .ecall ∧ processEcall s = (m, .invalid c)) := by
  rcases exStage_cases s d l2 l3 with ⟨_, he⟩ | ⟨_, _, _, he⟩ | ⟨_, _, he⟩ | ⟨hop, _, he⟩ <;> rw [he] at h
  · cases h; exact ⟨rfl, rfl, .inl ⟨_, rfl⟩⟩
  · cases h
  · cases h
  · unfold ecallRun at h
    split at h
    · cases h
    · cases h
    · cases h; exact ⟨rfl, rfl, .inl ⟨_, rfl⟩⟩
    · next hp => cases h; exact ⟨rfl, rfl, .inr ⟨_, _, rfl, hop, hp⟩⟩

theorem exStage_latch_origin (s : St) (d : Latch) (l2 l3 : Option Latch) (x : Latch)
    (h : (exStage s (some d) l2 l3).latch = some x) : x.addr = d.addr ∧ x.instr = d.instr := by
  rcases exStage_cases s d l2 l3 with ⟨_, he⟩ | ⟨_, _, _, he⟩ | ⟨_, _, he⟩ | ⟨_, _, he⟩ <;> rw [he] at h
  · cases h
  · cases h; exact ⟨rfl, rfl⟩
  · cases h; exact ⟨rfl, rfl⟩
  · unfold ecallRun at h
    split at h <;> cases h <;> exact ⟨rfl, rfl⟩

theorem exStage_nonEcall_alu (s : St) (d : Latch) (l2 l3 : Option Latch) (h : d.instr.op ≠ .ecall) :
    exStage s (some d) l2 l3 =
      match aluCompute d.instr (aluIn1 d) (aluIn2 d) with
      | none => { st := s, latch := none, fault := some ⟨d.addr, d.instr, .mem .policy⟩ }
      | some (c, r) => { st := s, latch := some (exBase d c r), fault := none } := by
  cases hal : aluCompute d.instr (aluIn1 d) (aluIn2 d) with
  | none => exact exStage_assert s d l2 l3 hal
  | some cr => exact exStage_nonEcall s d l2 l3 cr.1 cr.2 h hal

theorem exStage_ok_latch (s : St) (d : Latch) (l2 l3 : Option Latch)
    (hf : (exStage s (some d) l2 l3).fault = none) :
    ∃ e, (exStage s (some d) l2 l3).latch = some e ∧ e.instr = d.instr ∧ e.wreg = d.wreg ∧
      e.addr = d.addr ∧ e.pc4 = d.pc4 ∧ e.flush.isSome = e.exitCode.isSome ∧
      (e.exitCode.isSome = true → d.instr.op = .ecall ∧ ecallMustWait d l2 l3 = false) ∧
      (e.stall = true ↔ d.instr.op = .ecall ∧ ecallMustWait d l2 l3 = true) := by
  by_cases h : d.instr.op = .ecall
  · cases hw : ecallMustWait d l2 l3
    · rw [exStage_ecall_run s d l2 l3 h hw] at hf ⊢
      unfold ecallRun at hf ⊢
      split <;> simp_all [exBase]
    · rw [exStage_ecall_wait s d l2 l3 h hw]
      simp [exBase, h]
  · rw [exStage_nonEcall_alu s d l2 l3 h] at hf ⊢
    cases hal : aluCompute d.instr (aluIn1 d) (aluIn2 d) with
    | none => simp [hal] at hf
    | some cr => obtain ⟨c, r⟩ := cr; simp [exBase, h]

theorem exStage_latch_isSome (s : St) (inp l2 l3 : Option Latch) (hf : (exStage s inp l2 l3).fault = none) :
    (exStage s inp l2 l3).latch.isSome = inp.isSome := by
  cases inp with
  | none => simp [exStage_none]
  | some d => obtain ⟨e, he, _⟩ := exStage_ok_latch s d l2 l3 hf; simp [he]

theorem ecallRun_st (s : St) (d : Latch) :
    (ecallRun s d).st = { s with mem := (processEcall s).1, output := (ecallRun s d).st.output } := by
  unfold ecallRun
  generalize processEcall s = r
  rcases r with ⟨m, _ | _ | _ | _⟩ <;> rfl

theorem exStage_st_run (s : St) (inp l2 l3 : Option Latch) :
    (exStage s inp l2 l3).st = s ∨
      ∃ d, inp = some d ∧ d.instr.op = .ecall ∧ ecallMustWait d l2 l3 = false ∧
        exStage s inp l2 l3 = ecallRun s d := by
  cases inp with
  | none => exact .inl rfl
  | some d =>
    rcases exStage_cases s d l2 l3 with ⟨_, h⟩ | ⟨_, _, _, h⟩ | ⟨_, _, h⟩ | ⟨hop, hw, h⟩
    · exact .inl (by rw [h])
    · exact .inl (by rw [h])
    · exact .inl (by rw [h])
    · exact .inr ⟨d, rfl, hop, hw, h⟩

/-- EX changes only the memory system (print-string reads through the cache) and the output. -/
theorem exStage_st (s : St) (inp l2 l3 : Option Latch) :
    (exStage s inp l2 l3).st =
      { s with mem := (exStage s inp l2 l3).st.mem, output := (exStage s inp l2 l3).st.output } := by
  rcases exStage_st_run s inp l2 l3 with h | ⟨d, _, _, _, h⟩
  · rw [h]
  · rw [h, ecallRun_st]

/-- The MEM/WB register. -/
def memLatch (e : Latch) (rd : Option Int) : Latch :=
  { instr := e.instr, addr := e.addr, pc4 := e.pc4, rr := e.rr, wreg := e.wreg,
    result := e.result, cmp := e.cmp, pcImm := e.pcImm, exitCode := e.exitCode,
    memRead := rd, flush := memFlush e }

/-- Branch / procedure counters, bumped by the MEM stage when it flushes. -/
def memCount (e : Latch) (s : St) : St :=
  if (memFlush e).isSome then
    if e.instr.op.ty = .b then { s with branches := s.branches + 1 }
    else if e.instr.op = .jal then { s with procs := s.procs + 1 }
    else s
  else s

/-- The architectural state after the memory access `o` of the MEM stage. -/
def memSt (s : St) (o : MaOut) : St := { s with mem := o.mem, cycles := s.cycles + o.extra }

theorem memStage_none (s : St) : memStage s none = { st := s, latch := none, fault := none } := rfl

theorem memStage_some (s : St) (e : Latch) (o : MaOut) (rd : Option Int)
    (hma : memoryAccess e.instr e.result e.rr.d2 s.mem true = some o) (hres : o.res = .ok rd) :
    memStage s (some e) =
      { st := memCount e (memSt s o), latch := some (memLatch e rd), fault := none } := by
  simp only [memStage, hma, hres, memCount, memSt, memLatch]

theorem memStage_error (s : St) (e : Latch) (o : MaOut) (err : Cache.Err)
    (hma : memoryAccess e.instr e.result e.rr.d2 s.mem true = some o) (hres : o.res = .error err) :
    memStage s (some e) = { st := memSt s o, latch := none, fault := some ⟨e.addr, e.instr, .mem err⟩ } := by
  simp [memStage, hma, hres, memSt]

theorem memStage_assert (s : St) (e : Latch)
    (hma : memoryAccess e.instr e.result e.rr.d2 s.mem true = none) :
    memStage s (some e) = { st := s, latch := none, fault := some ⟨e.addr, e.instr, .mem .policy⟩ } := by
  simp [memStage, hma]

theorem memStage_fault_origin (s : St) (e : Latch) (ft : PFault)
    (h : (memStage s (some e)).fault = some ft) :
    ft.addr = e.addr ∧ ft.instr = e.instr ∧ ∃ err, ft.fault = .mem err := by
  cases hma : memoryAccess e.instr e.result e.rr.d2 s.mem true with
  | none => rw [memStage_assert s e hma] at h; cases h; exact ⟨rfl, rfl, _, rfl⟩
  | some o =>
    cases hres : o.res with
    | error err => rw [memStage_error s e o err hma hres] at h; cases h; exact ⟨rfl, rfl, _, rfl⟩
    | ok rd => rw [memStage_some s e o rd hma hres] at h; cases h

theorem memStage_ok_latch (s : St) (e : Latch) (h : (memStage s (some e)).fault = none) :
    ∃ rd, (memStage s (some e)).latch = some (memLatch e rd) := by
  cases hma : memoryAccess e.instr e.result e.rr.d2 s.mem true with
  | none => rw [memStage_assert s e hma] at h; simp at h
  | some o =>
    cases hres : o.res with
    | error err => rw [memStage_error s e o err hma hres] at h; simp at h
    | ok rd => exact ⟨rd, by rw [memStage_some s e o rd hma hres]⟩

theorem memStage_latch_isSome (s : St) (inp : Option Latch) (hf : (memStage s inp).fault = none) :
    (memStage s inp).latch.isSome = inp.isSome := by
  cases inp with
  | none => rfl
  | some e => obtain ⟨rd, hm⟩ := memStage_ok_latch s e hf; rw [hm]; rfl

theorem memCount_st (e : Latch) (s : St) :
    memCount e s = { s with branches := (memCount e s).branches, procs := (memCount e s).procs } := by
  unfold memCount
  split
  · split
    · rfl
    · split <;> rfl
  · rfl

theorem memStage_st (s : St) (inp : Option Latch) :
    (memStage s inp).st =
      { s with mem := (memStage s inp).st.mem, cycles := (memStage s inp).st.cycles,
               branches := (memStage s inp).st.branches, procs := (memStage s inp).st.procs } := by
  cases inp with
  | none => rfl
  | some e =>
    cases hma : memoryAccess e.instr e.result e.rr.d2 s.mem true with
    | none => rw [memStage_assert s e hma]
    | some o =>
      cases hres : o.res with
      | error err => rw [memStage_error s e o err hma hres]; rfl
      | ok rd => rw [memStage_some s e o rd hma hres, memCount_st]; rfl

theorem memoryAccess_other (i : Instr) (h1 : i.op.ty ≠ .memI) (h2 : i.op.ty ≠ .s)
    (a w : Option Int) (ms : MemSys) (c : Bool) :
    memoryAccess i a w ms c = some { mem := ms, extra := 0, res := .ok none } := by
  unfold memoryAccess
  split <;> simp_all

/-! ### A flat data memory -/

theorem write_flat_direct (m : Mem.Mem) (bits : Nat) (a : Int) (v : Nat) (d : Bool) :
    (MemSys.flat m).write bits a v d = (MemSys.flat m).write bits a v false := rfl

theorem write_flat_extra (m : Mem.Mem) (bits : Nat) (a : Int) (v : Nat) (d : Bool) :
    ((MemSys.flat m).write bits a v d).extra = 0 := by
  simp only [MemSys.write]
  split <;> rfl

theorem memoryAccess_flat {i : Instr} {a w : Option Int} {m : Mem.Mem} {c : Bool} {o : MaOut}
    (h : memoryAccess i a w (.flat m) c = some o) : o.extra = 0 ∧ ∃ m', o.mem = .flat m' := by
  unfold memoryAccess at h
  split at h
  · split at h
    · cases h
    · cases h; exact ⟨read_flat_extra .., m, read_flat_mem ..⟩
  · split at h
    · cases h; exact ⟨write_flat_extra .., _, write_flat_mem ..⟩
    · cases h; exact ⟨rfl, m, rfl⟩
  · cases h; exact ⟨rfl, m, rfl⟩

/-- The register displayed after WB. -/
def wbLatch (m : Latch) : Latch :=
  { instr := m.instr, addr := m.addr, pc4 := m.pc4, wreg := m.wreg, wdata := wbData m,
    memRead := m.memRead, result := m.result, rr := m.rr,
    flush := if m.exitCode.isSome then some m.pc4 else none }

/-- The register file after WB. -/
def wbRegs (m : Latch) (regs : Nat → Nat) : Nat → Nat :=
  (writeBack m.instr m.wreg (wbData m) regs).getD regs

/-- The architectural state after WB: instruction count, register write, exit code. -/
def wbSt (m : Latch) (s : St) : St :=
  { s with instrs := s.instrs + 1, regs := wbRegs m s.regs,
           exitCode := match m.exitCode with | some c => some c | none => s.exitCode }

theorem wbRegs_frame (m : Latch) (regs : Nat → Nat) (r : Nat) (h : m.wreg = some r → r = 0) :
    wbRegs m regs r = regs r := by
  unfold wbRegs writeBack
  cases hw : m.wreg with
  | none => split <;> rfl
  | some r' =>
    cases wbData m with
    | none => split <;> rfl
    | some d =>
      have key : setReg regs r' (wrapU d) r = regs r := by
        refine setReg_ne regs r' _ r ?_
        by_cases e : r = r'
        · exact .inl (e ▸ h (e ▸ hw))
        · exact .inr e
      split <;> first | exact key | rfl

theorem wbStage_none (s : St) : wbStage s none = (s, none) := rfl

theorem wbStage_some (s : St) (m : Latch) : wbStage s (some m) = (wbSt m s, some (wbLatch m)) := by
  simp only [wbStage, wbSt, wbRegs, wbLatch]
  cases m.exitCode <;> rfl

theorem wbStage_st (s : St) (l : Option Latch) :
    (wbStage s l).1 = { s with regs := (wbStage s l).1.regs, exitCode := (wbStage s l).1.exitCode,
                               instrs := s.instrs + (if l.isSome then 1 else 0) } := by
  cases l with
  | none => rfl
  | some m => rw [wbStage_some]; rfl

theorem wbStage_instrs (s : St) (l : Option Latch) :
    (wbStage s l).1.instrs = s.instrs + (if l.isSome then 1 else 0) :=
  (congrArg St.instrs (wbStage_st s l) :)

/-! ### Completion functions
`completeMEMWB`, `completeEXMEM`, `completeIDEX : … → Rv.StepOut` apply the flush target to the pc
(`splitStep` is `completeIDEX` of the decoded fetch, `splitStep_eq_complete`). The refinement proof has a
second family `cWB`, `cMEM`, `cEX`, `cID : … → Comp` (C02Abs), which never touches the pc and keeps the
redirect; `splitTail_cID` (C02Main) relates the two. -/

/-- Set the pc to a flush target (32-bit register). -/
def applyTarget (s : St) : Option Int → St
  | some a => { s with pc := a % 4294967296 }
  | none => s

/-- The flush signal of the highest register wins (`WB` output, then `MEM/WB`, then `EX/MEM`). -/
def firstFlush (w m x : Option Int) : Option Int :=
  match w with
  | some a => some a
  | none => match m with
    | some a => some a
    | none => x

/-- Finish an instruction sitting in the MEM/WB register: WB only. `exFlush` is the flush signal
    its EX/MEM register carried (only an exiting ecall has one, and it is repeated by WB). -/
def completeMEMWB (m : Option Latch) (exFlush : Option Int) (s : St) : Rv.StepOut :=
  { st := applyTarget (wbStage s m).1 (firstFlush (latchFlush (wbStage s m).2) (latchFlush m) exFlush),
    fault := none }

/-- Finish an instruction sitting in the EX/MEM register: MEM, then WB. A fault leaves the pc at
    the faulting instruction (as `splitStep` does). -/
def completeEXMEM (x : Option Latch) (s : St) : Rv.StepOut :=
  match (memStage s x).fault with
  | some ft => { st := { (memStage s x).st with pc := ft.addr }, fault := some (ft.addr, ft.fault) }
  | none => completeMEMWB (memStage s x).latch (latchFlush x) (memStage s x).st

/-- Finish an instruction sitting in the ID/EX register with nothing older in flight: EX, MEM, WB. -/
def completeIDEX (d : Option Latch) (s : St) : Rv.StepOut :=
  match (exStage s d none none).fault with
  | some ft => { st := { (exStage s d none none).st with pc := ft.addr }, fault := some (ft.addr, ft.fault) }
  | none => completeEXMEM (exStage s d none none).latch (exStage s d none none).st

theorem completeMEMWB_none (fl : Option Int) (s : St) :
    completeMEMWB none fl s = { st := applyTarget s fl, fault := none } := by
  simp [completeMEMWB, wbStage_none, latchFlush, firstFlush]

theorem completeMEMWB_some (m : Latch) (fl : Option Int) (s : St) :
    completeMEMWB (some m) fl s =
      { st := applyTarget (wbSt m s) (firstFlush (wbLatch m).flush m.flush fl), fault := none } := by
  simp [completeMEMWB, wbStage_some, latchFlush]

theorem completeEXMEM_none (s : St) : completeEXMEM none s = { st := s, fault := none } := by
  simp [completeEXMEM, memStage_none, completeMEMWB_none, latchFlush, applyTarget]

theorem completeIDEX_none (s : St) : completeIDEX none s = { st := s, fault := none } := by
  simp [completeIDEX, exStage_none, completeEXMEM_none]

theorem splitStep_eq_complete (s : St) :
    splitStep s =
      completeIDEX
        (idStage false (ifStage { s with cycles := s.cycles + 1 }).1.regs
          (ifStage { s with cycles := s.cycles + 1 }).2 none none)
        (ifStage { s with cycles := s.cycles + 1 }).1 := by
  simp only [splitStep]
  generalize ifStage { s with cycles := s.cycles + 1 } = r
  obtain ⟨s1, f⟩ := r
  cases f with
  | none => simp [idStage_none, completeIDEX_none]
  | some f =>
    simp only [idStage_some, completeIDEX]
    cases hex : (exStage s1 (some (idLatch false s1.regs f none none)) none none).fault with
    | some ft =>
      have := (exStage_fault_origin _ _ _ _ _ hex).1
      simp only [this]; rfl
    | none =>
      simp only [completeEXMEM]
      cases hl : (exStage s1 (some (idLatch false s1.regs f none none)) none none).latch with
      | none => simp [memStage_none, completeMEMWB, wbStage_none, latchFlush, firstFlush, applyTarget]
      | some x =>
        have hx := (exStage_latch_origin _ _ _ _ _ hl).1
        cases hme : (memStage (exStage s1 (some (idLatch false s1.regs f none none)) none none).st (some x)).fault with
        | some ft =>
          have := (memStage_fault_origin _ _ _ hme).1
          simp only [this, hx]; rfl
        | none =>
          simp only [completeMEMWB]
          generalize latchFlush (wbStage _ _).snd = a
          generalize latchFlush (memStage _ _).latch = b
          generalize latchFlush (some x) = c
          cases a <;> cases b <;> cases c <;> rfl

/-! ### Single-cycle mode -/

/-- The part of `singleStep` after the fetch (verbatim). -/
def singleTail (i : Instr) (s2 : St) : Rv.StepOut :=
  let addr := s2.pc
  let rr := accessRegs i s2.regs
  let b := behavior i s2
  match b.fault with
  | some ft => { st := b.st, fault := some (addr, ft) }
  | none =>
    let s3 : St × Option Fault :=
      if i.op.ty = .memI then
        let la : Option Int := match rr.d1, rr.imm with
          | some d, some im => some ((wrapU d : Int) + im)
          | _, _ => none
        match memoryAccess i la none b.st.mem false with
        | none => (b.st, some (.mem .policy))
        | some o =>
          let st' := { b.st with mem := o.mem, cycles := b.st.cycles + o.extra }
          match o.res with
          | .error e => (st', some (.mem e))
          | .ok _ => (st', none)
      else (b.st, none)
    match s3 with
    | (st', some ft) => { st := st', fault := some (addr, ft) }
    | (st', none) => { st := { st' with pc := (st'.pc + 4) % 4294967296 }, fault := none }

/-- The state in which `singleStep` executes the fetched instruction: cycle tick, instruction count, fetch. -/
def afterFetch (s : St) : St :=
  { s with cycles := s.cycles + 1 + (s.imem.fetch s.pc).extra, instrs := s.instrs + 1,
           imem := (s.imem.fetch s.pc).imem }

theorem singleStep_unfold (s : St) :
    singleStep s =
      match s.imem.instrAt s.pc with
      | none => { st := { s with cycles := s.cycles + 1 }, fault := none }
      | some _ =>
        match (s.imem.fetch s.pc).res with
        | .error e => { st := afterFetch s, fault := some (s.pc, .mem e) }
        | .ok none => { st := afterFetch s, fault := some (s.pc, .notImplemented) }
        | .ok (some i) => singleTail i (afterFetch s) := by
  cases hi : s.imem.instrAt s.pc with
  | none => simp only [singleStep, hi]
  | some j =>
    cases hf : (s.imem.fetch s.pc).res with
    | error e => simp only [singleStep, hi, hf]; rfl
    | ok oi =>
      cases oi with
      | none => simp only [singleStep, hi, hf]; rfl
      | some i => simp only [singleStep, hi, hf]; rfl

theorem singleStep_nofetch (s : St) (hi : s.imem.instrAt s.pc = none) :
    singleStep s = { st := { s with cycles := s.cycles + 1 }, fault := none } := by
  rw [singleStep_unfold, hi]

theorem singleStep_fetched (s : St) {j i : Instr} (hi : s.imem.instrAt s.pc = some j)
    (hr : (s.imem.fetch s.pc).res = .ok (some i)) : singleStep s = singleTail i (afterFetch s) := by
  rw [singleStep_unfold, hi, hr]

end ArchSim.Lemmas.C02Split

namespace ArchSim.Pipe
open ArchSim ArchSim.Rv ArchSim.Lemmas.C02Split

/-- `l'` is `l` after a stage: same instruction, same address (or a bubble). -/
def SameAddr (l l' : Option Latch) : Prop :=
  ∀ x', l' = some x' → ∃ x, l = some x ∧ x'.addr = x.addr ∧ x'.instr = x.instr

theorem SameAddr.refl (l : Option Latch) : SameAddr l l := fun x hx => ⟨x, hx, rfl, rfl⟩
theorem SameAddr.none (l : Option Latch) : SameAddr l none := fun x hx => by cases hx

theorem sameAddr_setFlag (l : Option Latch) : SameAddr l (setFlag l) := by
  cases l with
  | none => exact SameAddr.none _
  | some x => intro x' hx'; cases hx'; exact ⟨x, rfl, rfl, rfl⟩

theorem sameAddr_idStage (hz : Bool) (regs : Nat → Nat) (inp l1 l2 : Option Latch) :
    SameAddr inp (idStage hz regs inp l1 l2) := by
  cases inp with
  | none => exact .none _
  | some f => intro x hx; cases hx; exact ⟨f, rfl, rfl, rfl⟩

theorem sameAddr_exStage (s : St) (inp l2 l3 : Option Latch) : SameAddr inp (exStage s inp l2 l3).latch := by
  cases inp with
  | none => exact .none _
  | some d => exact fun x hx => ⟨d, rfl, exStage_latch_origin s d l2 l3 x hx⟩

theorem sameAddr_memStage (s : St) (inp : Option Latch) : SameAddr inp (memStage s inp).latch := by
  cases inp with
  | none => exact .none _
  | some e =>
    intro x hx
    cases hma : memoryAccess e.instr e.result e.rr.d2 s.mem true with
    | none => rw [memStage_assert s e hma] at hx; cases hx
    | some o =>
      cases hres : o.res with
      | error err => rw [memStage_error s e o err hma hres] at hx; cases hx
      | ok rd => rw [memStage_some s e o rd hma hres] at hx; cases hx; exact ⟨e, rfl, rfl, rfl⟩

theorem sameAddr_wbStage (s : St) (inp : Option Latch) : SameAddr inp (wbStage s inp).2 := by
  cases inp with
  | none => exact .none _
  | some m => intro x hx; rw [wbStage_some] at hx; cases hx; exact ⟨m, rfl, rfl, rfl⟩

end ArchSim.Pipe
