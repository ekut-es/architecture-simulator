/-
Operand tokens in any spelling, with blanks in front — register, number, separator, label, variable name with optional
index — written as texts `tReg … tVar` that end in the rest of the line, and what each operand scanner makes of them:
success on the right kind, failure on the wrong kind. A register name is also a label, so what holds of `tLab` and
`tVar` holds of `tReg`.
-/
import ArchSim.Lemmas.C04SpellLine

namespace ArchSim.Lemmas.C04Spell
open ArchSim ArchSim.PP ArchSim.Rv ArchSim.Asm ArchSim.Lemmas.C14

/-- blanks, a register in some spelling, the rest -/
def tReg (w : List Char) (st : RegStyle) (n : Nat) (rest : List Char) : List Char := w ++ (regSp st n ++ rest)
/-- blanks, a number in some spelling, the rest -/
def tNum (w : List Char) (st : NumStyle) (v : Int) (rest : List Char) : List Char := w ++ (numSp st v ++ rest)
/-- blanks, a separator character, the rest -/
def tSep (w : List Char) (c : Char) (rest : List Char) : List Char := w ++ c :: rest

theorem tokEnd_allWs (tr : List Char) (h : AllWs tr) : TokEnd tr := by
  have := tokEnd_ws_append tr [] h tokEnd_nil
  simpa using this

theorem tokEnd_tSep (w : List Char) (c : Char) (rest : List Char) (hw : AllWs w) (hc : isLabelBody c = false) :
    TokEnd (tSep w c rest) := tokEnd_ws_append w _ hw (tokEnd_cons c rest hc)

theorem comma_nlb : isLabelBody ',' = false := by decide
theorem lparen_nlb : isLabelBody '(' = false := by decide
theorem rparen_nlb : isLabelBody ')' = false := by decide

theorem pReg_tReg (w : List Char) (st : RegStyle) (n : Nat) (rest : List Char) (hw : AllWs w) (hn : n < 32)
    (hr : TokEnd rest) : pReg (tReg w st n rest) = .ok n rest :=
  pReg_sp st n hn w rest hw hr.notDigit

theorem pImm_tNum (w : List Char) (st : NumStyle) (v : Int) (rest : List Char) (hw : AllWs w)
    (hv : NumFits st v) (hr : TokEnd rest) : pImm (tNum w st v rest) = .ok v rest :=
  pImm_numSp st v w rest hw hv hr

theorem lit_tSep (s : String) (c : Char) (hs : s.toList = [c]) (hc : isWs c = false) (w rest : List Char)
    (hw : AllWs w) : lit s (tSep w c rest) = .ok () rest := by
  simp only [tSep, lit, skipWs_append w _ hw, skipWs_cons_of_not_ws c rest hc, hs, stripPrefix, if_true]

theorem pComma_tSep (w rest : List Char) (hw : AllWs w) : pComma (tSep w ',' rest) = .ok () rest :=
  lit_tSep "," ',' rfl (by decide) w rest hw

theorem lparen_tSep (w rest : List Char) (hw : AllWs w) : lit "(" (tSep w '(' rest) = .ok () rest :=
  lit_tSep "(" '(' rfl (by decide) w rest hw

theorem rparen_tSep (w rest : List Char) (hw : AllWs w) : lit ")" (tSep w ')' rest) = .ok () rest :=
  lit_tSep ")" ')' rfl (by decide) w rest hw

theorem regSp_head (st : RegStyle) (n : Nat) (hn : n < 32) :
    ∃ c tl, regSp st n = c :: tl ∧ c ∈ lowList := by
  have habi := abi_head_table (abiOf n) (abiOf_syms n hn)
  cases st with
  | x => exact ⟨'x', _, rfl, isLow_mem 'x' (by decide)⟩
  | abi => exact habi
  | fp =>
    simp only [regSp]
    split
    · exact abi_head_table "fp" (List.mem_map.mpr ⟨_, fp_mem, rfl⟩)
    · exact habi

theorem signTxt_zero_head (neg : Bool) (r : List Char) :
    ∃ c tl, signTxt neg ++ '0' :: r = c :: tl ∧ (c = '-' ∨ isNum c = true) := by
  cases neg with
  | true => exact ⟨'-', '0' :: r, rfl, Or.inl rfl⟩
  | false => exact ⟨'0', r, rfl, Or.inr (by decide)⟩

theorem numSp_head (st : NumStyle) (v : Int) : ∃ c tl, numSp st v = c :: tl ∧ (c = '-' ∨ isNum c = true) := by
  cases st with
  | dec => exact decTxt_cons v
  | hex z up => exact signTxt_zero_head _ _
  | bin z => exact signTxt_zero_head _ _

theorem pImm_fail_head (c : Char) (t : Inp) (h1 : c ≠ '-') (h2 : isNum c = false) (h3 : isWs c = false) :
    pImm (c :: t) = .fail := by
  have h0 : ('0' : Char) ≠ c := by rintro rfl; exact absurd h2 (by decide)
  rw [pImm, pImmText_eq, skipWs_cons_of_not_ws c t h3, signSplitS_other c t h1]
  simp [immBody, litAdj, stripPrefix, wordAdj, h2, h0]

theorem low_operand_facts : ∀ c ∈ lowList, c ≠ '-' ∧ isNum c = false ∧ isWs c = false ∧ c ≠ ':' := by decide +kernel

theorem pReg_fail_tNum (w : List Char) (st : NumStyle) (v : Int) (rest : List Char) (hw : AllWs w) :
    pReg (tNum w st v rest) = .fail := by
  obtain ⟨c, tl, hc, hd⟩ := numSp_head st v
  have := isNum_not_regInit c hd
  rw [tNum, pReg_ws w _ hw, hc]
  exact pReg_fail_head c _ this.1 this.2

theorem pLabel_fail_tNum (w : List Char) (st : NumStyle) (v : Int) (rest : List Char) (hw : AllWs w) :
    pLabel (tNum w st v rest) = .fail := by
  obtain ⟨c, tl, hc, hd⟩ := numSp_head st v
  have hws := (isNum_not_regInit c hd).1
  have hli : isLabelInit c = false := by
    rcases hd with rfl | hd
    · decide
    · exact (isNum_facts c hd).2.2.2.2.1
  rw [tNum, pLabel_ws w _ hw, hc]
  simp [pLabel, word, skipWs_cons_of_not_ws c _ hws, wordAdj, hli]

theorem pVariable_fail_tNum (w : List Char) (st : NumStyle) (v : Int) (rest : List Char) (hw : AllWs w) :
    pVariable (tNum w st v rest) = .fail := by
  simp [pVariable, pLabel_fail_tNum w st v rest hw]

theorem regTxt_labelBody (n : Nat) (hn : n < 32) : ∀ c ∈ (toString n).toList, isLabelBody c = true := by
  intro c hc
  have := (reg_table n hn).2.1 c hc
  simp [isLabelBody, isAlnum, this]

theorem regSp_labelBody (st : RegStyle) (n : Nat) (hn : n < 32) : ∀ c ∈ regSp st n, isLabelBody c = true := by
  have habi : ∀ c ∈ (abiOf n).toList, isLabelBody c = true :=
    fun c hc => ((abi_sym_table _ (abiOf_syms n hn)).2.2 c hc).1
  cases st with
  | x =>
    intro c hc
    rcases List.mem_cons.mp hc with rfl | hc
    · decide
    · exact regTxt_labelBody n hn c hc
  | abi => exact habi
  | fp =>
    simp only [regSp]
    split
    · decide
    · exact habi

/-! ### labels and variable names -/

/-- a label: a letter or `_`, then letters, digits, `_` -/
def IsLabel (lab : List Char) : Prop :=
  ∃ c cs, lab = c :: cs ∧ isLabelInit c = true ∧ ∀ d ∈ cs, isLabelBody d = true

theorem labelInit_body (c : Char) (h : isLabelInit c = true) : isLabelBody c = true := by
  simp only [isLabelInit, Bool.or_eq_true, decide_eq_true_eq] at h
  simp only [isLabelBody, isAlnum, Bool.or_eq_true, decide_eq_true_eq]
  rcases h with h | h
  · exact Or.inl (Or.inl h)
  · exact Or.inr h

theorem labelInit_table : ∀ n < 128, isLabelInit (Char.ofNat n) = true →
    isWs (Char.ofNat n) = false ∧ Char.ofNat n ≠ '.' ∧ Char.ofNat n ≠ '-' ∧ isNum (Char.ofNat n) = false := by
  decide +kernel

theorem labelInit_facts (c : Char) (h : isLabelInit c = true) : isWs c = false ∧ c ≠ '.' ∧ c ≠ '-' ∧ isNum c = false :=
  ascii_cases (fun c => isLabelInit c = true → isWs c = false ∧ c ≠ '.' ∧ c ≠ '-' ∧ isNum c = false) c
    (labelBody_ascii c (labelInit_body c h)) labelInit_table h

/-- blanks, a label, the rest -/
def tLab (w lab rest : List Char) : List Char := w ++ (lab ++ rest)

theorem pLabel_tLab (w lab rest : List Char) (hw : AllWs w) (hl : IsLabel lab) (hr : TokEnd rest) :
    pLabel (tLab w lab rest) = .ok (String.ofList lab) rest := by
  obtain ⟨c, cs, rfl, hc, hcs⟩ := hl
  rw [tLab, pLabel_ws w _ hw]
  exact pLabel_word c cs rest (labelInit_facts c hc).1 hc hcs hr

theorem pImm_fail_tLab (w lab rest : List Char) (hw : AllWs w) (hl : IsLabel lab) :
    pImm (tLab w lab rest) = .fail := by
  obtain ⟨c, cs, rfl, hc, hcs⟩ := hl
  obtain ⟨h1, -, h2, h3⟩ := labelInit_facts c hc
  rw [tLab, pImm_ws w _ hw]
  exact pImm_fail_head c _ h2 h3 h1

theorem litAdj_bracket_fail (rest : Inp) (hb : rest.head? ≠ some '[') : litAdj "[" rest = .fail := by
  simp only [litAdj, show ("[" : String).toList = ['['] from rfl]
  cases rest with
  | nil => rfl
  | cons e r =>
    have : e ≠ '[' := by simpa using hb
    simp [stripPrefix, Ne.symm this]

/-- the optional index of a variable operand: nothing, or `[<decimal digits>]` (no blanks, no sign, no radix
    prefix: `Combine("[" + Word(nums) + "]")` with `int(text, 10)`) -/
inductive IdxSp where
  | none
  | some (ds : List Char)

def idxTxt : IdxSp → List Char
  | .none => []
  | .some ds => '[' :: (ds ++ [']'])

def idxVal : IdxSp → Option Int
  | .none => none
  | .some ds => some ((digitsVal 10 ds : Nat) : Int)

def IdxOk : IdxSp → Prop
  | .none => True
  | .some ds => (∀ c ∈ ds, isNum c = true) ∧ ds ≠ [] ∧ ds.length ≤ 4300

/-- blanks, a variable name, its optional index, the rest -/
def tVar (w name : List Char) (ix : IdxSp) (rest : List Char) : List Char := w ++ (name ++ (idxTxt ix ++ rest))

theorem tVar_eq_tLab (w name : List Char) (ix : IdxSp) (rest : List Char) :
    tVar w name ix rest = tLab w name (idxTxt ix ++ rest) := rfl

theorem tokEnd_idxTxt (ix : IdxSp) (rest : List Char) (hr : TokEnd rest) : TokEnd (idxTxt ix ++ rest) := by
  cases ix with
  | none => exact hr
  | some ds => exact tokEnd_cons '[' _ (by decide)

theorem pVariable_tVar (w name : List Char) (ix : IdxSp) (rest : List Char) (hw : AllWs w) (hl : IsLabel name)
    (hi : IdxOk ix) (hr : TokEnd rest) (hb : rest.head? ≠ some '[') :
    pVariable (tVar w name ix rest) = .ok (String.ofList name, idxVal ix) rest := by
  have h1 : pLabel (tVar w name ix rest) = .ok (String.ofList name) (idxTxt ix ++ rest) :=
    pLabel_tLab w name _ hw hl (tokEnd_idxTxt ix rest hr)
  cases ix with
  | none =>
    simp only [pVariable, h1, bind_ok, idxTxt, List.nil_append, litAdj_bracket_fail rest hb, bind_fail, idxVal]
  | some ds =>
    obtain ⟨hds, hne, hlen⟩ := hi
    have hend : ∀ e ∈ (']' :: rest).head?, isNum e = false := by simp; decide
    have e : idxTxt (.some ds) ++ rest = '[' :: (ds ++ ']' :: rest) := by
      simp [idxTxt, List.append_assoc]
    simp only [pVariable, h1, bind_ok, e, litAdj, show ("[" : String).toList = ['['] from rfl, stripPrefix,
      if_true, wordAdj_run isNum ds _ hne hds hend, pyIntDec_digits ds hds hne hlen,
      show ("]" : String).toList = [']'] from rfl, map_ok, idxVal]

/-! ### a register name is also a label -/

theorem low_labelInit : ∀ c ∈ lowList, isLabelInit c = true := by decide +kernel

theorem isLabel_regSp (st : RegStyle) (n : Nat) (hn : n < 32) : IsLabel (regSp st n) := by
  obtain ⟨c, tl, hc, hl⟩ := regSp_head st n hn
  have hbody := regSp_labelBody st n hn
  rw [hc] at hbody ⊢
  exact ⟨c, tl, rfl, low_labelInit c hl, fun d hd => hbody d (by simp [hd])⟩

theorem pImm_fail_tReg (w : List Char) (st : RegStyle) (n : Nat) (rest : List Char) (hw : AllWs w) (hn : n < 32) :
    pImm (tReg w st n rest) = .fail :=
  pImm_fail_tLab w _ rest hw (isLabel_regSp st n hn)

theorem pVariable_tReg (w : List Char) (st : RegStyle) (n : Nat) (rest : List Char) (hw : AllWs w) (hn : n < 32)
    (hr : TokEnd rest) (hb : rest.head? ≠ some '[') :
    pVariable (tReg w st n rest) = .ok (String.ofList (regSp st n), none) rest :=
  pVariable_tVar w _ .none rest hw (isLabel_regSp st n hn) trivial hr hb

theorem tSep_head_ne (w : List Char) (c d : Char) (r : List Char) (hw : AllWs w) (hc : c ≠ d) (hd : isWs d = false) :
    (tSep w c r).head? ≠ some d := by
  cases w with
  | nil => simpa [tSep] using hc
  | cons e w =>
    have := hw e (by simp)
    simp only [tSep, List.cons_append, List.head?_cons, ne_eq, Option.some.injEq]
    rintro rfl
    rw [hd] at this; cases this

end ArchSim.Lemmas.C04Spell

namespace ArchSim.Lemmas.C14
open ArchSim ArchSim.PP ArchSim.Rv ArchSim.Asm ArchSim.Lemmas.C04Spell

theorem pReg_fail_decTxt_nil (v : Int) : pReg (decTxt v) = .fail := by
  have := pReg_fail_tNum [] .dec v [] allWs_nil
  simpa [tNum, numSp] using this

end ArchSim.Lemmas.C14
