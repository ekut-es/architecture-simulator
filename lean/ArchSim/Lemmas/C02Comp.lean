/-
Facts about the completion functions `cWB`, `cMEM`, `cEX`, `cID` and `Comp.bind`: their values in
the simple cases, that they respect observational equality, and what they leave alone.
-/
import ArchSim.Lemmas.C02Stage

namespace ArchSim.Pipe
open ArchSim ArchSim.Rv ArchSim.Lemmas.C02Split

@[simp] theorem orElseFl_none_left (b : Option Int) : orElseFl none b = b := rfl
@[simp] theorem orElseFl_none_right (a : Option Int) : orElseFl a none = a := by cases a <;> rfl
@[simp] theorem orElseFl_some (x : Int) (b : Option Int) : orElseFl (some x) b = some x := rfl
theorem firstFlush_eq (w m x : Option Int) : firstFlush w m x = orElseFl w (orElseFl m x) := rfl

@[simp] theorem prefixLog_nil (c : Comp) : c.prefixLog [] = c := rfl
@[simp] theorem prefixLog_st (c : Comp) (L : List Int) : (c.prefixLog L).st = c.st := rfl
@[simp] theorem prefixLog_red (c : Comp) (L : List Int) : (c.prefixLog L).red = c.red := rfl
theorem CSimL_prefixLog (c : Comp) (L : List Int) : CSimL L c (c.prefixLog L) := ⟨rfl, Sim.rfl' _, rfl⟩

@[simp] theorem finishC_none (s : St) : finishC s none = pureC s := rfl
@[simp] theorem cWB_none (s : St) (fl : Option Int) : cWB s none fl = finishC s fl := by cases fl <;> rfl
@[simp] theorem cMEM_none (s : St) (fl : Option Int) : cMEM s none fl = finishC s fl := by
  show cWB s none (orElseFl none fl) = _
  exact cWB_none s fl
@[simp] theorem cEX_none (s : St) : cEX s none = pureC s := rfl
@[simp] theorem cID_none (s : St) : cID s none = pureC s := rfl

@[simp] theorem bind_pure (s : St) (f : St → Comp) : Comp.bind (pureC s) f = f s := rfl
@[simp] theorem bind_logged (s : St) (L : List Int) (f : St → Comp) :
    Comp.bind ⟨s, none, L⟩ f = (f s).prefixLog L := rfl
@[simp] theorem bind_pure_right' (c : Comp) : c.bind pureC = c := by
  obtain ⟨s, r, l⟩ := c; cases r
  · simp [Comp.bind, pureC]
  · rfl

theorem bind_of_red_none {c : Comp} (h : c.red = none) (f : St → Comp) :
    c.bind f = (f c.st).prefixLog c.log := by
  unfold Comp.bind; rw [h]; rfl

theorem bind_of_red_some {c : Comp} {a : Int × Option Fault} (h : c.red = some a) (f : St → Comp) : c.bind f = c := by
  unfold Comp.bind; rw [h]

theorem pcOr_of_red {c : Comp} {b : Int × Option Fault} (h : c.red = some b) (x : Int) : c.pcOr x = b.1 := by
  unfold Comp.pcOr; rw [h]
theorem pcOr_of_none {c : Comp} (h : c.red = none) (x : Int) : c.pcOr x = x := by
  unfold Comp.pcOr; rw [h]

theorem flt_congr {c d : Comp} (h : c.red = d.red) : c.flt = d.flt := by unfold Comp.flt; rw [h]
@[simp] theorem finishC_flt (s : St) (fl : Option Int) : (finishC s fl).flt = none := by cases fl <;> rfl
@[simp] theorem cWB_flt (s : St) (l : Option Latch) (fl : Option Int) : (cWB s l fl).flt = none := by
  unfold cWB; exact finishC_flt (wbStage s l).1 _

@[simp] theorem cWB_log (s : St) (l : Option Latch) (fl : Option Int) : (cWB s l fl).log = latchLog l := rfl

@[simp] theorem finishC_st (s : St) (fl : Option Int) : (finishC s fl).st = s := by cases fl <;> rfl
@[simp] theorem cWB_st (s : St) (l : Option Latch) (fl : Option Int) : (cWB s l fl).st = (wbStage s l).1 :=
  finishC_st _ _

theorem cWB_noexit (s : St) (l : Option Latch) (h : latchExit l = false) :
    cWB s l none = ⟨(wbStage s l).1, none, latchLog l⟩ := by
  unfold cWB
  have := wbStage_flush_isSome s l
  rw [h] at this
  cases hf : latchFlush (wbStage s l).2 with
  | none => rfl
  | some a => rw [hf] at this; cases this

theorem cWB_some_red (s : St) (l : Option Latch) (a : Int) : ∃ b, (cWB s l (some a)).red = some b := by
  unfold cWB
  cases latchFlush (wbStage s l).2 with
  | none => exact ⟨_, rfl⟩
  | some b => exact ⟨_, rfl⟩

theorem cMEM_nofault (s : St) (e : Option Latch) (fl : Option Int) (h : (memStage s e).fault = none) :
    cMEM s e fl =
      cWB (memStage s e).st (memStage s e).latch (orElseFl (latchFlush (memStage s e).latch) fl) := by
  unfold cMEM; rw [h]

theorem cEX_nofault (s : St) (d : Option Latch) (h : (exStage s d none none).fault = none) :
    cEX s d =
      cMEM (exStage s d none none).st (exStage s d none none).latch
        (latchFlush (exStage s d none none).latch) := by
  unfold cEX; rw [h]

theorem cMEM_exit (s : St) (e : Latch) (hop : e.instr.op = .ecall) (hx : e.exitCode.isSome = true)
    (fl fl' : Option Int) :
    cMEM s (some e) fl = cMEM s (some e) fl' ∧ ∃ b, (cMEM s (some e) fl).red = some b := by
  cases hf : (memStage s (some e)).fault with
  | some f => unfold cMEM; rw [hf]; exact ⟨rfl, _, rfl⟩
  | none =>
    obtain ⟨rd, hm⟩ := memStage_ok_latch s e hf
    rw [cMEM_nofault _ _ fl hf, cMEM_nofault _ _ fl' hf, hm]
    simp only [latchFlush_some, memLatch, memFlush_exit e hop hx, orElseFl_some]
    exact ⟨trivial, cWB_some_red _ _ _⟩

theorem cEX_ignores_marks (s : St) (d : Latch) (b c : Bool) :
    cEX s (some { d with flagged := b, stall := c }) = cEX s (some d) := by
  unfold cEX; rw [exStage_ignores_marks]

theorem cEX_setFlag (s : St) (l : Option Latch) : cEX s (setFlag l) = cEX s l := by
  cases l with
  | none => rfl
  | some d => exact cEX_ignores_marks s d true d.stall

theorem cID_setFlag (s : St) (l : Option Latch) : cID s (setFlag l) = cID s l := by
  cases l with
  | none => rfl
  | some d => rfl

theorem cEX_idStage (s : St) (hz : Bool) (regs : Nat → Nat) (f : Latch) (a b : Option Latch)
    (h : accessRegs f.instr regs = accessRegs f.instr s.regs) :
    cEX s (idStage hz regs (some f) a b) = cID s (some f) := by
  unfold cID
  rw [idStage_some, idStage_some]; unfold idLatch; rw [h]
  exact cEX_ignores_marks s
    { instr := f.instr, addr := f.addr, pc4 := f.pc4, rr := accessRegs f.instr s.regs,
      wreg := writeReg f.instr, stall := idStall false (accessRegs f.instr s.regs) none none }
    false (idStall hz (accessRegs f.instr s.regs) a b)

/-- EX advance of an instruction that is not an ECALL: the new EX/MEM latch does not depend on the
    state, so completing it from MEM is completing the ID/EX latch from EX. -/
theorem cEX_eq_cMEM_nonecall (s' : St) (d : Latch) (l2 l3 : Option Latch) (hop : d.instr.op ≠ .ecall)
    (hf : (exStage s' (some d) l2 l3).fault = none) (s : St) :
    cEX s (some d) = cMEM s (exStage s' (some d) l2 l3).latch none := by
  rw [exStage_nonEcall_alu s' d l2 l3 hop] at hf ⊢
  have h0 : exStage s (some d) none none = _ := exStage_nonEcall_alu s d none none hop
  cases hal : aluCompute d.instr (aluIn1 d) (aluIn2 d) with
  | none => rw [hal] at hf; cases hf
  | some cr =>
    obtain ⟨c, r⟩ := cr
    rw [hal] at h0
    have hf0 : (exStage s (some d) none none).fault = none := by rw [h0]
    rw [cEX_nofault _ _ hf0, h0]
    rfl

/-! ### The abstraction as a chain of completions -/

theorem older_of_empty (p : PSt) (hm : memInput p = none) (h3 : p.l3 = none) : older p = pureC p.st := by
  unfold older; rw [hm, h3]; rfl

theorem memInput_none_of_l2 (p : PSt) (h : p.l2 = none) : memInput p = none := by
  unfold memInput; split
  · exact h
  · split <;> simp [h]

theorem absC_empty (p : PSt) (h0 : p.l0 = none) (h1 : p.l1 = none) (h2 : p.l2 = none) (h3 : p.l3 = none)
    (hs : p.stalled = none) : absC p = pureC p.st := by
  simp [absC, memInput, exInput, idInput, ifEntry, hs, h0, h1, h2, h3]

/-! ### Completions respect observational equality -/

theorem finishC_sim {s t : St} (h : Sim s t) (fl : Option Int) : CSim (finishC s fl) (finishC t fl) := by
  cases fl <;> exact ⟨rfl, h, rfl⟩

theorem cWB_sim {s t : St} (h : Sim s t) (m : Option Latch) (fl : Option Int) :
    CSim (cWB s m fl) (cWB t m fl) := by
  unfold cWB
  obtain ⟨h1, h2⟩ := wbStage_sim h m
  rw [h2]
  exact ⟨(finishC_sim h1 _).1, (finishC_sim h1 _).2, rfl⟩

theorem cMEM_sim {s t : St} (h : Sim s t) (e : Option Latch) (fl : Option Int) :
    CSim (cMEM s e fl) (cMEM t e fl) := by
  unfold cMEM
  obtain ⟨h1, h2, h3⟩ := memStage_sim h e
  rw [h2, h3]
  split
  · exact ⟨rfl, h, rfl⟩
  · exact cWB_sim h1 _ _

theorem cEX_sim {s t : St} (h : Sim s t) (d : Option Latch) : CSim (cEX s d) (cEX t d) := by
  unfold cEX
  obtain ⟨h1, h2, h3⟩ := exStage_sim h d none none
  rw [h2, h3]
  split
  · exact ⟨rfl, h, rfl⟩
  · exact cMEM_sim h1 _ _

theorem cID_sim {s t : St} (h : Sim s t) (f : Option Latch) : CSim (cID s f) (cID t f) := by
  unfold cID; rw [h.regs]; exact cEX_sim h _

/-- "Live": the first computation neither redirects nor is stuck (`d.red = none`), the only case in which `bind`
    runs the continuation, so the continuations need to be related in that case only. -/
theorem bind_sim_live {pre : List Int} {c d : Comp} {f g : St → Comp} (h : CSimL pre c d)
    (hfg : d.red = none → CSim (f c.st) (g d.st)) : CSimL pre (c.bind f) (d.bind g) := by
  unfold Comp.bind
  obtain ⟨hr, hs, hl⟩ := h
  rw [hr]
  cases hd : d.red with
  | none =>
    have := hfg hd
    exact ⟨this.1, this.2, by rw [← List.append_assoc, hl, ← this.3]; rfl⟩
  | some a => exact ⟨hr, hs, hl⟩

theorem bind_sim {pre : List Int} {c d : Comp} {f g : St → Comp} (h : CSimL pre c d)
    (hfg : ∀ s t, Sim s t → CSim (f s) (g t)) : CSimL pre (c.bind f) (d.bind g) :=
  bind_sim_live h (fun _ => hfg _ _ h.2)

/-! ### Registers: a completion changes at most the write register of its latch -/

theorem cMEM_regs_frame (s : St) (e : Option Latch) (fl : Option Int) (r : Nat) (h : ¬ writes e r) :
    (cMEM s e fl).st.regs r = s.regs r := by
  cases hf : (memStage s e).fault with
  | some f => unfold cMEM; rw [hf]; rfl
  | none =>
    rw [cMEM_nofault s e fl hf, cWB_st, wbStage_regs_frame _ _ r (writes_memStage s e r hf h), memStage_regs]

theorem cEX_regs_frame (s : St) (d : Option Latch) (r : Nat) (h : ¬ writes d r) :
    (cEX s d).st.regs r = s.regs r := by
  cases hf : (exStage s d none none).fault with
  | some f => unfold cEX; rw [hf]; rfl
  | none =>
    rw [cEX_nofault s d hf, cMEM_regs_frame _ _ _ r (writes_exStage s d none none r hf h), exStage_regs]

/-! ### What holds between a state and every completion from it
A relation that is reflexive, transitive and holds across each of the three stage functions holds
between a state and its completions (a stuck completion keeps the state). -/

theorem bind_rel {R : St → St → Prop} (hr : ∀ s, R s s) (c : Comp) (f : St → Comp)
    (h : ∀ s, R s (f s).st) : R c.st (c.bind f).st := by
  unfold Comp.bind
  cases c.red with
  | none => exact h _
  | some a => exact hr _

section
variable {R : St → St → Prop} (hr : ∀ s, R s s) (ht : ∀ {s t u}, R s t → R t u → R s u)
  (hwb : ∀ s l, R s (wbStage s l).1) (hmem : ∀ s l, R s (memStage s l).st)
  (hex : ∀ s d, R s (exStage s d none none).st)
include hr ht hwb hmem hex

omit hex in
theorem cMEM_rel (s : St) (e : Option Latch) (fl : Option Int) : R s (cMEM s e fl).st := by
  unfold cMEM; split
  · exact hr s
  · rw [cWB_st]; exact ht (hmem s e) (hwb _ _)

theorem cEX_rel (s : St) (d : Option Latch) : R s (cEX s d).st := by
  unfold cEX; split
  · exact hr s
  · exact ht (hex s d) (cMEM_rel hr ht hwb hmem _ _ _)

theorem absC_rel (p : PSt) : R p.st (absC p).st := by
  have h1 : R p.st (cWB p.st p.l3 none).st := by rw [cWB_st]; exact hwb _ _
  unfold absC
  exact ht (ht (ht (ht h1 (bind_rel hr _ _ fun s => cMEM_rel hr ht hwb hmem s _ _))
    (bind_rel hr _ _ fun s => cEX_rel hr ht hwb hmem hex s _))
    (bind_rel hr _ _ fun s => cEX_rel hr ht hwb hmem hex s _))
    (bind_rel hr _ _ fun s => cEX_rel hr ht hwb hmem hex s _)

end

theorem cID_imem (s : St) (f : Option Latch) : (cID s f).st.imem = s.imem :=
  cEX_rel (R := fun s t => t.imem = s.imem) (fun _ => rfl) (fun h g => g.trans h) wbStage_imem memStage_imem
    (fun s d => exStage_imem s d none none) s _

@[simp] theorem abs_imem (p : PSt) : (abs p).imem = p.st.imem :=
  absC_rel (R := fun s t => t.imem = s.imem) (fun _ => rfl) (fun h g => g.trans h) wbStage_imem memStage_imem
    (fun s d => exStage_imem s d none none) p

theorem abs_instrs_ge (p : PSt) : p.st.instrs ≤ (abs p).instrs :=
  absC_rel (R := fun s t => s.instrs ≤ t.instrs) (fun _ => Nat.le_refl _) Nat.le_trans
    (fun s l => by rw [wbStage_instrs]; exact Nat.le_add_right _ _)
    (fun s l => Nat.le_of_eq (memStage_instrs s l).symm)
    (fun s d => Nat.le_of_eq (exStage_instrs s d none none).symm) p

theorem cEX_instrs_le (s : St) (d : Option Latch) : (cEX s d).st.instrs ≤ s.instrs + 1 := by
  unfold cEX; split
  · exact Nat.le_succ _
  · unfold cMEM; split
    · show (exStage s d none none).st.instrs ≤ _
      rw [exStage_instrs]; exact Nat.le_succ _
    · rw [cWB_st, wbStage_instrs, memStage_instrs, exStage_instrs]; split <;> omega

/-! ### The exit code of a completion that is still live -/

theorem cWB_exitCode (s : St) (l : Option Latch) (fl : Option Int) (h : (cWB s l fl).red = none) :
    (cWB s l fl).st.exitCode = s.exitCode := by
  -- the latch in WB raised no flush, hence is no exit
  unfold cWB at h ⊢
  rw [finishC_st]
  apply wbStage_exitCode_noexit
  rw [← wbStage_flush_isSome s l]
  cases hf : latchFlush (wbStage s l).2 with
  | none => rfl
  | some a => rw [hf] at h; simp [finishC] at h

theorem cMEM_exitCode (s : St) (e : Option Latch) (fl : Option Int) (h : (cMEM s e fl).red = none) :
    (cMEM s e fl).st.exitCode = s.exitCode := by
  cases hf : (memStage s e).fault with
  | some ft => unfold cMEM at h; rw [hf] at h; cases h
  | none =>
    rw [cMEM_nofault _ _ _ hf] at h ⊢
    rw [cWB_exitCode _ _ _ h, memStage_exitCode]

theorem cEX_exitCode (s : St) (d : Option Latch) (h : (cEX s d).red = none) :
    (cEX s d).st.exitCode = s.exitCode := by
  cases hf : (exStage s d none none).fault with
  | some ft => unfold cEX at h; rw [hf] at h; cases h
  | none =>
    rw [cEX_nofault _ _ hf] at h ⊢
    rw [cMEM_exitCode _ _ _ h, exStage_exitCode]

theorem bind_exitCode {c : Comp} {f : St → Comp} {x : Option Int}
    (hc : c.red = none → c.st.exitCode = x)
    (hf : ∀ s, (f s).red = none → (f s).st.exitCode = s.exitCode) :
    (c.bind f).red = none → (c.bind f).st.exitCode = x := by
  intro h
  cases hr : c.red with
  | none => rw [bind_of_red_none hr] at h ⊢; exact (hf c.st h).trans (hc hr)
  | some a => rw [bind_of_red_some hr, hr] at h; cases h

theorem abs_exitCode (p : PSt) (h : (absC p).red = none) : (abs p).exitCode = p.st.exitCode := by
  show (absC p).st.exitCode = _
  unfold absC at h ⊢
  exact bind_exitCode (bind_exitCode (bind_exitCode (bind_exitCode (cWB_exitCode _ _ _) (fun s => cMEM_exitCode s _ _))
    (fun s => cEX_exitCode s _)) (fun s => cEX_exitCode s _)) (fun s => cEX_exitCode s _) h

end ArchSim.Pipe
