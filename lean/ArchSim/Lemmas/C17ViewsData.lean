/-
The memory tables before they are rendered: `Views.sortedEntries m bits` is `Mem.reprEntries m bits` sorted by
address.  Its addresses are strictly ascending and are exactly the table keys (a strictly ascending list is determined
by its members), and each entry carries what `Mem.read` returns there.
-/
import ArchSim.Model.Views
import ArchSim.Lemmas.C18Repr

namespace ArchSim.Lemmas.C17Views
open ArchSim ArchSim.Mem ArchSim.Views ArchSim.Spec.ByteStore ArchSim.Lemmas.C18

theorem addrLe_iff (p q : Int × Nat) : addrLe p q = true ↔ p.1 ≤ q.1 := by
  simp [addrLe]

theorem mergeSort_map_fst_perm (l : List (Int × Nat)) :
    ((l.mergeSort addrLe).map Prod.fst).Perm (l.map Prod.fst) :=
  (List.mergeSort_perm l addrLe).map Prod.fst

/-- With distinct addresses the sorted addresses are strictly ascending: the merge sort by a total
preorder yields a non-descending list, and a permutation keeps the addresses distinct. -/
theorem mergeSort_fst_lt (l : List (Int × Nat)) (hn : (l.map Prod.fst).Nodup) :
    ((l.mergeSort addrLe).map Prod.fst).Pairwise (· < ·) := by
  have hle : (l.mergeSort addrLe).Pairwise (fun p q => p.1 ≤ q.1) :=
    (List.pairwise_mergeSort (le := addrLe) (fun a b c h₁ h₂ => by rw [addrLe_iff] at *; omega)
      (fun a b => by rw [Bool.or_eq_true, addrLe_iff, addrLe_iff]; omega) l).imp
      (fun {p q} hpq => (addrLe_iff p q).mp hpq)
  have hn' := (mergeSort_map_fst_perm l).nodup_iff.mpr hn
  exact ((List.pairwise_map.mpr hle).and hn').imp (fun {a b} h => by omega)

theorem sortedEntries_ok {m : Mem} {bits : Nat} {l : List (Int × Nat)}
    (h : sortedEntries m bits = .ok l) :
    ∃ r : List (Int × Nat), l = r.mergeSort addrLe ∧ r.map Prod.fst = reprKeys m bits ∧
      ∀ p, p ∈ r → ∃ v, readN m p.1 (cellsOf m.cfg bits) = .ok v ∧ p.2 = v % 2 ^ bits := by
  unfold sortedEntries at h
  cases hr : reprEntries m bits with
  | error e => rw [hr] at h; cases h
  | ok r => rw [hr] at h; cases h; exact ⟨r, rfl, reprEntries_sound hr⟩

theorem sortedEntries_of_ok {m : Mem} {bits : Nat} {r : List (Int × Nat)}
    (h : reprEntries m bits = .ok r) : sortedEntries m bits = .ok (r.mergeSort addrLe) := by
  unfold sortedEntries; rw [h]

theorem sortedEntries_error_iff (m : Mem) (bits : Nat) (e : AddrErr) :
    sortedEntries m bits = .error e ↔ reprEntries m bits = .error e := by
  fun_cases sortedEntries m bits <;> simp [*]

theorem sortedEntries_perm {m : Mem} {bits : Nat} {l : List (Int × Nat)}
    (h : sortedEntries m bits = .ok l) : (l.map Prod.fst).Perm (reprKeys m bits) := by
  obtain ⟨r, rfl, hk, _⟩ := sortedEntries_ok h
  rw [← hk]; exact mergeSort_map_fst_perm r

theorem sortedEntries_lt {m : Mem} {bits : Nat} {l : List (Int × Nat)}
    (h : sortedEntries m bits = .ok l) : (l.map Prod.fst).Pairwise (· < ·) := by
  obtain ⟨r, rfl, hk, _⟩ := sortedEntries_ok h
  exact mergeSort_fst_lt r (by rw [hk]; exact reprKeysAux_nodup _ _ _ List.nodup_nil)

theorem sortedEntries_mem_fst {m : Mem} {bits : Nat} {l : List (Int × Nat)}
    (h : sortedEntries m bits = .ok l) (a : Int) : a ∈ l.map Prod.fst ↔ a ∈ reprKeys m bits :=
  (sortedEntries_perm h).mem_iff

theorem sortedEntries_val {m : Mem} {bits : Nat} {l : List (Int × Nat)}
    (h : sortedEntries m bits = .ok l) (p : Int × Nat) (hp : p ∈ l) :
    ∃ v, readN m p.1 (cellsOf m.cfg bits) = .ok v ∧ p.2 = v % 2 ^ bits := by
  obtain ⟨r, rfl, _, hv⟩ := sortedEntries_ok h
  exact hv p (List.mem_mergeSort.mp hp)

theorem eq_of_sorted_of_mem_iff (l₁ l₂ : List Int) (h₁ : l₁.Pairwise (· < ·))
    (h₂ : l₂.Pairwise (· < ·)) (h : ∀ a, a ∈ l₁ ↔ a ∈ l₂) : l₁ = l₂ := by
  have n₁ : l₁.Nodup := h₁.imp (fun {a b} hab => by omega)
  have n₂ : l₂.Nodup := h₂.imp (fun {a b} hab => by omega)
  have hp : l₁.Perm l₂ := (List.perm_ext_iff_of_nodup n₁ n₂).mpr h
  exact List.Perm.eq_of_pairwise (le := (· < ·)) (fun a b _ _ hab hba => by omega) h₁ h₂ hp

theorem eq_of_key_eq {α : Type} (f : α → Int) (l : List α) (hp : (l.map f).Pairwise (· < ·))
    (x y : α) (hx : x ∈ l) (hy : y ∈ l) (hxy : f x = f y) : x = y := by
  have h := List.pairwise_map.mp hp
  -- two elements in list order, either way round, have different keys
  exact List.Pairwise.forall_of_forall_of_flip (R := fun x y => f x = f y → x = y) (fun _ _ _ => rfl)
    (h.imp (fun {a b} hab e => by omega)) (h.imp (fun {a b} hab (e : f b = f a) => by omega)) hx hy hxy

theorem sortedEntries_read {m : Mem} {bits : Nat} {l : List (Int × Nat)}
    (h : sortedEntries m bits = .ok l) (hb : m.cfg.cellBits ≤ bits) (p : Int × Nat) (hp : p ∈ l) :
    Mem.read m bits p.1 = some (.ok p.2) ∧ p.2 < 2 ^ bits := by
  obtain ⟨v, hv, hpv⟩ := sortedEntries_val h p hp
  constructor
  · rw [read_of_le m bits p.1 hb, hv, hpv]; rfl
  · rw [hpv]; exact Nat.mod_lt _ (Nat.two_pow_pos bits)

theorem sortedEntries_error {m : Mem} {bits : Nat} {e : AddrErr}
    (h : sortedEntries m bits = .error e) :
    ∃ a, a ∈ reprKeys m bits ∧ readN m a (cellsOf m.cfg bits) = .error e :=
  reprEntries_error ((sortedEntries_error_iff m bits e).mp h)

theorem riscv_reprKeys_ok (m : Mem) (hc : m.cfg = riscvCfg) (hwf : WF m) (a : Int)
    (ha : a ∈ reprKeys m 32) : 16384 ≤ a ∧ a < 4294967296 ∧ a % 4 = 0 := by
  have hk : cellsOf m.cfg 32 = 4 := by rw [hc]; rfl
  obtain ⟨y, hy, rfl⟩ := (reprKeys_mem m 32 a).mp ha
  rw [hk]
  have hyr := hwf.keys_inRange y hy
  rw [hc] at hyr
  simp only [riscv_inRange, Bool.and_eq_true, decide_eq_true_eq] at hyr
  exact ⟨by omega, by omega, by omega⟩

theorem riscv_sortedEntries (m : Mem) (hc : m.cfg = riscvCfg) (hwf : WF m) :
    ∃ l, sortedEntries m 32 = .ok l ∧ ∀ p ∈ l,
      16384 ≤ p.1 ∧ p.1 < 4294967296 ∧ p.1 % 4 = 0 ∧ p.2 < 2 ^ 32 ∧
      p.2 = m.cells p.1 + m.cells (p.1 + 1) * 256 + m.cells (p.1 + 2) * 65536
              + m.cells (p.1 + 3) * 16777216 := by
  refine ⟨_, sortedEntries_of_ok (riscv_reprEntries_wf m hc hwf 32 (by simp)), fun p hp => ?_⟩
  obtain ⟨a, ha, rfl⟩ := List.mem_map.mp (List.mem_mergeSort.mp hp)
  obtain ⟨h1, h2, h3⟩ := riscv_reprKeys_ok m hc hwf a ha
  have hlt : ∀ x, m.cells x < 2 ^ riscvCfg.cellBits := fun x => hc ▸ hwf.cells_lt x
  have hv := leSum_lt riscvCfg 4 (fun i => m.cells (wrapAddr riscvCfg (a + (i : Int)))) (fun _ _ => hlt _)
  refine ⟨h1, h2, h3, hv, ?_⟩
  have hw : ∀ i : Nat, i < 4 → wrapAddr riscvCfg (a + (i : Int)) = a + (i : Int) := by
    intro i hi; rw [riscv_wrap]; omega
  show leSum riscvCfg 4 (fun i => m.cells (wrapAddr riscvCfg (a + (i : Int)))) =
    m.cells a + m.cells (a + 1) * 256 + m.cells (a + 2) * 65536 + m.cells (a + 3) * 16777216
  rw [leSum_four riscvCfg rfl, hw 0 (by decide), hw 1 (by decide), hw 2 (by decide), hw 3 (by decide)]
  simp only [Int.natCast_zero, Int.add_zero, Int.natCast_one]
  rfl

theorem toy_reprKeys_ok (m : Mem) (hc : m.cfg = toyCfg) (a : Int) :
    a ∈ reprKeys m 16 ↔ a ∈ m.keys := by
  have hk : cellsOf m.cfg 16 = 1 := by rw [hc]; rfl
  simp [reprKeys_mem, hk, Int.emod_one]

theorem toy_sortedEntries (m : Mem) (hc : m.cfg = toyCfg) (hwf : WF m) :
    ∃ l, sortedEntries m 16 = .ok l ∧ ∀ p ∈ l,
      p.1 ∈ m.keys ∧ 0 ≤ p.1 ∧ p.1 < 4096 ∧ p.2 < 2 ^ 16 ∧ p.2 = m.cells p.1 := by
  refine ⟨_, sortedEntries_of_ok (toy_reprEntries_wf m hc hwf).2, fun p hp => ?_⟩
  obtain ⟨a, ha, rfl⟩ := List.mem_map.mp (List.mem_mergeSort.mp hp)
  have hr := toy_key_range m hc hwf a ha
  have hlt := hwf.cells_lt a
  rw [hc] at hlt
  exact ⟨ha, hr.1, hr.2, hlt, rfl⟩

end ArchSim.Lemmas.C17Views
