/-
What may stand in front of the mnemonic: behind an in-line label declaration `lab:` what `parseLine` returns is still
determined by what `pInstrBody` makes of the rest of the line, provided the instruction is read at least as far as the
bare label declaration (`hsuf`, given token by token by `suffix_tX`). The pseudo-instruction words `li`, `mv`, `nop`,
`la`: each is a symbol of exactly one row of the grammar table (`la`: row `memP`; its body `bodyP_la` is in
C04SpellVarLine).
-/
import ArchSim.Lemmas.C04SpellEntry

namespace ArchSim.Lemmas.C04Spell
open ArchSim ArchSim.PP ArchSim.Rv ArchSim.Asm ArchSim.Lemmas.C14

/-! ### in-line labels -/

/-- the text in front of the instruction: blanks, label, blanks, colon, blanks -/
def labelPrefix (ws1 lab ws2 ws3 : List Char) (x : List Char) : List Char :=
  ws1 ++ (lab ++ (ws2 ++ ':' :: (ws3 ++ x)))

/-- the token of `lab: x` in terms of what the instruction grammar makes of `x` (`n` = length of the text
    after the colon): the instruction must be read at least as far as the bare label declaration reads -/
def labelledResult (lab : List Char) (n : Nat) (b : R Item) : Option Tok :=
  match b with
  | .ok it r =>
    if n < r.length then none
    else if atEnd r then some { lbl := some (String.ofList lab), item := it } else none
  | _ => none

theorem atEnd_letter (ws3 x : List Char) (h3 : AllWs ws3) (hx : ∀ c ∈ x.head?, c ∈ letterList) (hne : x ≠ []) :
    atEnd (ws3 ++ x) = false := by
  cases x with
  | nil => exact absurd rfl hne
  | cons c r =>
    have hc := letter_facts c (hx c (by simp))
    simp [atEnd, skipWs_append ws3 _ h3, skipWs_cons_of_not_ws c _ hc.notWs]

theorem caseVar_head {w' w : List Char} (hv : CaseVar w' w) (rest : List Char) :
    ∀ c ∈ (w' ++ rest).head?, w' ≠ [] → c ∈ letterList := by
  intro c hc hne
  cases w' with
  | nil => exact absurd rfl hne
  | cons a r =>
    simp only [List.cons_append, List.head?_cons, Option.mem_def, Option.some.injEq] at hc
    subst hc
    exact hv.letters a (by simp)

section
variable (ws1 lab ws2 ws3 : List Char) (h1 : AllWs ws1) (hl : IsLabel lab) (h2 : AllWs ws2) (h3 : AllWs ws3)

include h1 hl h2 in
theorem pLabel_prefix (x : List Char) :
    pLabel (labelPrefix ws1 lab ws2 ws3 x) = .ok (String.ofList lab) (ws2 ++ ':' :: (ws3 ++ x)) :=
  pLabel_tLab ws1 lab _ h1 hl (tokEnd_ws_append ws2 _ h2 (tokEnd_cons ':' _ (by decide)))

include h2 in
theorem pColon_prefix (x : List Char) : pColon (ws2 ++ ':' :: (ws3 ++ x)) = .ok () (ws3 ++ x) := by
  exact lit_tSep ":" ':' rfl (by decide) ws2 _ h2

include h1 hl h2 in
theorem pLabelDecl_prefix (x : List Char) :
    pLabelDecl (labelPrefix ws1 lab ws2 ws3 x) = .ok (String.ofList lab) (ws3 ++ x) := by
  simp only [pLabelDecl, pLabel_prefix ws1 lab ws2 ws3 h1 hl h2 x, bind_ok,
    pColon_prefix ws2 ws3 h2 x, map_ok]

include h1 hl in
theorem pDirective_prefix (x : List Char) : pDirective (labelPrefix ws1 lab ws2 ws3 x) = .fail := by
  obtain ⟨c, cs, rfl, hc, hcs⟩ := hl
  have hf := labelInit_facts c hc
  rw [labelPrefix]
  simp [pDirective, lit, skipWs_append ws1 _ h1, skipWs_cons_of_not_ws c _ hf.1, stripPrefix, Ne.symm hf.2.1]

include h3 in
theorem lit_dot_fail (x : List Char) (hx : ∀ c ∈ x.head?, c ∈ letterList) (hne : x ≠ []) :
    lit "." (ws3 ++ x) = .fail := by
  cases x with
  | nil => exact absurd rfl hne
  | cons c r =>
    have hc := letter_facts c (hx c (by simp))
    simp [lit, skipWs_append ws3 _ h3, skipWs_cons_of_not_ws c _ hc.notWs, stripPrefix, Ne.symm hc.notDot]

include h1 hl h2 h3 in
theorem parseLine_labelled (x : List Char) (hx : ∀ c ∈ x.head?, c ∈ letterList) (hne : x ≠ []) :
    parseLine (labelPrefix ws1 lab ws2 ws3 x) = labelledResult lab (ws3 ++ x).length (pInstrBody x) := by
  have hlab := pLabel_prefix ws1 lab ws2 ws3 h1 hl h2 x
  have hcol := pColon_prefix ws2 ws3 h2 x
  have hdot := lit_dot_fail ws3 h3 x hx hne
  have a1 := pDirective_prefix ws1 lab ws2 ws3 h1 hl x
  have a2 : pVarDecl (labelPrefix ws1 lab ws2 ws3 x) = .fail := by
    simp only [pVarDecl, hlab, bind_ok, hcol, hdot, bind_fail]
  have a3 : pStrDecl (labelPrefix ws1 lab ws2 ws3 x) = .fail := by
    simp only [pStrDecl, hlab, bind_ok, hcol, hdot, bind_fail]
  have a4 : pZeroDecl (labelPrefix ws1 lab ws2 ws3 x) = .fail := by
    simp only [pZeroDecl, hlab, bind_ok, hcol, hdot, bind_fail]
  have a6 := pLabelDecl_prefix ws1 lab ws2 ws3 h1 hl h2 x
  have a5 : pInstruction (labelPrefix ws1 lab ws2 ws3 x)
      = (pInstrBody x).map fun it => { lbl := some (String.ofList lab), item := it } := by
    simp only [pInstruction, opt, a6, bind_ok, pInstrBody_ws ws3 x h3]
  have hend := atEnd_letter ws3 x h3 hx hne
  unfold parseLine
  rw [orLongest_pickOf, pick]
  simp only [List.map_cons, List.map_nil, a1, a2, a3, a4, a5, a6, map_ok]
  cases pInstrBody x with
  | fail =>
    simp only [map_fail, labelledResult, List.any_cons, List.any_nil, isAbort, Bool.or_false, Bool.false_eq_true,
      if_false, List.foldl_cons, List.foldl_nil, orStep, hend]
  | abort => simp only [map_abort, labelledResult, List.any_cons, isAbort, Bool.or_true, Bool.true_or, if_true]
  | ok it r =>
    simp only [map_ok, labelledResult, List.any_cons, List.any_nil, isAbort, Bool.or_false, Bool.false_eq_true,
      if_false, List.foldl_cons, List.foldl_nil, orStep]
    by_cases hlt : (ws3 ++ x).length < r.length
    · simp only [hlt, if_true, hend, Bool.false_eq_true, if_false]
    · simp only [hlt, if_false]

include h1 hl h2 h3 in
theorem parseLine_labelled_cv (m : String) (hm : m ∈ mnWords) (w' rest : List Char) (hv : CaseVar w' m.toList)
    (hr : WordSep rest) :
    parseLine (labelPrefix ws1 lab ws2 ws3 (w' ++ rest))
      = parseLine (labelPrefix ws1 lab ws2 ws3 (m.toList ++ rest)) := by
  have hne := (mnWords_low m hm).2
  have hne' : w' ≠ [] := by
    intro h; apply hne; apply List.length_eq_zero_iff.mp; rw [← hv.length, h]; rfl
  have hv0 : CaseVar m.toList m.toList := CaseVar.refl hv.2
  rw [parseLine_labelled ws1 lab ws2 ws3 h1 hl h2 h3 (w' ++ rest)
      (fun c hc => caseVar_head hv rest c hc hne') (by simp [hne']),
    parseLine_labelled ws1 lab ws2 ws3 h1 hl h2 h3 (m.toList ++ rest)
      (fun c hc => caseVar_head hv0 rest c hc hne) (by simp [hne]),
    pInstrBody_cv m (mnWords_ok m hm) w' rest hv hr]
  simp only [List.length_append, hv.length]

end

/-- the optional in-line label in front of an instruction: blanks only, or `lab:` with blanks around -/
inductive LinePre where
  | plain (lead : List Char)
  | labelled (ws1 lab ws2 ws3 : List Char)

def LinePre.Ok : LinePre → Prop
  | .plain lead => AllWs lead
  | .labelled ws1 lab ws2 ws3 => AllWs ws1 ∧ IsLabel lab ∧ AllWs ws2 ∧ AllWs ws3

def LinePre.txt : LinePre → List Char → List Char
  | .plain lead, x => lead ++ x
  | .labelled ws1 lab ws2 ws3, x => labelPrefix ws1 lab ws2 ws3 x

def LinePre.lbl : LinePre → Option String
  | .plain _ => none
  | .labelled _ lab _ _ => some (String.ofList lab)

/-- `hsuf` is needed behind a label only: the body must be read at least as far as the bare label declaration
    (`labelledResult`). -/
theorem parseLine_pre_word (p : LinePre) (hp : p.Ok) (m : String) (hm : m ∈ mnWords) (sel : Nat → Bool)
    (X : List Char) (hs : LineSep X) (it : Item) (tr : List Char) (htr : AllWs tr) (hsuf : tr <:+ X)
    (hb : pInstrBody (m.toList ++ X) = .ok it tr) :
    parseLine (p.txt (recase sel m.toList ++ X)) = some { lbl := p.lbl, item := it } := by
  cases p with
  | plain lead => exact parseLine_spelled_word m hm lead hp sel X hs it tr htr hb
  | labelled ws1 lab ws2 ws3 =>
    obtain ⟨h1, hl, h2, h3⟩ := hp
    have hlow := mnWords_low m hm
    have hcv := caseVar_recase sel m.toList hlow.1
    have hne : recase sel m.toList ≠ [] := recase_ne_nil _ _ hlow.2
    have hbody : pInstrBody (recase sel m.toList ++ X) = .ok it tr := by
      rw [pInstrBody_cv m (mnWords_ok m hm) _ X hcv hs.ascii]; exact hb
    have hend : atEnd tr = true := by simp [atEnd, skipWs_allWs _ htr]
    have hnl : ¬ (ws3 ++ (recase sel m.toList ++ X)).length < tr.length := by
      have := hsuf.length_le
      simp only [List.length_append]; omega
    simp only [LinePre.txt, LinePre.lbl, labelledResult, hbody, hnl, if_false, hend, if_true,
      parseLine_labelled ws1 lab ws2 ws3 h1 hl h2 h3 _ (fun c hc => caseVar_head hcv _ c hc hne) (by simp [hne])]

/-! `tr` is the end of a text built from tokens: one step per token. -/

theorem suffix_tReg {tr rest w : List Char} {st : RegStyle} {n : Nat} (h : tr <:+ rest) : tr <:+ tReg w st n rest :=
  h.trans ((List.suffix_append _ rest).trans (List.suffix_append w _))

theorem suffix_tNum {tr rest w : List Char} {st : NumStyle} {v : Int} (h : tr <:+ rest) : tr <:+ tNum w st v rest :=
  h.trans ((List.suffix_append _ rest).trans (List.suffix_append w _))

theorem suffix_tSep {tr rest w : List Char} {c : Char} (h : tr <:+ rest) : tr <:+ tSep w c rest :=
  h.trans ((List.suffix_cons c rest).trans (List.suffix_append w _))

theorem suffix_tLab {tr rest w lab : List Char} (h : tr <:+ rest) : tr <:+ tLab w lab rest :=
  h.trans ((List.suffix_append _ rest).trans (List.suffix_append w _))

theorem suffix_tVar {tr rest w name : List Char} {ix : IdxSp} (h : tr <:+ rest) : tr <:+ tVar w name ix rest :=
  suffix_tLab (h.trans (List.suffix_append _ rest))

theorem parseLine_pre_render (p : LinePre) (hp : p.Ok) (sp : Spelling) (i : Instr) (hs : Legible sp i) :
    parseLine (p.txt (recase sp.mnCase (mn i.op) ++ operands sp i (blanks sp.trail)))
      = some { lbl := p.lbl, item := itemOf i } := by
  obtain ⟨hb, hsep⟩ := body_render_fits sp i hs
  exact parseLine_pre_word p hp i.op.mnemonic (mnemonic_mem _) sp.mnCase _ hsep _ _ (allWs_blanks _)
    ⟨_, (operands_append sp i _).symm⟩ hb

/-! ### pseudo-instructions -/

theorem pseudo_sel : ∀ p ∈ [("li", Row.li), ("mv", .mv), ("nop", .nop), ("la", .memP)], p.1 ∈ mnWords ∧
    rows.filter (fun r => p.1 ∈ r.head.syms) = [p.2] := by decide +kernel

theorem pInstrBody_pseudo (p : String × Row) (hp : p ∈ [("li", Row.li), ("mv", .mv), ("nop", .nop), ("la", .memP)])
    (rest : List Char) (hr : WordSep rest) : pInstrBody (p.1.toList ++ rest) = pick [p.2.tail p.1 rest] := by
  obtain ⟨hm, hsel⟩ := pseudo_sel p hp
  rw [pInstrBody_word p.1 (mnWords_ok p.1 hm) _ rest (CaseVar.refl (mnWords_low p.1 hm).1) hr, hsel]
  rfl

section
variable (g w1 w2 tr : List Char) (hg : AllWs g) (hgne : g ≠ []) (h1 : AllWs w1) (h2 : AllWs w2) (htr : AllWs tr)
include hg hgne h1 h2 htr

theorem bodyP_li (a : Nat) (v : Int) (ha : a < 32) (s1 : RegStyle) (sn : NumStyle)
    (hv : NumFits sn v) :
    pInstrBody ("li".toList ++ tReg g s1 a (tSep w1 ',' (tNum w2 sn v tr))) = .ok (.grp (.li a v)) tr := by
  rw [pInstrBody_pseudo ("li", .li) (by simp) _ (wordSep_tReg g s1 a _ hg hgne)]
  simp [pick, Row.tail, tailLi, pReg_tReg g s1 a _ hg ha (tokEnd_tSep w1 ',' _ h1 comma_nlb), pComma_tSep w1 _ h1,
    pImm_tNum w2 sn v _ h2 hv (tokEnd_allWs tr htr), orStep, isAbort]

theorem bodyP_mv (a b : Nat) (ha : a < 32) (hb : b < 32) (s1 s2 : RegStyle) :
    pInstrBody ("mv".toList ++ tReg g s1 a (tSep w1 ',' (tReg w2 s2 b tr))) = .ok (.grp (.mv a b)) tr := by
  rw [pInstrBody_pseudo ("mv", .mv) (by simp) _ (wordSep_tReg g s1 a _ hg hgne)]
  simp [pick, Row.tail, tailMv, pReg_tReg g s1 a _ hg ha (tokEnd_tSep w1 ',' _ h1 comma_nlb), pComma_tSep w1 _ h1,
    pReg_tReg w2 s2 b _ h2 hb (tokEnd_allWs tr htr), orStep, isAbort]

end

theorem bodyP_nop (tr : List Char) (htr : AllWs tr) : pInstrBody ("nop".toList ++ tr) = .ok (.str "nop") tr := by
  rw [pInstrBody_pseudo ("nop", .nop) (by simp) tr (wordSep_allWs tr htr)]
  simp [pick, Row.tail, tailWord, orStep, isAbort]

theorem line_li (g w1 w2 tr : List Char) (hg : AllWs g) (hgne : g ≠ []) (h1 : AllWs w1) (h2 : AllWs w2)
    (htr : AllWs tr) (p : LinePre) (hp : p.Ok) (sel : Nat → Bool) (a : Nat) (v : Int) (ha : a < 32)
    (s1 : RegStyle) (sn : NumStyle) (hv : NumFits sn v) :
    parseLine (p.txt (recase sel "li".toList ++ tReg g s1 a (tSep w1 ',' (tNum w2 sn v tr))))
      = some { lbl := p.lbl, item := .grp (.li a v) } :=
  parseLine_pre_word p hp "li" (kw_mem (by decide)) sel _
    (lineSep_tReg g s1 a _ hg hgne ha) _ tr htr
    (suffix_tReg (suffix_tSep (suffix_tNum (List.suffix_refl tr))))
    (bodyP_li g w1 w2 tr hg hgne h1 h2 htr a v ha s1 sn hv)

theorem parseLine_nop (lead tr : List Char) (hl : AllWs lead) (htr : AllWs tr) (sel : Nat → Bool) :
    parseLine (lead ++ (recase sel "nop".toList ++ tr)) = some { lbl := none, item := .str "nop" } :=
  parseLine_spelled_word "nop" (kw_mem (by decide)) lead hl sel tr (lineSep_allWs tr htr) _ tr htr (bodyP_nop tr htr)

end ArchSim.Lemmas.C04Spell
