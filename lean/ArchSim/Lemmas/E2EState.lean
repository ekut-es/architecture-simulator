/-
What a load establishes, for every text, accepted or not. The stored program consists of built objects (a failing load
stores none, or the first 4096 of what the instruction pass built), so it is well formed as soon as all its operations
are in the supported set. On a flat RISC-V data memory the data memory after a load is the memory of a write history (the
`.data` preload), so the loaded state satisfies C01's `StOK` and C02's `SOK` whenever the state before did.
-/
import ArchSim.Lemmas.E2EInstr
import ArchSim.Lemmas.C14Loaded
import ArchSim.Lemmas.C02Compose
import ArchSim.Lemmas.C03ProgFive
import ArchSim.Lemmas.C09ProgRun
import ArchSim.Lemmas.C13Load
import ArchSim.Lemmas.C18Read

namespace ArchSim.Lemmas.E2E
open ArchSim ArchSim.PP ArchSim.Rv ArchSim.Asm ArchSim.Mem ArchSim.Spec.ByteStore ArchSim.Lemmas.C14 ArchSim.Lemmas.C18

theorem BuiltObj.instrOK {i : Instr} (h : BuiltObj i) : Pipe.InstrOK i :=
  Pipe.instrOK_of_range h.2.2.2.1 h.2.2.2.2

theorem load_objs (s : St) (text : String) : ∀ i ∈ (load s text).st.imem.prog, BuiltObj i := by
  cases herr : (load s text).err with
  | none =>
    obtain ⟨ls, es, hg, hb⟩ := load_ok_built s text herr
    exact buildInstrs_objs ls es 0 _ hg hb
  | some e =>
    -- a failing load stores no program, except when the program is too long: then the first 4096 built objects
    revert herr
    fun_cases load s text <;> intro herr
    case case8 => cases herr
    case case7 _ _ ht _ _ hs _ _ _ _ hn _ hexp _ hls _ hins hlen =>
      intro i hi
      refine buildInstrs_objs _ _ 0 _ ?_ hins i (List.mem_of_mem_take hi)
      refine C15.expandAll_all (P := fun e => ItemForm e.2.2) (fun e g => expandOne_form _ e g) ?_ hexp
      intro e he
      obtain ⟨x, hx, rfl⟩ := List.mem_map.mp he
      exact C15.tokenize_all (P := fun e => ItemForm e.2.2.item) (fun _ _ _ => parseLine_form) ht x
        ((C05.segment_ok hs).2 x hx)
    all_goals exact fun i hi => nomatch hi

/-- All operations of the program are in the supported set (no CSR form, `fence`, `ebreak`). -/
def AllSupported (prog : List Instr) : Prop := ∀ i ∈ prog, i.op.supported = true

instance (prog : List Instr) : Decidable (AllSupported prog) := by unfold AllSupported; infer_instance

theorem load_wf (s : St) (text : String)
    (hs : AllSupported (load s text).st.imem.prog) :
    ∀ i, i ∈ (load s text).st.imem.prog → i.WF :=
  fun i hi => (load_objs s text i hi).wf (hs i hi)

theorem load_progWF_pipe (s : St) (text : String)
    (hs : AllSupported (load s text).st.imem.prog) : Pipe.ProgWF (load s text).st.imem.prog :=
  ⟨load_prog_le s text, load_wf s text hs⟩

theorem load_pipeProgOK (s : St) (text : String) :
    Pipe.ProgOK (load s text).st.imem :=
  Pipe.ProgOK_of_all _ fun i hi => (load_objs s text i hi).instrOK

theorem load_regs (s : St) (text : String) : (load s text).st.regs = s.regs :=
  (load_frame s text).1

theorem load_pc (s : St) (text : String) : (load s text).st.pc = s.pc :=
  (load_frame s text).2.1

theorem load_exitCode (s : St) (text : String) : (load s text).st.exitCode = s.exitCode :=
  (load_frame s text).2.2.2.1

theorem load_cycles (s : St) (text : String) : (load s text).st.cycles = s.cycles :=
  (load_frame s text).2.2.2.2.1

theorem load_instrs (s : St) (text : String) : (load s text).st.instrs = s.instrs :=
  (load_frame s text).2.2.2.2.2.1

theorem flat_of_reach {ms0 ms : MemSys} (hr : DirectReach ms0 ms) (h0 : ms0 = .flat (Mem.empty riscvCfg)) :
    ∃ h : List Spec.ByteStore.Op, ms = .flat (run riscvCfg h) := by
  induction hr with
  | refl => exact ⟨[], h0⟩
  | step bits a v _ ih =>
    obtain ⟨h, hm⟩ := ih
    refine ⟨h ++ [.write bits a v], ?_⟩
    rw [hm, run_append, write_flat_mem]

theorem load_mem_flat (s : St) (text : String) (m : Mem) (hm : s.mem = .flat m) (hc : m.cfg = riscvCfg) :
    ∃ h : List Spec.ByteStore.Op, (load s text).st.mem = .flat (run riscvCfg h) := by
  obtain ⟨_, _, hr, _, he⟩ := load_shape s text
  rw [he]
  exact flat_of_reach hr (by rw [hm]; simp only [MemSys.reset, Mem.reset, hc])

theorem load_stOK (s : St) (text : String) (hs : ArchSim.Lemmas.C01.StOK s) :
    ArchSim.Lemmas.C01.StOK (load s text).st := by
  obtain ⟨m, hm, hc, _⟩ := hs.flat
  obtain ⟨h, hh⟩ := load_mem_flat s text m hm hc
  refine ⟨⟨_, hh, run_cfg _ _, WF_run _ _⟩, ?_, ?_, ?_, ?_⟩
  · intro r; rw [load_regs]; exact hs.regs_lt r
  · rw [load_regs]; exact hs.x0
  · rw [load_pc]; exact hs.pc_lo
  · rw [load_pc]; exact hs.pc_hi

theorem load_imem (s : St) (text : String) (hc : s.imem.cache = none) :
    (load s text).st.imem = { prog := (load s text).st.imem.prog, cache := none } := by
  obtain ⟨_, _, _, _, he⟩ := load_shape s text
  rw [he, hc]
  rfl

theorem load_nocache (s : St) (text : String) (hc : s.imem.cache = none) : (load s text).st.imem.cache = none := by
  rw [load_imem s text hc]

theorem load_sok (s : St) (text : String) (hs : ArchSim.Lemmas.C01.StOK s) (hc : s.imem.cache = none) :
    Pipe.SOK (load s text).st.imem.prog (load s text).st :=
  ⟨load_imem s text hc, load_stOK s text hs⟩

/-- For the loaded state under a NAME `sf` (the form in which the cache theorems speak of it): with `sf` a variable
    nothing in their proofs has to see through the loader. -/
theorem load_named {s : St} {text : String} {sf : St} (hsf : sf = (load s text).st)
    (hs : ArchSim.Lemmas.C01.StOK s) (hc : s.imem.cache = none) :
    sf.imem = { prog := sf.imem.prog, cache := none } ∧ ArchSim.Lemmas.C01.StOK sf ∧
    sf.exitCode = s.exitCode ∧
    (AllSupported sf.imem.prog →
      sf.imem.prog.length ≤ 4096 ∧ ∀ i, i ∈ sf.imem.prog → i.WF) := by
  -- `rw`, not `subst`: `subst` evaluates `load s text` to see whether it is a variable
  rw [hsf]
  exact ⟨load_imem s text hc, load_stOK s text hs, load_exitCode s text,
    fun hsup => ⟨load_prog_le s text, load_wf s text hsup⟩⟩

theorem freshSt_ok : ArchSim.Lemmas.C01.StOK freshSt :=
  ⟨⟨_, rfl, rfl, WF_empty _⟩, fun _ => by show (0 : Nat) < 4294967296; decide, rfl, by decide, by decide⟩

end ArchSim.Lemmas.E2E
