/-
`sanitize` (the same function in both assemblers): every pair it keeps is a line of the text with its 1-based number,
comment removed and stripped, and the numbers are strictly increasing. `sanitize_mem'` speaks of characters,
`sanitize_mem` of the string an error message carries (`LineOf`).
-/
import ArchSim.Model.Asm
import ArchSim.Model.ToyAsm

namespace ArchSim.Lemmas.C15
open ArchSim ArchSim.PP

theorem toy_sanitize_eq (text : String) : ToyAsm.sanitize text = Asm.sanitize text := rfl

theorem sanitize_mem' {text : String} {k : Nat} {l : List Char} (h : (k, l) ∈ Asm.sanitize text) :
    1 ≤ k ∧ k ≤ (splitLines text.toList).length ∧
      ∃ raw, (splitLines text.toList)[k - 1]? = some raw ∧ l = pyStrip (raw.takeWhile (· != '#')) := by
  unfold Asm.sanitize at h
  simp only [List.mem_map, List.mem_filter, Prod.exists, Prod.mk.injEq] at h
  obtain ⟨k1, l1, ⟨⟨k0, l0, hz, rfl, rfl⟩, _⟩, rfl, rfl⟩ := h
  obtain ⟨i, hi, he⟩ := List.mem_iff_getElem.1 hz
  rw [List.getElem_zip] at he
  simp only [List.getElem_range, Prod.mk.injEq] at he
  obtain ⟨rfl, rfl⟩ := he
  simp only [List.length_zip, List.length_range, Nat.min_self] at hi
  refine ⟨by omega, by omega, _, ?_, rfl⟩
  simp [hi]

/-- `(k, line)` names an existing line of `text`: `k` is a 1-based index into `splitlines()` and
    `line` is that line with its trailing comment removed, stripped. -/
def LineOf (text : String) (k : Nat) (line : String) : Prop :=
  1 ≤ k ∧ k ≤ (splitLines text.toList).length ∧
    ∃ raw, (splitLines text.toList)[k - 1]? = some raw ∧
      line = String.ofList (pyStrip (raw.takeWhile (· != '#')))

theorem sanitize_mem {text : String} {k : Nat} {l : List Char} (h : (k, l) ∈ Asm.sanitize text) :
    LineOf text k (String.ofList l) := by
  obtain ⟨h1, h2, raw, h3, h4⟩ := sanitize_mem' h
  exact ⟨h1, h2, raw, h3, by rw [h4]⟩

theorem sanitize_sorted (text : String) : ((Asm.sanitize text).map Prod.fst).Pairwise (· < ·) := by
  unfold Asm.sanitize
  simp only [List.map_map]
  have h1 : ∀ (L : List (Nat × List Char)),
      List.map (Prod.fst ∘ fun (x : Nat × List Char) => (x.1, pyStrip (x.2.takeWhile (· != '#')))) L
        = L.map Prod.fst := by
    intro L; apply List.map_congr_left; intro a _; rfl
  rw [h1]
  refine List.Pairwise.sublist (List.Sublist.map _ List.filter_sublist) ?_
  rw [List.map_map]
  have h2 : List.map (Prod.fst ∘ fun (x : Nat × List Char) => (x.1 + 1, x.2))
      ((List.range (splitLines text.toList).length).zip (splitLines text.toList))
      = (List.range (splitLines text.toList).length).map (· + 1) := by
    have : (Prod.fst ∘ fun (x : Nat × List Char) => (x.1 + 1, x.2)) = (· + 1) ∘ Prod.fst := rfl
    rw [this, ← List.map_map, List.map_fst_zip (by simp)]
  rw [h2, List.pairwise_map]
  exact List.Pairwise.imp (fun h => Nat.succ_lt_succ h) List.pairwise_lt_range

end ArchSim.Lemmas.C15
