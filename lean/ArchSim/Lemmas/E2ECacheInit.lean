/-
The start states of the cache theorems. `DSys.reset` (what `load_program` applies to the data memory system) builds new
empty sets and clears the lower memory but KEEPS the hit / access counters and the last-hit flag; none of the invariants
of C03 / C09 / C12 mentions the counters, so they hold after a load for ANY cache of an admissible geometry (`Reloadable`),
whatever its contents and counters. The freshly built cache of `withCache` is the special case that is its own reset. Two
namespaces: the reload lemmas are `E2E2.…`, those about `withCache`, which follow from them, `E2E.…`.
-/
import ArchSim.Lemmas.E2ECache
import ArchSim.Lemmas.C09ProgEx
import ArchSim.Lemmas.C12ProgTop

namespace ArchSim.Lemmas.E2E2
open ArchSim ArchSim.Rv ArchSim.Asm ArchSim.Mem ArchSim.Cache ArchSim.Spec.ByteStore ArchSim.Lemmas.E2E
open ArchSim.Spec.CacheAbs (GeoOK preload CInv)

/-- What a data-cache system must satisfy for a reload to re-establish the invariants: admissible geometry, an
    associativity that suits the policy `l` (LRU / PLRU), RISC-V lower memory. Nothing about its contents or its
    counters. (True of every system the simulator builds or reaches.) -/
structure Reloadable (l : Bool) (ds : DSys Repl.Pol) : Prop where
  geo   : GeoOK ds.geo
  assoc : ArchSim.Lemmas.C09.AssocOK l ds.geo.assoc
  cfg   : ds.mem.cfg = riscvCfg

theorem preload_reset_fields (P : PolicyOps Repl.Pol) (ds : DSys Repl.Pol) (hc : ds.mem.cfg = riscvCfg)
    (h : List Spec.ByteStore.Op) :
    preload (ds.reset P) h =
      { wt := ds.wt, geo := ds.geo, penalty := ds.penalty, sets := initSets P ds.geo, mem := run riscvCfg h,
        hits := ds.hits, accesses := ds.accesses, lastHit := ds.lastHit } := by
  rw [ArchSim.Lemmas.C03.preload_eq]
  simp only [DSys.reset, Mem.reset, hc]
  rfl

theorem crep_reload (l : Bool) (ds : DSys Repl.Pol) (hr : Reloadable l ds) (h : List Spec.ByteStore.Op) :
    ArchSim.Lemmas.C03Prog.CRep l (preload (ds.reset (polOps l)) h) (run riscvCfg h) := by
  rw [preload_reset_fields _ ds hr.cfg h]
  exact ArchSim.Lemmas.C03Prog.CRep.of_empty hr.geo hr.assoc rfl (ArchSim.Lemmas.C03.MemOK_run h)

theorem dok_reload (l : Bool) (ds : DSys Repl.Pol) (hr : Reloadable l ds) (h : List Spec.ByteStore.Op) :
    ArchSim.Lemmas.C09Prog.DOK l (preload (ds.reset (polOps l)) h) :=
  (crep_reload l ds hr h).dok

theorem mrelT_reload (l : Bool) (ds : DSys Repl.Pol) (hr : Reloadable l ds) (h : List Spec.ByteStore.Op) :
    ArchSim.Lemmas.C12Prog.MRelT ds.wt (.cached l (preload (ds.reset (polOps l)) h)) (.flat (run riscvCfg h)) := by
  refine ⟨l, _, _, rfl, rfl, crep_reload l ds hr h, ArchSim.Lemmas.C12Prog.TRep.of_eq ?_, ?_⟩ <;>
    rw [preload_reset_fields _ ds hr.cfg h]

/-- About arbitrary states: for loaded states the unifier would unfold the loader. -/
theorem reload_rel {sc sf : St} {l : Bool} {ds : DSys Repl.Pol} (hr : Reloadable l ds)
    (h : List Spec.ByteStore.Op) (h1 : sf.mem = .flat (run riscvCfg h))
    (h2 : sc = { sf with mem := .cached l (preload (ds.reset (polOps l)) h) }) :
    sc.imem = sf.imem ∧
    ArchSim.Lemmas.C03Prog.CacheRel sc sf ∧
    ArchSim.Lemmas.C12Prog.MRelT ds.wt sc.mem sf.mem ∧
    ArchSim.Lemmas.C09Prog.DInv sc.mem := by
  subst h2
  refine ⟨rfl, ⟨⟨l, _, _, rfl, h1, crep_reload l ds hr h⟩, rfl, rfl, rfl, rfl, rfl, rfl, rfl, rfl⟩, ?_,
    ⟨l, _, rfl, dok_reload l ds hr h⟩⟩
  rw [h1]; exact mrelT_reload l ds hr h

/-- A load keeps the counters of the data cache (`Asm.load_dCounters`), in the vocabulary of C09Prog. -/
theorem load_counters (s : St) (text : String) :
    ArchSim.Lemmas.C09Prog.dAcc (load s text).st.mem = ArchSim.Lemmas.C09Prog.dAcc s.mem ∧
    ArchSim.Lemmas.C09Prog.dHits (load s text).st.mem = ArchSim.Lemmas.C09Prog.dHits s.mem ∧
    ArchSim.Lemmas.C09Prog.dLastHit (load s text).st.mem = ArchSim.Lemmas.C09Prog.dLastHit s.mem := by
  have h := load_dCounters s text
  generalize (load s text).st.mem = m at h ⊢
  -- `dCounters` is `none` on a flat memory and the three counters on a cached one
  cases m <;> cases hs : s.mem <;> rw [hs] at h
  · exact ⟨rfl, rfl, rfl⟩
  · cases h
  · cases h
  · obtain ⟨h1, h2, h3⟩ : _ ∧ _ ∧ _ := by simpa only [dCounters, Option.some.injEq, Prod.mk.injEq] using h
    exact ⟨h2, h1, h3⟩

/-! ### loading into a state whose data cache has been used -/

/-- `s` with the flat empty RISC-V data memory instead of its data memory system -/
def flatOf (s : St) : St := { s with mem := .flat (Mem.empty riscvCfg) }

theorem load_reload (s1 : St) (l : Bool) (ds : DSys Repl.Pol) (hm : s1.mem = .cached l ds)
    (hr : Reloadable l ds) (text : String) :
    (load s1 text).err = (load (flatOf s1) text).err ∧
    (load s1 text).st.imem = (load (flatOf s1) text).st.imem ∧
    ArchSim.Lemmas.C03Prog.CacheRel (load s1 text).st (load (flatOf s1) text).st ∧
    ArchSim.Lemmas.C12Prog.MRelT ds.wt (load s1 text).st.mem (load (flatOf s1) text).st.mem ∧
    ArchSim.Lemmas.C09Prog.DInv (load s1 text).st.mem := by
  obtain ⟨he, h, h1, h2⟩ := load_cached s1 (flatOf s1) l ds hm hr.cfg (Mem.empty riscvCfg) rfl rfl text
  exact ⟨he, reload_rel hr h h1 h2⟩

theorem load_reload_stepHyp (s1 : St) (l : Bool) (ds : DSys Repl.Pol) (hm : s1.mem = .cached l ds)
    (hr : Reloadable l ds) (hic : s1.imem.cache = none) (hregs : ∀ r, s1.regs r < 4294967296) (text : String)
    (hsup : AllSupported (load s1 text).st.imem.prog) :
    ArchSim.Lemmas.C09Prog.StepHyp (load s1 text).st := by
  refine ⟨load_nocache s1 text hic, load_prog_le s1 text, load_wf s1 text hsup, ⟨?_, ?_⟩⟩
  · intro r; rw [load_regs]; exact hregs r
  · exact (load_reload s1 l ds hm hr text).2.2.2.2

theorem stepHyp_reloadable {s : St} (h : ArchSim.Lemmas.C09Prog.StepHyp s) :
    ∃ l ds, s.mem = .cached l ds ∧ Reloadable l ds := by
  obtain ⟨l, ds, hm, hok⟩ := h.inv.mem
  exact ⟨l, ds, hm, hok.cinv.geo, hok.assoc, hok.cinv.cfg⟩

end ArchSim.Lemmas.E2E2

/-! ### loading into a state with a freshly built data cache -/

namespace ArchSim.Lemmas.E2E
open ArchSim ArchSim.Rv ArchSim.Asm ArchSim.Mem ArchSim.Cache ArchSim.Spec.ByteStore ArchSim.Lemmas.E2E2
open ArchSim.Spec.CacheAbs (GeoOK preload)

/-- `s` with a freshly built data cache (policy `l`: LRU / PLRU, write-through flag `wt`, geometry `g`, miss
    penalty) over the empty RISC-V memory instead of its data memory. -/
def withCache (s : St) (l wt : Bool) (g : Geo) (penalty : Nat) : St :=
  { s with mem := .cached l (DSys.init (polOps l) wt g penalty (Mem.empty riscvCfg)) }

theorem reloadable_init (l wt : Bool) (g : Geo) (hg : GeoOK g) (ha : ArchSim.Lemmas.C09.AssocOK l g.assoc)
    (penalty : Nat) : Reloadable l (DSys.init (polOps l) wt g penalty (Mem.empty riscvCfg)) :=
  ⟨hg, ha, rfl⟩

/-- The cached load against the flat load of the same text. A freshly built system is its own reset (by unfolding), so
    this is also the form `reload_rel` takes. -/
theorem load_withCache (s : St) (m : Mem) (hm : s.mem = .flat m) (hc : m.cfg = riscvCfg) (l wt : Bool)
    (g : Geo) (penalty : Nat) (text : String) :
    (load (withCache s l wt g penalty) text).err = (load s text).err ∧
    ∃ h : List Spec.ByteStore.Op, (load s text).st.mem = .flat (run riscvCfg h) ∧
      (load (withCache s l wt g penalty) text).st = { (load s text).st with
        mem := .cached l (preload (DSys.init (polOps l) wt g penalty (Mem.empty riscvCfg)) h) } :=
  load_cached (withCache s l wt g penalty) s l (DSys.init (polOps l) wt g penalty (Mem.empty riscvCfg)) rfl rfl
    m hc (by rw [← hm]; rfl) text

theorem load_cacheRel (s : St) (m : Mem) (hm : s.mem = .flat m) (hc : m.cfg = riscvCfg) (l wt : Bool)
    (g : Geo) (hg : GeoOK g) (ha : ArchSim.Lemmas.C09.AssocOK l g.assoc) (penalty : Nat) (text : String) :
    ArchSim.Lemmas.C03Prog.CacheRel (load (withCache s l wt g penalty) text).st (load s text).st := by
  obtain ⟨_, h, h1, h2⟩ := load_withCache s m hm hc l wt g penalty text
  exact (reload_rel (reloadable_init l wt g hg ha penalty) h h1 h2).2.1

theorem load_stepHyp (s : St) (hs : ArchSim.Lemmas.C01.StOK s) (hic : s.imem.cache = none) (l wt : Bool)
    (g : Geo) (hg : GeoOK g) (ha : ArchSim.Lemmas.C09.AssocOK l g.assoc) (penalty : Nat) (text : String)
    (hsup : AllSupported (load s text).st.imem.prog) :
    ArchSim.Lemmas.C09Prog.StepHyp (load (withCache s l wt g penalty) text).st := by
  obtain ⟨m, hm, hc, _⟩ := hs.flat
  obtain ⟨-, hist, h1, h2⟩ := load_withCache s m hm hc l wt g penalty text
  have hi := (reload_rel (reloadable_init l wt g hg ha penalty) hist h1 h2).1
  refine load_reload_stepHyp (withCache s l wt g penalty) l _ rfl (reloadable_init l wt g hg ha penalty) hic
    hs.regs_lt text ?_
  rw [hi]
  exact hsup

end ArchSim.Lemmas.E2E
