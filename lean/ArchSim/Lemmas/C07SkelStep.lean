/-
The pipeline simulates the data-free schedule skeleton (`ArchSim/Spec/Skeleton.lean`): erasing the data of a pipeline
state commutes with every stage, with the stall bookkeeping, and hence with every cycle that raises no exception
(`erase_step`; `outcomes p` is what the data path decides in the cycle).
-/
import ArchSim.Spec.Skeleton
import ArchSim.Spec.Iter
import ArchSim.Lemmas.C07Finish
import ArchSim.Lemmas.C08Pad

namespace ArchSim.Lemmas.C07
open ArchSim ArchSim.Rv ArchSim.Pipe ArchSim.Lemmas.C02Split ArchSim.Spec

def eraseL (x : Latch) : Skeleton.Tok :=
  { instr := x.instr, addr := x.addr, pc4 := x.pc4, flagged := x.flagged, exits := x.exitCode.isSome }

def eraseO (l : Option Latch) : Option Skeleton.Tok := l.map eraseL

def eraseStall (st : Stall) : Skeleton.SkStall :=
  { k := st.k, rem := st.rem, p0 := eraseO st.p0, p1 := eraseO st.p1 }

/-- The schedule skeleton of a pipeline state: all data erased. -/
def erase (p : PSt) : Skeleton.Sk :=
  { pc := p.st.pc, hazard := p.hazard, exited := p.st.exitCode.isSome, instrs := p.st.instrs,
    stalls := p.st.stalls, flushes := p.st.flushes, s0 := eraseO p.l0, s1 := eraseO p.l1,
    s2 := eraseO p.l2, s3 := eraseO p.l3, stalled := p.stalled.map eraseStall }

/-- What the data path decides in the cycle that starts in `p`. -/
def outcomes (p : PSt) : Skeleton.Outcomes :=
  { hasInstr := (p.st.imem.instrAt p.st.pc).isSome,
    fetched := (ifStage (tick p.st)).2.map (·.instr),
    exExit := match (exO p).latch with | some x => x.exitCode.isSome | none => false,
    memTarget := latchFlush (meO p).latch }

theorem erase_inputs (p : PSt) :
    Skeleton.idIn (erase p) = eraseO (idInput p) ∧ Skeleton.exIn (erase p) = eraseO (exInput p) ∧
    Skeleton.memIn (erase p) = eraseO (memInput p) := by
  unfold Skeleton.idIn Skeleton.exIn Skeleton.memIn idInput exInput memInput erase
  cases p.stalled with
  | none => exact ⟨rfl, rfl, rfl⟩
  | some st =>
    simp only [Option.map_some, eraseStall, true_and]
    constructor <;> split <;> rfl

theorem erase_setFlag (l : Option Latch) : eraseO (Pipe.setFlag l) = Skeleton.setFlag (eraseO l) := by
  cases l <;> rfl

theorem erase_nIF (p : PSt) : eraseO (nIF p) = Skeleton.newS0 (erase p) (outcomes p) := by
  unfold nIF Skeleton.newS0 erase outcomes
  cases p.stalled with
  | none =>
    simp only
    unfold ifStage
    split
    · rfl
    · simp only; split <;> rfl
  | some st => rfl

theorem sIF_pc (p : PSt) : (sIF p).pc = Skeleton.pcIF (erase p) (outcomes p) := by
  unfold sIF Skeleton.pcIF erase outcomes
  cases p.stalled with
  | none => simp only [Option.map_none]; rw [ifStage_pc]; rfl
  | some st => rfl

theorem erase_nID (p : PSt) : eraseO (nID p) = Skeleton.newS1 (erase p) := by
  unfold Skeleton.newS1 nID
  rw [(erase_inputs p).1]
  cases idInput p <;> rfl

theorem hazardWith_depends (c : Instr) (regs : Nat → Nat) (l : Option Latch) :
    hazardWith (accessRegs c regs) l = Skeleton.depends c (eraseO l) := by
  cases l with
  | none => rfl
  | some x => exact hazardWith_some c regs x  -- `depends c (some t)` is `conflict c t.instr`

theorem nID_stallSig (p : PSt) : latchStall (nID p) = Skeleton.idStallSig (erase p) := by
  unfold Skeleton.idStallSig nID
  rw [(erase_inputs p).1]
  cases idInput p with
  | none => rfl
  | some f =>
    simp only [idStage_some, latchStall, idLatch, idStall, eraseO, Option.map_some]
    rw [hazardWith_depends, hazardWith_depends]
    rfl

theorem nWB_flush (p : PSt) : latchFlush (nWB p) = Skeleton.flush4 (erase p) := by
  unfold nWB Skeleton.flush4 erase
  cases p.l3 with
  | none => rfl
  | some m => rw [wbStage_some]; rfl

theorem sWB_exited (p : PSt) : (sWB p).exitCode.isSome = Skeleton.exitedWB (erase p) := by
  unfold sWB Skeleton.exitedWB erase
  cases h : p.l3 with
  | none => simp [wbStage_none, sIF_exitCode, eraseO]
  | some m =>
    rw [wbStage_some]
    simp only [wbSt, sIF_exitCode, eraseO, Option.map_some, eraseL]
    cases m.exitCode <;> simp

theorem sWB_instrs (p : PSt) : (sWB p).instrs = Skeleton.instrsWB (erase p) := by
  unfold sWB Skeleton.instrsWB erase
  rw [wbStage_instrs, sIF_instrs]
  cases p.l3 <;> rfl

theorem erase_mustWait (d : Latch) (l2 l3 : Option Latch) :
    ecallMustWait d l2 l3 = Skeleton.mustWait (eraseL d) (eraseO l2) (eraseO l3) := by
  unfold ecallMustWait Skeleton.mustWait
  cases l2 <;> cases l3 <;> rfl

theorem exO_erase (p : PSt) (hf : (exO p).fault = none) :
    eraseO (exO p).latch = Skeleton.newS2 (erase p) (outcomes p) ∧
    latchStall (exO p).latch = Skeleton.exStallSig (erase p) ∧
    latchFlush (exO p).latch = Skeleton.flush2 (erase p) (outcomes p) := by
  unfold Skeleton.newS2 Skeleton.exStallSig Skeleton.flush2 Skeleton.exRuns
  rw [(erase_inputs p).2.1]
  delta outcomes
  unfold exO at hf ⊢
  generalize exInput p = inp at hf ⊢
  cases inp with
  | none => exact ⟨rfl, rfl, rfl⟩
  | some d =>
    have hmw : ecallMustWait d p.l2 p.l3 = Skeleton.mustWait (eraseL d) (erase p).s2 (erase p).s3 :=
      erase_mustWait d p.l2 p.l3
    rcases exStage_cases (sWB p) d p.l2 p.l3 with ⟨_, h⟩ | ⟨hop, cmp, res, h⟩ | ⟨hop, hw, h⟩ | ⟨hop, hw, h⟩ <;>
      rw [h] at hf ⊢
    · simp at hf
    · have hop' : ¬ (eraseL d).instr.op = .ecall := hop
      simp [eraseO, hop', latchStall, latchFlush, exBase]
      rfl
    · have hop' : (eraseL d).instr.op = .ecall := hop
      rw [hmw] at hw
      simp [eraseO, hop', latchStall, latchFlush, exBase, hw]
      rfl
    · have hop' : (eraseL d).instr.op = .ecall := hop
      rw [hmw] at hw
      unfold ecallRun at hf ⊢
      split at hf
      · simp [eraseO, hop', latchStall, latchFlush, exBase, hw]
        rfl
      · simp [eraseO, hop', latchStall, latchFlush, exBase, hw]
        exact ⟨rfl, rfl⟩
      · simp at hf
      · simp at hf

theorem meO_erase (p : PSt) (hf : (meO p).fault = none) :
    eraseO (meO p).latch = Skeleton.newS3 (erase p) ∧
    latchFlush (meO p).latch = Skeleton.flush3 (erase p) (outcomes p) := by
  unfold Skeleton.newS3 Skeleton.flush3
  rw [(erase_inputs p).2.2]
  unfold meO at hf ⊢
  cases hm : memInput p with
  | none => exact ⟨rfl, rfl⟩
  | some e =>
    rw [hm] at hf
    obtain ⟨rd, hl⟩ := memStage_ok_latch (exO p).st e hf
    refine ⟨by rw [hl]; rfl, ?_⟩
    show _ = latchFlush (meO p).latch
    unfold meO
    rw [hm]

theorem erase_pick (old : Option Stall) (n1 n2 : Option Latch) :
    pickStall old n1 n2 = Skeleton.pick (old.map eraseStall) (latchStall n1) (latchStall n2) := by
  cases old <;> rfl

theorem erase_nextStall (p : PSt) (picked : Option Nat) :
    (nextStall p.stalled picked p.l0 p.l1).map eraseStall =
      Skeleton.countDown (Skeleton.stalledPick (erase p) picked) := by
  unfold nextStall Skeleton.stalledPick Skeleton.countDown erase
  cases picked with
  | none =>
    cases p.stalled with
    | none => rfl
    | some st => simp only [Option.map_some, eraseStall]; split <;> rfl
  | some k =>
    cases p.stalled with
    | none =>
      simp only [Option.map_none, ← erase_setFlag]
      by_cases hk : k = 2
      · simp only [hk, if_true]; rfl
      · simp only [hk, if_false]; rfl
    | some old => rfl

theorem erase_dropLowStall (o : Option Stall) :
    (dropLowStall o).map eraseStall = Skeleton.keepEx (o.map eraseStall) := by
  cases o with
  | none => rfl
  | some st =>
    unfold dropLowStall Skeleton.keepEx
    simp only [Option.map_some, eraseStall]
    split <;> rfl

theorem meO_pc (p : PSt) : (meO p).st.pc = Skeleton.pcIF (erase p) (outcomes p) :=
  ((congrArg St.pc (meO_st p)).trans (sWB_pc p)).trans (sIF_pc p)

theorem meO_exited (p : PSt) : (meO p).st.exitCode.isSome = Skeleton.exitedWB (erase p) :=
  (congrArg (fun s => s.exitCode.isSome) (meO_st p)).trans (sWB_exited p)

theorem meO_instrs (p : PSt) : (meO p).st.instrs = Skeleton.instrsWB (erase p) :=
  (congrArg St.instrs (meO_st p)).trans (sWB_instrs p)

theorem erase_mk (p : PSt) (s : St) (a0 a1 a2 a3 a4 : Option Latch) (sl : Option Stall) :
    erase { p with st := s, l0 := a0, l1 := a1, l2 := a2, l3 := a3, l4 := a4, stalled := sl } =
      { pc := s.pc, hazard := p.hazard, exited := s.exitCode.isSome, instrs := s.instrs,
        stalls := s.stalls, flushes := s.flushes, s0 := eraseO a0, s1 := eraseO a1, s2 := eraseO a2,
        s3 := eraseO a3, stalled := sl.map eraseStall } := rfl

theorem erase_step (p : PSt) (h : (step p).fault = none) :
    erase (step p).p = Skeleton.step (erase p) (outcomes p) := by
  obtain ⟨hf1, hf2⟩ := (step_fault_none_iff p).1 h
  obtain ⟨e2, st2, fl2⟩ := exO_erase p hf1
  obtain ⟨e3, fl3⟩ := meO_erase p hf2
  have e0 := erase_nIF p
  have e1 := erase_nID p
  have hpick := erase_pick p.stalled (nID p) (exO p).latch
  rw [step_ok p hf1 hf2]
  simp only
  unfold Skeleton.step
  simp only
  rw [← nWB_flush, ← fl3, ← fl2, ← nID_stallSig, ← st2]
  have hst : (erase p).stalled = p.stalled.map eraseStall := rfl
  rw [hst, ← hpick, ← erase_nextStall, ← erase_dropLowStall]
  cases h4 : latchFlush (nWB p) with
  | some a =>
    rw [finishStep_flush4 _ _ _ _ _ _ _ a h4, erase_mk]
    simp only [flushSt, stallBump_st, meO_exited, meO_instrs, meO_stalls, meO_flushes]
    rfl
  | none =>
    cases h3 : latchFlush (meO p).latch with
    | some a =>
      rw [finishStep_flush3 _ _ _ _ _ _ _ a h4 h3, erase_mk]
      simp only [flushSt, stallBump_st, meO_exited, meO_instrs, meO_stalls, meO_flushes, e3]
      rfl
    | none =>
      cases h2 : latchFlush (exO p).latch with
      | some a =>
        rw [finishStep_flush2 _ _ _ _ _ _ _ a h4 h3 h2, erase_mk]
        simp only [flushSt, stallBump_st, meO_exited, meO_instrs, meO_stalls, meO_flushes, e2, e3]
        rfl
      | none =>
        rw [finishStep_noflush _ _ _ _ _ _ _ h4 h3 h2, erase_mk]
        simp only [stallBump_st, meO_pc, meO_exited, meO_instrs, meO_stalls, meO_flushes,
          e0, e1, e2, e3]
        rfl

theorem eraseO_isNone (l : Option Latch) : (eraseO l).isNone = l.isNone := by cases l <;> rfl

/-- Run of the skeleton along the outcomes of the pipeline run from `p`. -/
def skRun (p : PSt) : Nat → Skeleton.Sk
  | 0 => erase p
  | k + 1 => Skeleton.step (skRun p k) (outcomes (iter (fun q => (step q).p) k p))

end ArchSim.Lemmas.C07
