/-
Concrete objects for the non-vacuity examples of `Props/C12Prog.lean` (namespace `C12Prog.Ex`).  `g1` is the value of
`C03Prog.Ex.geo1` under the name the example statements use.
-/
import ArchSim.Lemmas.C12ProgTop
import ArchSim.Lemmas.C03ProgEx

namespace ArchSim.Lemmas.C12Prog.Ex
open ArchSim ArchSim.Cache ArchSim.Mem ArchSim.Rv ArchSim.Spec.CacheAbs ArchSim.Spec.TagCache
open ArchSim.Lemmas.C03 ArchSim.Lemmas.C03Prog

/-- The smallest cache: one set, one way, one word per block (the value of `C03Prog.Ex.geo1`). -/
def g1 : Geo := { idxBits := 0, blkBits := 0, assoc := 1 }

theorem g1_ok : GeoOK g1 := ⟨by decide, by decide, by decide⟩

/-- A history on `g1`: a write (miss), a read of it (write-back: hit; write-through: miss and fill),
    a write to the next word (miss; write-back evicts and writes back the first block, write-through does
    not allocate), a byte read of it (write-back: hit; write-through: miss and fill, displacing the first block),
    a half-word write into the resident block (hit), and two rejected writes (crossing a word boundary; below
    the data range). -/
def exH : List Spec.CacheAbs.Op :=
  [.write 32 0x4000 0x11, .read 32 0x4000 true, .write 32 0x4004 0x22, .read 8 0x4004 true,
   .write 16 0x4006 0xBEEF, .write 32 0x4009 1, .write 8 0x40 1]

/-- Two reads only: the first fills the block of 0x4000, the second evicts it. -/
def exReads : List Spec.CacheAbs.Op := [.read 32 0x4000 true, .read 32 0x4004 true]

/-- Four word writes on the two-set direct-mapped cache `C03.exGeo` (Lemmas/C03Hist.lean), whose blocks are
    evicted (and written back) in an order different from the order in which they were written, then two reads
    that evict the last two blocks. -/
def exOrder : List Spec.CacheAbs.Op :=
  [.write 32 0x4000 1, .write 32 0x4004 2, .write 32 0x400C 3, .write 32 0x4008 4,
   .read 32 0x4010 true, .read 32 0x4014 true]

/-- `C03Prog.Ex.sc` with a write-through cache. -/
def scWT : St :=
  { C03Prog.Ex.base with
    mem := .cached true (DSys.init (polOps true) true C03Prog.Ex.geo1 10 (Mem.empty riscvCfg)) }

theorem relWT : CacheRel scWT C03Prog.Ex.sf :=
  cacheRel_init C03Prog.Ex.base C03Prog.Ex.geo1 C03Prog.Ex.geo1_ok true C03Prog.Ex.assoc1_ok true 10 [] 0 0 0

theorem trelWT : MRelT true scWT.mem C03Prog.Ex.sf.mem :=
  mrelT_init C03Prog.Ex.geo1 C03Prog.Ex.geo1_ok true C03Prog.Ex.assoc1_ok true 10 []

theorem trelWB : MRelT false C03Prog.Ex.sc.mem C03Prog.Ex.sf.mem :=
  mrelT_init C03Prog.Ex.geo1 C03Prog.Ex.geo1_ok true C03Prog.Ex.assoc1_ok false 10 []

end ArchSim.Lemmas.C12Prog.Ex
