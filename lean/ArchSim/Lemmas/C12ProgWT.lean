/-
C12, the memory table under write-through.  The backing memory of a write-through system is, as a structure (cells AND
key order), the flat reference memory fed the same history: reads and block fills never write to it, a rejected write
leaves it untouched, an accepted write performs exactly the flat `Mem.write`.
-/
import ArchSim.Lemmas.C12ProgTable

namespace ArchSim.Lemmas.C12Prog
open ArchSim ArchSim.Cache ArchSim.Mem ArchSim.Spec.ByteStore ArchSim.Lemmas.C18 ArchSim.Spec.CacheAbs
open ArchSim.Lemmas.C03 ArchSim.Lemmas.C12

variable {σ : Type} {P : PolicyOps σ} {WFp : σ → Prop}

theorem wt_step_mem {s : DSys σ} (hP : PolicyOK P s.geo.assoc WFp) (hs : CInv WFp s)
    (hwt : s.wt = true) (o : Spec.CacheAbs.Op) (ho : o.wf) :
    (stepOp P s o).sys.mem = (flatStep s.mem o).1 := by
  cases o with
  | read bits addr counted =>
    rw [flatStep_read_fst]
    obtain ⟨_, _, h, hm⟩ := readBlockSys_shape (P := P) s (dec s addr)
    exact ((read_sys s bits addr counted).2.1.trans (congrArg (·.mem) h)).trans (hm hwt)
  | write bits addr v =>
    obtain ⟨hb, hv⟩ : widthOK bits ∧ v < 2 ^ bits := ho
    rw [show stepOp P s (.write bits addr v) = s.writeWT P bits addr v from
      (write_eq s bits addr v).trans (if_pos hwt)]
    by_cases hacc : (Spec.CacheAbs.Op.write bits addr v).accepted
    · have ⟨hw, hin⟩ : inWord bits addr ∧ inData addr := hacc
      obtain ⟨m', hwr, _⟩ := write_riscv (CInvS_memOK hs.toCInvS) bits hb addr v hin (inWord_hi hw)
      rw [flatStep_write_fst hacc hwr]
      -- the write succeeds (C03), so it ended with the store into the unchanged backing memory
      rcases writeWT_mem_cases (P := P) s bits addr v hb with ⟨_, e, he⟩ | ⟨_, s2, extra, h2, hst⟩
      · rw [(writeWT_accepted hP hs hwt bits addr v hb hw hin hv).1] at he; cases he
      · rw [hst]
        exact wtStore_mem_ok s2 bits addr v extra m' none (by rw [h2]; exact hwr)
    · rw [flatStep_write_rejected hacc]
      exact writeWT_mem_rejected hs bits addr v hb hacc

end ArchSim.Lemmas.C12Prog
