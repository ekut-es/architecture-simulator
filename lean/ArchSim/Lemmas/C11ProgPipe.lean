/-
C11 at program level, five-stage mode: the sequential reference run does not depend on the instruction-cache state up
to `SimP`, hence neither do the final results of the five-stage pipeline.  Also the objects for the examples of
`Props/C11Prog.lean`.
-/
import ArchSim.Lemmas.C11ProgSingle
import ArchSim.Lemmas.C02Conv

namespace ArchSim.Lemmas.C11Prog
open ArchSim ArchSim.Cache ArchSim.Rv ArchSim.Pipe ArchSim.Lemmas.C09 ArchSim.Lemmas.C11

theorem seqRun_simP {s t : St} (h : SimP s t) (hs : ICoh s.imem) (ht : ICoh t.imem) :
    ∀ n, SimP (seqRun n s) (seqRun n t)
  | 0 => h
  | n + 1 =>
    (seqStep_simP (seqRun_simP h hs ht n) (ICoh_seqRun s hs n).fetchSound
      (ICoh_seqRun t ht n).fetchSound).1

theorem seqFault_run_congr {s t : St} (h : SimP s t) (hs : ICoh s.imem) (ht : ICoh t.imem) (n : Nat) :
    seqFault (seqRun n s) = seqFault (seqRun n t) :=
  (seqStep_simP (seqRun_simP h hs ht n) (ICoh_seqRun s hs n).fetchSound
    (ICoh_seqRun t ht n).fetchSound).2.1

theorem seqTrace_congr {s t : St} (h : SimP s t) (hs : ICoh s.imem) (ht : ICoh t.imem) (n : Nat) :
    seqTrace n s = seqTrace n t :=
  seqTrace_ext n fun j _ =>
    seqLog_congr (seqRun_simP h hs ht j) (ICoh_seqRun s hs j).fetchSound (ICoh_seqRun t ht j).fetchSound

theorem five_stage_results_congr {s t : St} (h : SimP s t) (hps : ProgOK s.imem) (hpt : ProgOK t.imem)
    (hs : ICoh s.imem) (ht : ICoh t.imem) (hx : s.exitCode = none)
    (n : Nat) (hrn : runOK n (PSt.init s true)) (hdn : isDone (pipeRun n (PSt.init s true)) = true)
    (hpn : ∀ j, j < n → isDone (pipeRun j (PSt.init s true)) = false)
    (m : Nat) (hrm : runOK m (PSt.init t true)) (hdm : isDone (pipeRun m (PSt.init t true)) = true)
    (hpm : ∀ j, j < m → isDone (pipeRun j (PSt.init t true)) = false) :
    SimP (pipeRun n (PSt.init s true)).st (pipeRun m (PSt.init t true)).st ∧
      retireLog n (PSt.init s true) = retireLog m (PSt.init t true) ∧
      ∃ k, k ≤ n ∧ k ≤ m ∧ SimP (pipeRun n (PSt.init s true)).st (seqRun k s) ∧
        SimP (pipeRun m (PSt.init t true)).st (seqRun k t) := by
  have hxt : t.exitCode = none := by rw [← h.1.exitCode]; exact hx
  obtain ⟨k, hk, hsim, hd, hnd, hlog, _⟩ := final_state_init s hps hs hx n hrn hdn hpn
  obtain ⟨k', hk', hsim', hd', hnd', hlog', _⟩ := final_state_init t hpt ht hxt m hrm hdm hpm
  have hrun := seqRun_simP h hs ht
  have hkk : k = k' := first_true_eq hd hd' hnd hnd' (fun j _ => singleDone_congr (hrun j))
  subst hkk
  refine ⟨hsim.trans ((hrun k).trans hsim'.symm), ?_, k, hk, hk', hsim, hsim'⟩
  rw [hlog, hlog', seqTrace_congr h hs ht k]

/-! ### Concrete objects for the non-vacuity examples of `Props/C11Prog.lean` -/

def exProg2 : List Instr :=
  [ { op := .addi, rd := 1, rs1 := 0, imm := 5 }, { op := .add, rd := 2, rs1 := 1, rs2 := 1 } ]
def exGeo1 : Geo := { idxBits := 0, blkBits := 1, assoc := 1 }
def exCache1 : ICache := ICache.init true exGeo1 7
def exStN : St :=
  { regs := fun _ => 0, pc := 0, mem := .flat (Mem.Mem.empty Mem.riscvCfg),
    imem := { prog := exProg2, cache := none }, output := "", exitCode := none, cycles := 0, instrs := 0,
    branches := 0, procs := 0, stalls := 0, flushes := 0 }
def exStC : St := { exStN with imem := { prog := exProg2, cache := some exCache1 } }

end ArchSim.Lemmas.C11Prog
