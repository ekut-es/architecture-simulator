/-
Completion functions: every instruction in flight is completed from the register it sits in,
oldest first, stopping at the first that redirects, exits or faults (`absC`); the result is the
sequential state a pipeline state stands for. With it the observational equality in which the
refinement is stated and the invariant `PInv`.
-/
import ArchSim.Lemmas.C02Step

namespace ArchSim.Pipe
open ArchSim ArchSim.Rv

/-- Result of completing in-flight instructions: the accumulated state (its `pc` is never touched)
    and `red`: `none` while the path is live, `some (a, none)` once an instruction redirected to `a`
    (taken branch, jump, exit), `some (a, some f)` once the instruction at address `a` got stuck
    with fault `f`. -/
structure Comp where
  st  : St
  red : Option (Int × Option Fault)
  /-- addresses of the instructions that were completed (retired), oldest first -/
  log : List Int := []

/-- The pc after the completion: the redirect target / address of the stuck instruction, else `x`. -/
def Comp.pcOr (c : Comp) (x : Int) : Int :=
  match c.red with
  | none => x
  | some (a, _) => a

def Comp.flt (c : Comp) : Option (Int × Fault) :=
  match c.red with
  | some (a, some f) => some (a, f)
  | _ => none

def Comp.bind (c : Comp) (f : St → Comp) : Comp :=
  match c.red with
  | none => ⟨(f c.st).st, (f c.st).red, c.log ++ (f c.st).log⟩
  | some _ => c

def pureC (s : St) : Comp := ⟨s, none, []⟩

def Comp.prefixLog (c : Comp) (L : List Int) : Comp := { c with log := L ++ c.log }

def finishC (s : St) (fl : Option Int) : Comp :=
  match fl with
  | some a => ⟨s, some (a % 4294967296, none), []⟩
  | none => ⟨s, none, []⟩

/-- Stop at a faulting instruction: nothing of it is executed, pc is its address. -/
def stuckC (s : St) (ft : PFault) : Comp := ⟨s, some (ft.addr, some ft.fault), []⟩

def orElseFl (a b : Option Int) : Option Int := match a with | some x => some x | none => b

def latchLog (l : Option Latch) : List Int := match l with | some x => [x.addr] | none => []

-- `cWB`, `cMEM`, `cEX`, `cID` never touch the pc and keep a redirect in `red`; `completeMEMWB`,
-- `completeEXMEM`, `completeIDEX : … → Rv.StepOut` (C02SplitStages; `splitStep` is made of them) apply it to
-- the pc. The two families are related in C02Main: `completeMEMWB_cWB`, `splitTail_cID`.

/-- Remaining write-back of a MEM/WB latch; `fl` = redirect requested by earlier stages that has
    not been applied physically. -/
def cWB (s : St) (m : Option Latch) (fl : Option Int) : Comp :=
  { finishC (wbStage s m).1 (orElseFl (latchFlush (wbStage s m).2) fl) with log := latchLog m }

def latchAddr (l : Option Latch) : Int := match l with | some x => x.addr | none => 0

/-- Memory access + write-back of an EX/MEM latch. -/
def cMEM (s : St) (e : Option Latch) (fl : Option Int) : Comp :=
  match (memStage s e).fault with
  | some ft => stuckC s ft
  | none => cWB (memStage s e).st (memStage s e).latch (orElseFl (latchFlush (memStage s e).latch) fl)

/-- Execute + memory + write-back of a final ID/EX latch, with nothing older in flight. Final: the operands in
    `d.rr` are those a sequential execution reads (`id_advance`), so `cEX` trusts the latch where `cID`
    decodes afresh from the accumulated state. -/
def cEX (s : St) (d : Option Latch) : Comp :=
  match (exStage s d none none).fault with
  | some ft => stuckC s ft
  | none => cMEM (exStage s d none none).st (exStage s d none none).latch
              (latchFlush (exStage s d none none).latch)

/-- Full execution of an IF/ID latch reading its sources from the accumulated state. -/
def cID (s : St) (f : Option Latch) : Comp := cEX s (idStage false s.regs f none none)

/-- The IF/ID latch that is younger than the input of ID (only while stalled). -/
def ifEntry (p : PSt) : Option Latch :=
  match p.stalled with
  | none => none
  | some _ => p.l0

/-- Completion of everything in flight, oldest first. While stalled, ID (for `k = 2` also EX) recomputes its
    output register `l1` (`l2`) every cycle from the preserved `p0` (`p1`), so these are not in flight: the chain
    takes the stage inputs (`p1`, `p0`; `none` for the stage after the stalled one) and then `l0`, which was
    fetched in the pick-up cycle and is younger than `p0` (`ifEntry`). -/
def absC (p : PSt) : Comp :=
  ((((cWB p.st p.l3 none).bind (fun s => cMEM s (memInput p) none)).bind
      (fun s => cEX s (exInput p))).bind (fun s => cID s (idInput p))).bind
      (fun s => cID s (ifEntry p))

/-- Completion of the two oldest entries (the inputs of WB and MEM). -/
def older (p : PSt) : Comp := (cWB p.st p.l3 none).bind (fun s => cMEM s (memInput p) none)

/-- Completion of the three oldest entries (inputs of WB, MEM, EX). -/
def mid (p : PSt) : Comp := (older p).bind (fun s => cEX s (exInput p))

theorem absC_eq (p : PSt) :
    absC p = ((mid p).bind (fun s => cID s (idInput p))).bind (fun s => cID s (ifEntry p)) := rfl

def abs (p : PSt) : St := { (absC p).st with pc := (absC p).pcOr p.st.pc }

/-- The fault of the oldest in-flight instruction that will fault, if any. -/
def absF (p : PSt) : Option (Int × Fault) := (absC p).flt

/-- Observational equality of architectural states: everything except the cycle / stall / flush
    counters, the instruction-cache state, and the pc (compared separately). -/
structure Sim (s t : St) : Prop where
  regs : s.regs = t.regs
  mem : s.mem = t.mem
  output : s.output = t.output
  exitCode : s.exitCode = t.exitCode
  instrs : s.instrs = t.instrs
  branches : s.branches = t.branches
  procs : s.procs = t.procs
  prog : s.imem.prog = t.imem.prog

theorem Sim.rfl' (s : St) : Sim s s := ⟨rfl, rfl, rfl, rfl, rfl, rfl, rfl, rfl⟩
theorem Sim.symm {s t : St} (h : Sim s t) : Sim t s :=
  ⟨h.1.symm, h.2.symm, h.3.symm, h.4.symm, h.5.symm, h.6.symm, h.7.symm, h.8.symm⟩
theorem Sim.trans {s t u : St} (h : Sim s t) (g : Sim t u) : Sim s u :=
  ⟨h.1.trans g.1, h.2.trans g.2, h.3.trans g.3, h.4.trans g.4, h.5.trans g.5, h.6.trans g.6,
   h.7.trans g.7, h.8.trans g.8⟩

/-- Observational equality including the pc. -/
def SimP (s t : St) : Prop := Sim s t ∧ s.pc = t.pc

theorem SimP.trans {s t u : St} (h : SimP s t) (g : SimP t u) : SimP s u := ⟨h.1.trans g.1, h.2.trans g.2⟩
theorem SimP.symm {s t : St} (h : SimP s t) : SimP t s := ⟨h.1.symm, h.2.symm⟩
theorem SimP.rfl' (s : St) : SimP s s := ⟨Sim.rfl' s, rfl⟩

/-- Same redirect status, observationally equal states, and the log of `d` is `pre` followed by the
    log of `c`. -/
structure CSimL (pre : List Int) (c d : Comp) : Prop where
  red : c.red = d.red
  sim : Sim c.st d.st
  log : pre ++ c.log = d.log

/-- Same redirect status, observationally equal states, same log. -/
abbrev CSim (c d : Comp) : Prop := CSimL [] c d

/-- Addresses of the in-flight instructions that will retire, oldest first. -/
def absLog (p : PSt) : List Int := (absC p).log

theorem CSim.rfl' (c : Comp) : CSim c c := ⟨rfl, Sim.rfl' _, rfl⟩
theorem CSim.symm {c d : Comp} (h : CSim c d) : CSim d c := ⟨h.1.symm, h.2.symm, h.3.symm⟩
theorem CSim.trans {c d e : Comp} (h : CSim c d) (g : CSim d e) : CSim c e :=
  ⟨h.1.trans g.1, h.2.trans g.2, h.3.trans g.3⟩
theorem CSimL.trans_left {pre : List Int} {c d e : Comp} (h : CSim c d) (g : CSimL pre d e) : CSimL pre c e :=
  ⟨h.1.trans g.1, h.2.trans g.2, by rw [← g.3, ← h.3]; rfl⟩
theorem CSimL.trans_right {pre : List Int} {c d e : Comp} (h : CSimL pre c d) (g : CSim d e) : CSimL pre c e :=
  ⟨h.1.trans g.1, h.2.trans g.2, h.3.trans g.3⟩

/-! ### The shape invariant -/

/-- Well-formedness of an instruction as produced by the Python constructors: `ecall` has `rd = 0`
    (it is `IType(rd=0, rs1=0, imm=0)`), the stored shift amount of `srai` is non-negative. -/
def InstrOK (i : Instr) : Prop := (i.op = .ecall → i.rd = 0) ∧ (i.op = .srai → 0 ≤ i.imm)

def ProgOK (im : IMem) : Prop := ∀ pc i, im.instrAt pc = some i → InstrOK i

/-- A fetch at an occupied address returns the instruction stored there and keeps the program. -/
def FetchSound (im : IMem) : Prop :=
  ∀ pc i, im.instrAt pc = some i → (im.fetch pc).res = .ok (some i) ∧ (im.fetch pc).imem.prog = im.prog

/-- Instruction memory after a sequence of fetches. -/
def fetchAll (im : IMem) : List Int → IMem
  | [] => im
  | pc :: pcs => fetchAll (im.fetch pc).imem pcs

/-- Coherence of the instruction memory system: after any sequence of fetches, fetching is sound.
    (Trivial without an instruction cache when the program fits the 16 KiB instruction memory; for a
    cache this is the transparency property C11.) -/
def ICoh (im : IMem) : Prop := ∀ pcs, FetchSound (fetchAll im pcs)

def LatchOK (l : Option Latch) : Prop := ∀ x, l = some x → InstrOK x.instr
def WregOK (l : Option Latch) : Prop := ∀ x, l = some x → x.wreg = writeReg x.instr
def ExitIsEcall (l : Option Latch) : Prop := ∀ x, l = some x → x.exitCode.isSome = true → x.instr.op = .ecall
def latchExit (l : Option Latch) : Bool := match l with | some x => x.exitCode.isSome | none => false
def EcallFlagged (l : Option Latch) : Prop := ∃ e, l = some e ∧ e.flagged = true ∧ e.instr.op = .ecall
def Unflagged (l : Option Latch) : Prop := ∀ x, l = some x → x.flagged = false
/-- The read record of the latch is what `accessRegs` produced from some register file. -/
def RrOK (l : Option Latch) : Prop := ∀ x, l = some x → ∃ regs, x.rr = accessRegs x.instr regs
def noInstr (s : St) : Prop := s.imem.instrAt s.pc = none

/-- Reachable shapes of the stall bookkeeping and of the bubbles.
    Not stalled: a bubble directly ahead of an occupied register has only bubbles ahead of it (so an
    ECALL in EX that finds EX/MEM empty finds MEM/WB empty too and runs once), and an empty IF/ID
    register means nothing to fetch or an empty ID/EX register.
    ID stall (`k = 1`): two cycles left, or one with EX/MEM already a bubble; the preserved IF/ID
    register and the stalled ID/EX register are occupied.
    EX stall (`k = 2`, an ECALL drains): two cycles left while MEM/WB still holds the instruction it
    waits for, one left once MEM/WB is empty; the preserved ID/EX register is the flagged ECALL and
    EX/MEM holds its stall signal.
    In both stall modes an empty IF/ID register means nothing to fetch (`noInstr_out`); under an EX stall an
    empty preserved IF/ID register has an empty IF/ID register behind it. -/
def Shape (p : PSt) : Prop :=
  match p.stalled with
  | none =>
    (p.l1.isSome = true → p.l2 = none → p.l3 = none) ∧
    (p.l0.isSome = true → p.l1 = none → p.l2 = none) ∧
    (p.l0 = none → noInstr p.st ∨ p.l1 = none)
  | some st =>
    (st.k = 1 ∧ (st.rem = 2 ∨ (st.rem = 1 ∧ p.l2 = none)) ∧ (p.l0 = none → noInstr p.st) ∧
      st.p0.isSome = true ∧ p.l1.isSome = true) ∨
    (st.k = 2 ∧ ((st.rem = 2 ∧ p.l3.isSome = true) ∨ (st.rem = 1 ∧ p.l3 = none)) ∧ EcallFlagged st.p1 ∧
      (p.l0 = none → noInstr p.st) ∧ (st.p0 = none → p.l0 = none) ∧ p.l2.isSome = true)

/-- The invariant of the refinement proof. What each clause is for:
    `progOK`, `icoh` — a fetch at an occupied pc delivers the stored, well-formed instruction, after any
    earlier fetches (`ifOut_instr`, `ifOut_inv`; the sequential machine needs the same, `ICoh_seqRun`);
    `ok0`, `ok1`, `okS` — the instruction in front of EX is well-formed, so with `r1` the ALU cannot hit
    its assertion (`aluCompute_some` in `ex_fault_local`) and an ecall writes no register (`ecall_not_writes`);
    `w1`, `w2` — the write register is the instruction's, so "no hazard signal" means "not written"
    (`rawFree_of_hazard`, C08's `rawFree_of_hazardFree`);
    `f1` — only a stall flags a latch, so an ecall in an unstalled EX waits for both older latches
    (`ecall_runs_iff`);
    `r1` — ID read the operands the instruction's type selects (`aluCompute_some`);
    `x2` — an exit code sits on an ecall, which then raises the flush in MEM (`memFlush_exit`);
    `e3` — behind an exiting ecall in MEM/WB the EX/MEM latch is empty (`abs_flush4`, `mem_fault_local`);
    `shape` — the reachable stall and bubble patterns (`Shape`). -/
structure PInv (p : PSt) : Prop where
  progOK : ProgOK p.st.imem
  icoh : ICoh p.st.imem
  ok0 : LatchOK p.l0
  ok1 : LatchOK p.l1
  okS : ∀ st, p.stalled = some st → LatchOK st.p0 ∧ LatchOK st.p1 ∧ WregOK st.p1 ∧ RrOK st.p1
  w1 : WregOK p.l1
  f1 : Unflagged p.l1
  r1 : RrOK p.l1
  w2 : WregOK p.l2
  x2 : ExitIsEcall p.l2
  e3 : latchExit p.l3 = true → p.l2 = none
  shape : Shape p

theorem PInv_init (st : St) (h : Bool) (hp : ProgOK st.imem) (hc : ICoh st.imem) : PInv (PSt.init st h) := by
  constructor <;> simp [PSt.init, LatchOK, WregOK, Unflagged, RrOK, ExitIsEcall, latchExit, Shape, hp, hc]

end ArchSim.Pipe
