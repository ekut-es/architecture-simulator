/-
A run of direct writes (`writeSeq`) on the flat RISC-V data memory: what one write and a run of them store and what
they leave alone, and reading stored cells back with the accessor of the same width.
-/
import ArchSim.Model.Asm
import ArchSim.Lemmas.C03Mem

namespace ArchSim.Lemmas.C05
open ArchSim ArchSim.Asm ArchSim.Rv ArchSim.Mem ArchSim.Lemmas.C18
open ArchSim.Spec.ByteStore (cellVal cellOk leSum)

theorem flat_write_ok (m : Mem) (hc : m.cfg = riscvCfg) (bits : Nat) (hb : bits = 8 ∨ bits = 16 ∨ bits = 32)
    (a : Int) (hlo : 16384 ≤ a) (hhi : a + ((bits / 8 : Nat) : Int) ≤ 4294967296) (v : Nat) (direct : Bool) :
    ∃ m', MemSys.write (.flat m) bits a v direct = { mem := .flat m', res := .ok 0, extra := 0 } ∧
      m'.cfg = riscvCfg ∧
      (∀ x, (x < a ∨ a + ((bits / 8 : Nat) : Int) ≤ x) → m'.cells x = m.cells x) ∧
      (∀ j : Nat, j < bits / 8 → m'.cells (a + (j : Int)) = cellVal riscvCfg v j) := by
  -- the special case of `C03.write_riscv_cfg` for an address that is its own residue modulo 2^32
  have hw : ((Cache.wrap32 a : Nat) : Int) = a := by rw [C03.wrap32_cast]; omega
  obtain ⟨m', e1, e2, -, e4, e5, -⟩ := C03.write_riscv_cfg hc bits hb a v (by omega) (by omega)
  refine ⟨m', by simp only [MemSys.write, e1], e2, fun x hx => e5 x (by omega), fun j hj => ?_⟩
  rw [show a + (j : Int) = ((Cache.wrap32 a + j : Nat) : Int) by omega]
  exact e4 j hj

theorem writeSeq_ctr_ge (bits : Nat) (vals : List Int) (ms : MemSys) (a : Int) :
    a ≤ (writeSeq bits vals ms a).2.1 := by
  induction vals generalizing ms a with
  | nil => simp [writeSeq]
  | cons v vs ih =>
    simp only [writeSeq]
    split
    · exact Int.le_refl _
    · exact Int.le_refl _
    · have := ih (ms.write bits a ((v % (2 : Int) ^ bits).toNat) true).mem (a + ((bits / 8 : Nat) : Int))
      omega

theorem writeSeq_flat (bits : Nat) (hb : bits = 8 ∨ bits = 16 ∨ bits = 32) (vals : List Int) (m : Mem)
    (hc : m.cfg = riscvCfg) (a : Int) (hlo : 16384 ≤ a)
    (hhi : a + (vals.length : Int) * ((bits / 8 : Nat) : Int) ≤ 4294967296) :
    ∃ m', writeSeq bits vals (.flat m) a = (.flat m', a + (vals.length : Int) * ((bits / 8 : Nat) : Int), none) ∧
      m'.cfg = riscvCfg ∧
      (∀ x, (x < a ∨ a + (vals.length : Int) * ((bits / 8 : Nat) : Int) ≤ x) → m'.cells x = m.cells x) ∧
      (∀ (i : Nat) (hi : i < vals.length) (j : Nat), j < bits / 8 →
        m'.cells (a + (i : Int) * ((bits / 8 : Nat) : Int) + (j : Int)) =
          cellVal riscvCfg ((vals[i] % (2 : Int) ^ bits).toNat) j) := by
  induction vals generalizing m a with
  | nil => exact ⟨m, by simp [writeSeq], hc, fun _ _ => rfl, fun i hi => absurd hi (Nat.not_lt_zero _)⟩
  | cons v vs ih =>
    have hsz : 0 < bits / 8 := by omega
    have hlen : ((v :: vs).length : Int) = (vs.length : Int) + 1 := by simp
    rw [hlen] at hhi ⊢
    have hmul : ((vs.length : Int) + 1) * ((bits / 8 : Nat) : Int)
        = (vs.length : Int) * ((bits / 8 : Nat) : Int) + ((bits / 8 : Nat) : Int) := by
      rw [Int.add_mul, Int.one_mul]
    have hnn : 0 ≤ (vs.length : Int) * ((bits / 8 : Nat) : Int) := Int.mul_nonneg (by omega) (by omega)
    rw [hmul] at hhi ⊢
    obtain ⟨m1, hw, hc1, hfr1, hst1⟩ :=
      flat_write_ok m hc bits hb a hlo (by omega) ((v % (2 : Int) ^ bits).toNat) true
    obtain ⟨m2, hw2, hc2, hfr2, hst2⟩ := ih m1 hc1 (a + ((bits / 8 : Nat) : Int)) (by omega) (by omega)
    refine ⟨m2, ?_, hc2, ?_, ?_⟩
    · simp only [writeSeq, hw, hw2]
      congr 2
      omega
    · intro x hx
      rw [hfr2 x (by omega), hfr1 x (by omega)]
    · intro i hi j hj
      cases i with
      | zero =>
        simp only [List.getElem_cons_zero]
        have e : a + ((0 : Nat) : Int) * ((bits / 8 : Nat) : Int) + (j : Int) = a + (j : Int) := by simp
        rw [e, hfr2 _ (by omega), hst1 j hj]
      | succ i' =>
        simp only [List.getElem_cons_succ]
        have hi' : i' < vs.length := by simpa using hi
        have e : a + ((i' + 1 : Nat) : Int) * ((bits / 8 : Nat) : Int) + (j : Int)
            = a + ((bits / 8 : Nat) : Int) + (i' : Int) * ((bits / 8 : Nat) : Int) + (j : Int) := by
          rw [Int.natCast_succ, Int.add_mul, Int.one_mul]; omega
        rw [e]
        exact hst2 i' hi' j hj

/-! ### reading cells back -/

theorem read_of_cells (m : Mem) (hc : m.cfg = riscvCfg) (bits : Nat) (hb : bits = 8 ∨ bits = 16 ∨ bits = 32)
    (x : Int) (hlo : 16384 ≤ x) (hhi : x + ((bits / 8 : Nat) : Int) ≤ 4294967296) (v : Nat)
    (hcells : ∀ j : Nat, j < bits / 8 → m.cells (x + (j : Int)) = cellVal riscvCfg v j) :
    Mem.read m bits x = some (.ok (v % 2 ^ bits)) := by
  have hok : ∀ i, i < bits / 8 → cellOk m.cfg x i = true := by
    intro i hi; rw [hc, riscv_cellOk_iff]; omega
  have hcb : ¬ m.cfg.cellBits > bits := by rw [hc]; show ¬ 8 > bits; omega
  simp only [Mem.read, hcb, if_false]
  rw [hc, riscv_cellsOf, readN_ok m x (bits / 8) hok, hc]
  rw [leSum_congr riscvCfg (bits / 8) _ (cellVal riscvCfg v) (by
    intro i hi
    rw [riscv_wrap, Int.emod_eq_of_lt (by omega) (by omega)]
    exact hcells i hi)]
  rw [leSum_cellVal]
  have : bits / 8 * riscvCfg.cellBits = bits := by
    show bits / 8 * 8 = bits
    rcases hb with rfl | rfl | rfl <;> rfl
  simp [Except.map, this]

theorem flat_read_byte_cell (m : Mem) (hc : m.cfg = riscvCfg) (x : Int) (hlo : 16384 ≤ x) (hhi : x < 4294967296)
    (hlt : m.cells x < 256) :
    Mem.read m 8 x = some (.ok (m.cells x)) := by
  have := read_of_cells m hc 8 (Or.inl rfl) x hlo (by simp; omega) (m.cells x) (by
    intro j hj
    have : j = 0 := by omega
    subst this
    rw [C18.cellVal_zero]
    simp only [Int.natCast_zero, Int.add_zero]
    exact (Nat.mod_eq_of_lt hlt).symm)
  rw [this]
  simp [Nat.mod_eq_of_lt hlt]

end ArchSim.Lemmas.C05
