/-
What one `Pipe.step`, and hence a run, does to the parts of the state that no invariant is needed for: the instruction
memory without a cache, the flatness of the data memory, the cycle counter, the fetch outcome of the schedule skeleton.
Also the bridges between the three ways the property files iterate the pipeline (`Pipe.pipeRun`, `iter stepP`,
`C15.pipeRun`).
-/
import ArchSim.Lemmas.C07Flat
import ArchSim.Lemmas.C07LineStep
import ArchSim.Lemmas.C15Pipe
import ArchSim.Spec.PipeSeq
import ArchSim.Lemmas.C07SkelStep

namespace ArchSim.Lemmas.E2E2
open ArchSim ArchSim.Rv ArchSim.Pipe ArchSim.Lemmas.C07 ArchSim.Lemmas.C02Split

theorem pipeRun_eq_iter (n : Nat) (p : PSt) : pipeRun n p = iter stepP n p := by
  induction n with
  | zero => rfl
  | succ n ih => rw [iter_succ', ← ih]; rfl

theorem pipeRun15_eq (n : Nat) (p : PSt) : ArchSim.Lemmas.C15.pipeRun n p = pipeRun n p := by
  rw [pipeRun_eq_iter]
  induction n generalizing p with
  | zero => rfl
  | succ n ih => rw [ArchSim.Lemmas.C15.pipeRun, ih, iter_succ]; rfl

theorem ifStage_imem_nocache (s : St) (h : s.imem.cache = none) : (ifStage s).1.imem = s.imem := by
  unfold ifStage
  split
  · rfl
  · simp only
    split <;> exact (fetch_uncached_frame _ _ h).1

theorem sIF_imem_nocache (p : PSt) (h : p.st.imem.cache = none) : (sIF p).imem = p.st.imem := by
  unfold C07.sIF
  split
  · exact ifStage_imem_nocache (tick p.st) h
  · rfl

theorem step_imem_nocache (p : PSt) (h : p.st.imem.cache = none) : (step p).p.st.imem = p.st.imem := by
  rw [step_imem, sIF_imem_nocache p h]

theorem pipeRun_imem_nocache (n : Nat) (p : PSt) (h : p.st.imem.cache = none) :
    (pipeRun n p).st.imem = p.st.imem := by
  induction n with
  | zero => rfl
  | succ n ih => show (step (pipeRun n p)).p.st.imem = _; rw [step_imem_nocache _ (by rw [ih]; exact h), ih]

/-- the memory system is a flat memory (no data cache) -/
def IsFlat (ms : MemSys) : Prop := ∃ m, ms = .flat m

theorem memStage_isFlat (s : St) (inp : Option Latch) (h : IsFlat s.mem) : IsFlat (memStage s inp).st.mem := by
  obtain ⟨m, hm⟩ := h
  cases inp with
  | none => exact ⟨m, hm⟩
  | some e =>
    cases hma : memoryAccess e.instr e.result e.rr.d2 s.mem true with
    | none => rw [memStage_assert s e hma]; exact ⟨m, hm⟩
    | some o =>
      have hf : IsFlat o.mem := (memoryAccess_flat (hm ▸ hma)).2
      cases hres : o.res with
      | error err => rw [memStage_error s e o err hma hres]; exact hf
      | ok rd => rw [memStage_some s e o rd hma hres, memCount_st]; exact hf

theorem step_isFlat (p : PSt) (h : IsFlat p.st.mem) : IsFlat (step p).p.st.mem := by
  obtain ⟨m, hm⟩ := h
  have h1 : IsFlat (exO p).st.mem := ⟨m, exO_flat p m hm⟩
  have h2 : IsFlat (meO p).st.mem := memStage_isFlat _ _ h1
  exact step_p_cases p (IsFlat ·.st.mem) h1 h2 (by rw [(congrArg St.mem (finishStep_st ..) :)]; exact h2)

theorem pipeRun_isFlat (n : Nat) (p : PSt) (h : IsFlat p.st.mem) : IsFlat (pipeRun n p).st.mem := by
  induction n with
  | zero => exact h
  | succ n ih => exact step_isFlat _ ih

theorem pipeRun_ok (n : Nat) (p : PSt) (h : ArchSim.Lemmas.C15.PipeOK p) :
    ArchSim.Lemmas.C15.PipeOK (pipeRun n p) := by
  rw [← pipeRun15_eq]; exact ArchSim.Lemmas.C15.pipeRun_ok h n

/-- Sum of the fetch and data-access penalties of the first `n` cycles from `p`. -/
def penaltySum : Nat → PSt → Nat
  | 0, _ => 0
  | n + 1, p => penaltySum n p + fetchExtra (pipeRun n p) + memExtra (pipeRun n p)

theorem pipeRun_cycles (n : Nat) (p : PSt) (h : runOK n p) :
    (pipeRun n p).st.cycles = p.st.cycles + n + penaltySum n p := by
  induction n with
  | zero => rfl
  | succ n ih =>
    show (step (pipeRun n p)).p.st.cycles = _
    rw [step_cycles_ok _ (h n (Nat.lt_succ_self n)), ih (fun m hm => h m (Nat.lt_succ_of_lt hm)), penaltySum]
    omega

theorem step_cycles_plain (p : PSt) (hm : IsFlat p.st.mem) (hc : p.st.imem.cache = none) :
    (step p).p.st.cycles = p.st.cycles + 1 := by
  obtain ⟨m, hm⟩ := hm
  exact step_cycles_flat p m hm hc

theorem pipeRun_cycles_plain (n : Nat) (p : PSt) (hm : IsFlat p.st.mem) (hc : p.st.imem.cache = none) :
    (pipeRun n p).st.cycles = p.st.cycles + n := by
  induction n with
  | zero => rfl
  | succ n ih =>
    show (step (pipeRun n p)).p.st.cycles = _
    rw [step_cycles_plain _ (pipeRun_isFlat n p hm) (by rw [pipeRun_imem_nocache n p hc]; exact hc), ih]
    omega

theorem ifStage_fetched (s : St) (h : ArchSim.Lemmas.C15.ImemOK s.imem) :
    (ifStage s).2.map (·.instr) = s.imem.instrAt s.pc := by
  unfold ifStage
  cases hi : s.imem.instrAt s.pc with
  | none => rfl
  | some i =>
    simp only [ArchSim.Lemmas.C15.fetch_res h.1 h.2 hi]
    rfl

theorem outcomes_fetch (p : PSt) (h : ArchSim.Lemmas.C15.PipeOK p) :
    (outcomes p).fetched = p.st.imem.instrAt p.st.pc ∧
    (outcomes p).hasInstr = (p.st.imem.instrAt p.st.pc).isSome :=
  ⟨ifStage_fetched (tick p.st) h.imem, rfl⟩

end ArchSim.Lemmas.E2E2
