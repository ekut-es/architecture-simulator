/-
TOY assembler: `_segment` as a fold.  A directive opens the missing segment by splitting the other at its own line, a
second one of its kind is an error; conversely a token list with distinct line numbers that `segment` accepts has one
of six shapes (`SegShape`), so it is the text segment between two directive-and-data parts.
-/
import ArchSim.Lemmas.ToyAsmLabels

namespace ArchSim.ToyAsm
open ArchSim ArchSim.PP ArchSim.Toy

def isSegDir (e : Entry) : Bool := isDir "data" e || isDir "text" e

theorem isSegDir_noInstr (e : Entry) (h : isSegDir e = true) :
    declaredLabel e.2.2 = none ∧ isInstr e.2.2 = false := by
  simp only [isSegDir, isDir, Bool.or_eq_true, beq_iff_eq] at h
  rcases h with h | h <;> simp [h, declaredLabel, isInstr]

/-- the loop body of `_segment` -/
def segStep (acc : Except AsmErr Seg) (e : Entry) : Except AsmErr Seg :=
  match acc with
  | .error x => .error x
  | .ok s =>
    if isDir "data" e then
      if !s.dataExists then
        let idx := idxOfLine e.1 s.text
        .ok { s with dataExists := true, data := s.text.drop (idx + 1), text := s.text.take idx }
      else .error (.parser "ParserDirectiveException" e.1 e.2.1)
    else if isDir "text" e then
      if !s.textExists then
        let idx := idxOfLine e.1 s.data
        .ok { s with textExists := true, text := s.data.drop (idx + 1), data := s.data.take idx }
      else .error (.parser "ParserDirectiveException" e.1 e.2.1)
    else .ok s

/-- the state `_segment` starts its loop with -/
def seg0 (first : Entry) (rest : List Entry) : Seg :=
  if isDir "data" first then { data := rest, text := [], dataExists := true, textExists := false }
  else if isDir "text" first then { data := [], text := rest, dataExists := false, textExists := true }
  else { data := [], text := first :: rest, dataExists := false, textExists := true }

/-- what `_segment` returns after its loop -/
def segFinish : Except AsmErr Seg → Except AsmErr (List Entry × List Entry)
  | .error x => .error x
  | .ok s => .ok (s.data, s.text)

theorem segment_cons (first : Entry) (rest : List Entry) :
    segment (first :: rest) = segFinish (rest.foldl segStep (.ok (seg0 first rest))) := rfl

theorem isDir_data_not_text (e : Entry) (h : isDir "data" e = true) : isDir "text" e = false := by
  simp only [isDir, beq_iff_eq] at h
  simp [isDir, h]

theorem isDir_text_not_data (e : Entry) (h : isDir "text" e = true) : isDir "data" e = false := by
  simp only [isDir, beq_iff_eq] at h
  simp [isDir, h]

theorem isSegDir_false (e : Entry) (h : isSegDir e = false) :
    isDir "data" e = false ∧ isDir "text" e = false := by
  simpa [isSegDir] using h

theorem foldl_segStep_error (l : List Entry) (x : AsmErr) : l.foldl segStep (.error x) = .error x := by
  induction l with
  | nil => rfl
  | cons e l ih => simpa [List.foldl_cons, segStep] using ih

theorem foldl_segStep_noDir (l : List Entry) (h : ∀ e ∈ l, isSegDir e = false) (s : Seg) :
    l.foldl segStep (.ok s) = .ok s := by
  induction l with
  | nil => rfl
  | cons e l ih =>
    obtain ⟨h1, h2⟩ := isSegDir_false e (h e (by simp))
    simp only [List.foldl_cons, segStep, h1, h2]
    exact ih (fun x hx => h x (by simp [hx]))

/-- The model's `segment` finds a directive inside the segment collected so far by its LINE NUMBER (`idxOfLine e.1`;
    `_segment` looks the whole entry up with `list.index`, the same while line numbers are distinct), so it splits at
    the directive only if no earlier entry carries that number: the `hline` of `segStep_data` / `segStep_text`, and the
    reason `segment_shape` asks for distinct line numbers. -/
theorem idxOfLine_append (pre : List Entry) (e : Entry) (post : List Entry)
    (h : ∀ x ∈ pre, x.1 ≠ e.1) : idxOfLine e.1 (pre ++ e :: post) = pre.length := by
  induction pre with
  | nil => simp [idxOfLine, List.findIdx_cons]
  | cons x pre ih =>
    have hx : (x.1 == e.1) = false := by simpa using h x (by simp)
    have := ih (fun y hy => h y (by simp [hy]))
    simp only [idxOfLine] at this ⊢
    simp only [List.cons_append, List.findIdx_cons, hx, cond_false, this, List.length_cons]

/-! ### one directive -/

theorem foldl_segStep_dir (s : Seg) (pre : List Entry) (e : Entry) (post : List Entry)
    (h : ∀ x ∈ pre, isSegDir x = false) :
    (pre ++ e :: post).foldl segStep (.ok s) = post.foldl segStep (segStep (.ok s) e) := by
  rw [List.foldl_append, foldl_segStep_noDir pre h, List.foldl_cons]

theorem segStep_data (s : Seg) (e : Entry) (hD : isDir "data" e = true) (hs : s.dataExists = false)
    (pre post : List Entry) (ht : s.text = pre ++ e :: post) (hline : ∀ x ∈ pre, x.1 ≠ e.1) :
    segStep (.ok s) e = .ok { s with dataExists := true, data := post, text := pre } := by
  simp [segStep, hD, hs, ht, idxOfLine_append pre e post hline]

theorem segStep_text (s : Seg) (e : Entry) (hT : isDir "text" e = true) (hs : s.textExists = false)
    (pre post : List Entry) (hd : s.data = pre ++ e :: post) (hline : ∀ x ∈ pre, x.1 ≠ e.1) :
    segStep (.ok s) e = .ok { s with textExists := true, text := post, data := pre } := by
  simp [segStep, isDir_text_not_data e hT, hT, hs, hd, idxOfLine_append pre e post hline]

theorem segStep_dup (s : Seg) (e : Entry)
    (h : isDir "data" e = true ∧ s.dataExists = true ∨ isDir "text" e = true ∧ s.textExists = true) :
    segStep (.ok s) e = .error (.parser "ParserDirectiveException" e.1 e.2.1) := by
  rcases h with ⟨hD, hs⟩ | ⟨hT, hs⟩
  · simp [segStep, hD, hs]
  · simp [segStep, isDir_text_not_data e hT, hT, hs]

/-! ### a successful `segment` is one of six shapes -/

theorem split_first_dir (l : List Entry) :
    (∀ e ∈ l, isSegDir e = false) ∨
    ∃ pre e post, l = pre ++ e :: post ∧ (∀ x ∈ pre, isSegDir x = false) ∧ isSegDir e = true := by
  induction l with
  | nil => left; simp
  | cons a l ih =>
    by_cases ha : isSegDir a = true
    · right; exact ⟨[], a, l, rfl, by simp, ha⟩
    · have ha' : isSegDir a = false := by simpa using ha
      rcases ih with h | ⟨pre, e, post, rfl, h1, h2⟩
      · left
        intro e he
        rcases List.mem_cons.mp he with rfl | he
        · exact ha'
        · exact h e he
      · right
        refine ⟨a :: pre, e, post, rfl, ?_, h2⟩
        intro x hx
        rcases List.mem_cons.mp hx with rfl | hx
        · exact ha'
        · exact h1 x hx

theorem segFinish_both (l : List Entry) (s : Seg) (hd : s.dataExists = true) (ht : s.textExists = true)
    (data text : List Entry) (h : segFinish (l.foldl segStep (.ok s)) = .ok (data, text)) :
    data = s.data ∧ text = s.text ∧ ∀ e ∈ l, isSegDir e = false := by
  rcases split_first_dir l with hl | ⟨pre, e, post, rfl, h1, h2⟩
  · rw [foldl_segStep_noDir l hl] at h
    cases h
    exact ⟨rfl, rfl, hl⟩
  · have he : isDir "data" e = true ∨ isDir "text" e = true := by simpa [isSegDir] using h2
    rw [foldl_segStep_dir _ _ _ _ h1, segStep_dup s e (he.imp (⟨·, hd⟩) (⟨·, ht⟩)),
      foldl_segStep_error] at h
    cases h

/-- The shapes of a token list that `segment` accepts. -/
inductive SegShape (toks data text : List Entry) : Prop where
  | textOnly (h : ∀ e ∈ toks, isSegDir e = false) (hd : data = []) (ht : text = toks)
  | dataOnly (dD : Entry) (hD : isDir "data" dD = true) (hd : ∀ e ∈ data, isSegDir e = false)
      (heq : toks = dD :: data) (ht : text = [])
  | textDirOnly (dT : Entry) (hT : isDir "text" dT = true) (ht : ∀ e ∈ text, isSegDir e = false)
      (heq : toks = dT :: text) (hd : data = [])
  | dataText (dD dT : Entry) (hD : isDir "data" dD = true) (hT : isDir "text" dT = true)
      (hd : ∀ e ∈ data, isSegDir e = false) (ht : ∀ e ∈ text, isSegDir e = false)
      (heq : toks = dD :: (data ++ dT :: text))
  | textData (dT dD : Entry) (hT : isDir "text" dT = true) (hD : isDir "data" dD = true)
      (hd : ∀ e ∈ data, isSegDir e = false) (ht : ∀ e ∈ text, isSegDir e = false)
      (heq : toks = dT :: (text ++ dD :: data))
  | implicitTextData (dD : Entry) (hD : isDir "data" dD = true) (hne : text ≠ [])
      (hd : ∀ e ∈ data, isSegDir e = false) (ht : ∀ e ∈ text, isSegDir e = false)
      (heq : toks = text ++ dD :: data)

theorem nodup_append_cons {pre post : List Entry} {e : Entry}
    (h : ((pre ++ e :: post).map (·.1)).Nodup) : ∀ x ∈ pre, x.1 ≠ e.1 := by
  intro x hx heq
  rw [List.map_append, List.map_cons, List.nodup_append] at h
  obtain ⟨_, _, h3⟩ := h
  exact h3 x.1 (List.mem_map.mpr ⟨x, hx, rfl⟩) e.1 (by simp) heq

theorem segment_shape (toks data text : List Entry) (hnd : (toks.map (·.1)).Nodup)
    (h : segment toks = .ok (data, text)) : SegShape toks data text := by
  cases toks with
  | nil =>
    simp only [segment, Except.ok.injEq, Prod.mk.injEq] at h
    exact .textOnly (by simp) h.1.symm h.2.symm
  | cons first rest =>
    rw [segment_cons] at h
    have hnd' : (rest.map (·.1)).Nodup := by
      rw [List.map_cons, List.nodup_cons] at hnd; exact hnd.2
    have hfirst : isDir "data" first = false → isDir "text" first = false →
        ∀ l, (∀ x ∈ l, isSegDir x = false) → ∀ x ∈ first :: l, isSegDir x = false := by
      intro hD hT l hl x hx
      rcases List.mem_cons.mp hx with rfl | hx
      · simp [isSegDir, hD, hT]
      · exact hl x hx
    rcases split_first_dir rest with hl | ⟨pre, e, post, rfl, h1, h2⟩
    · -- no further directive: the start state is the result
      rw [foldl_segStep_noDir rest hl, seg0] at h
      cases hD : isDir "data" first with
      | true => rw [if_pos hD] at h; cases h; exact .dataOnly first hD hl rfl rfl
      | false =>
        rw [if_neg (by simp [hD])] at h
        cases hT : isDir "text" first with
        | true => rw [if_pos hT] at h; cases h; exact .textDirOnly first hT hl rfl rfl
        | false => rw [if_neg (by simp [hT])] at h; cases h; exact .textOnly (hfirst hD hT rest hl) rfl rfl
    · -- `e` is the second directive: it must open the segment that does not exist yet, and no third follows
      rw [foldl_segStep_dir _ _ _ _ h1, seg0] at h
      have hline := nodup_append_cons hnd'
      have heDT : isDir "data" e = true ∨ isDir "text" e = true := by
        simpa [isSegDir] using h2
      have dup : ∀ s, (isDir "data" e = true ∧ s.dataExists = true ∨ isDir "text" e = true ∧ s.textExists = true) →
          segFinish (post.foldl segStep (segStep (.ok s) e)) ≠ .ok (data, text) := by
        intro s hs h
        rw [segStep_dup s e hs, foldl_segStep_error] at h
        cases h
      cases hD : isDir "data" first with
      | true =>
        rw [if_pos hD] at h
        rcases heDT with heD | heT
        · exact absurd h (dup _ (.inl ⟨heD, rfl⟩))
        · rw [segStep_text _ e heT rfl pre post rfl hline] at h
          obtain ⟨rfl, rfl, hpost⟩ := segFinish_both post _ rfl rfl _ _ h
          exact .dataText first e hD heT h1 hpost rfl
      | false =>
        rw [if_neg (by simp [hD])] at h
        cases hT : isDir "text" first with
        | true =>
          rw [if_pos hT] at h
          rcases heDT with heD | heT
          · rw [segStep_data _ e heD rfl pre post rfl hline] at h
            obtain ⟨rfl, rfl, hpost⟩ := segFinish_both post _ rfl rfl _ _ h
            exact .textData first e hT heD hpost h1 rfl
          · exact absurd h (dup _ (.inr ⟨heT, rfl⟩))
        | false =>
          rw [if_neg (by simp [hT])] at h
          rcases heDT with heD | heT
          · rw [segStep_data _ e heD rfl (first :: pre) post rfl
              (nodup_append_cons (pre := first :: pre) (by simpa using hnd))] at h
            obtain ⟨rfl, rfl, hpost⟩ := segFinish_both post _ rfl rfl _ _ h
            exact .implicitTextData e heD (by simp) hpost (hfirst hD hT pre h1) rfl
          · exact absurd h (dup _ (.inr ⟨heT, rfl⟩))

theorem SegShape.decompose {toks data text : List Entry} (h : SegShape toks data text) :
    ∃ pre post, toks = pre ++ text ++ post ∧
      (∀ e ∈ pre, isSegDir e = true ∨ e ∈ data) ∧ (∀ e ∈ post, isSegDir e = true ∨ e ∈ data) := by
  have dir : ∀ {d : Entry}, isDir "data" d = true ∨ isDir "text" d = true → isSegDir d = true ∨ d ∈ data :=
    fun h => Or.inl (by simpa [isSegDir] using h)
  have mem : ∀ e ∈ data, isSegDir e = true ∨ e ∈ data := fun _ => Or.inr
  cases h with
  | textOnly h hd ht => exact ⟨[], [], by simp [ht], by simp, by simp⟩
  | dataOnly dD hD hd heq ht =>
    exact ⟨dD :: data, [], by simp [heq, ht], List.forall_mem_cons.2 ⟨dir (.inl hD), mem⟩, by simp⟩
  | textDirOnly dT hT ht heq hd =>
    exact ⟨[dT], [], by simp [heq], List.forall_mem_cons.2 ⟨dir (.inr hT), by simp⟩, by simp⟩
  | dataText dD dT hD hT hd ht heq =>
    refine ⟨dD :: (data ++ [dT]), [], by simp [heq], List.forall_mem_cons.2 ⟨dir (.inl hD), ?_⟩, by simp⟩
    exact List.forall_mem_append.2 ⟨mem, List.forall_mem_cons.2 ⟨dir (.inr hT), by simp⟩⟩
  | textData dT dD hT hD hd ht heq =>
    exact ⟨[dT], dD :: data, by simp [heq], List.forall_mem_cons.2 ⟨dir (.inr hT), by simp⟩,
      List.forall_mem_cons.2 ⟨dir (.inl hD), mem⟩⟩
  | implicitTextData dD hD hne hd ht heq =>
    exact ⟨[], dD :: data, by simp [heq], by simp, List.forall_mem_cons.2 ⟨dir (.inl hD), mem⟩⟩

end ArchSim.ToyAsm
