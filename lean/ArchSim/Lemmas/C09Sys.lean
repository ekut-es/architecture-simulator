/-
The invariant `Inv` of the data-cache systems reachable from `DSys.init` (C09): what the accounting needs,
and no more.  With `blkBits ≤ 12` a block never straddles the lower end `16384 = 2^14` of the data range
nor the upper end `2^32`, so the lower memory never rejects the block transfers of an accepted access:
only its configuration matters, which is all `Inv` records of it.
-/
import ArchSim.Lemmas.C03Mem
import ArchSim.Lemmas.C09Set
import ArchSim.Lemmas.CacheForms

namespace ArchSim.Lemmas.C09

open ArchSim ArchSim.Cache ArchSim.Spec.TagCache

/-- Admissible geometry: the clauses of `Spec.CacheAbs.GeoOK` (`blkBits ≤ 12` keeps a block inside the
    data range, see `C03.decode_range`), a declaration of its own so that the accounting statements name
    only `Spec.TagCache` and the C09 modules (as `C09.PolicyOK`); `GeoOK.of_abs` converts. -/
structure GeoOK (g : Geo) : Prop where
  bits  : g.idxBits + g.blkBits + 2 ≤ 32
  blk   : g.blkBits ≤ 12
  assoc : 0 < g.assoc

instance (g : Geo) : Decidable (GeoOK g) :=
  if h : g.idxBits + g.blkBits + 2 ≤ 32 ∧ g.blkBits ≤ 12 ∧ 0 < g.assoc then
    isTrue ⟨h.1, h.2.1, h.2.2⟩
  else isFalse (fun k => h ⟨k.bits, k.blk, k.assoc⟩)

theorem GeoOK.of_abs {g : Geo} (h : Spec.CacheAbs.GeoOK g) : GeoOK g := ⟨h.bits, h.blk, h.assoc⟩

/-- A way never holds more than a block, and a dirty way can be written back: its block lies
    inside the data range. -/
def WayOK (g : Geo) (w : Way Nat) : Prop :=
  w.vals.length ≤ g.words ∧
  (w.dirty = true → 16384 ≤ w.base ∧ w.base + 4 * w.vals.length ≤ 4294967296)

structure SetOK {σ : Type} (ok : σ → Prop) (g : Geo) (cs : CSet σ Nat) : Prop where
  nways : cs.ways.length = g.assoc
  pol   : ok cs.pol
  ways  : ∀ w ∈ cs.ways, WayOK g w

/-- Invariant of every data-cache system reachable from `DSys.init` over a RISC-V data memory: what the
    accounting needs, and no more (no distinct tags, no contents).  Every clause follows from `Spec.CacheAbs.CInvS`
    except that `WayOK` bounds `vals.length` for INVALID ways too, so neither invariant implies the other and
    `C09Prog.DOK` carries both. -/
structure Inv {σ : Type} (ok : σ → Prop) (s : DSys σ) : Prop where
  geo   : GeoOK s.geo
  nsets : s.sets.length = 2 ^ s.geo.idxBits
  sets  : ∀ cs ∈ s.sets, SetOK ok s.geo cs
  cfg   : s.mem.cfg = Mem.riscvCfg

theorem Inv.of_empty {σ : Type} {P : PolicyOps σ} {ok : σ → Prop} {s : DSys σ} (hg : GeoOK s.geo)
    (hP : PolicyOK P s.geo.assoc ok) (hs : s.sets = initSets P s.geo) (hm : s.mem.cfg = Mem.riscvCfg) :
    Inv ok s where
  geo := hg
  nsets := by simp [hs, initSets]
  sets := by
    intro cs hcs
    simp only [hs, initSets] at hcs
    rw [List.eq_of_mem_replicate hcs]
    exact ⟨List.length_replicate, hP.init, fun w hw => by rw [List.eq_of_mem_replicate hw]; exact ⟨Nat.zero_le _, fun h => by cases h⟩⟩
  cfg := hm

theorem SetOK.withPol {σ : Type} {ok : σ → Prop} {g : Geo} {cs : CSet σ Nat}
    (h : SetOK ok g cs) {p : σ} (hp : ok p) : SetOK ok g { cs with pol := p } :=
  ⟨h.nways, hp, h.ways⟩

theorem SetOK.withWay {σ : Type} {ok : σ → Prop} {g : Geo} {cs : CSet σ Nat}
    (h : SetOK ok g cs) {p : σ} (hp : ok p) (v : Nat) {w : Way Nat} (hw : WayOK g w) :
    SetOK ok g { ways := cs.ways.set v w, pol := p } :=
  ⟨by simp [h.nways], hp, fun w' hw' => by
    rcases List.mem_or_eq_of_mem_set hw' with h1 | h1
    · exact h.ways w' h1
    · exact h1 ▸ hw⟩

theorem Inv.update {σ : Type} {ok : σ → Prop} {s : DSys σ} (h : Inv ok s) (idx : Nat)
    {cs' : CSet σ Nat} (hcs : SetOK ok s.geo cs') {m' : Mem.Mem} (hm : m'.cfg = Mem.riscvCfg)
    (hits accesses : Nat) (lastHit : Bool) :
    Inv ok { s with sets := s.sets.set idx cs', mem := m', hits := hits, accesses := accesses,
                    lastHit := lastHit } where
  geo := h.geo
  nsets := by simp [h.nsets]
  sets := by
    intro cs hmem
    rcases List.mem_or_eq_of_mem_set hmem with h1 | h1
    · exact h.sets cs h1
    · exact h1 ▸ hcs
  cfg := hm

theorem Inv.counters {σ : Type} {ok : σ → Prop} {s : DSys σ} (h : Inv ok s)
    (hits accesses : Nat) (lastHit : Bool) :
    Inv ok { s with hits := hits, accesses := accesses, lastHit := lastHit } :=
  ⟨h.geo, h.nsets, h.sets, h.cfg⟩

theorem Inv.withMem {σ : Type} {ok : σ → Prop} {s : DSys σ} (h : Inv ok s)
    {m' : Mem.Mem} (hm : m'.cfg = Mem.riscvCfg) : Inv ok { s with mem := m' } :=
  ⟨h.geo, h.nsets, h.sets, hm⟩

theorem Inv.getSet {σ : Type} {ok : σ → Prop} {s : DSys σ} (h : Inv ok s) (a : Int) :
    ∃ cs, s.sets[(decode s.geo.idxBits s.geo.blkBits a).setIdx]? = some cs ∧
      SetOK ok s.geo cs := by
  have hlt := C03.decode_setIdx_lt s.geo.idxBits s.geo.blkBits a
  rw [← h.nsets] at hlt
  refine ⟨s.sets[(decode s.geo.idxBits s.geo.blkBits a).setIdx], List.getElem?_eq_getElem hlt, ?_⟩
  exact h.sets _ (List.getElem_mem hlt)

/-! ### Lane checks of an accepted access -/

theorem fromBlock_ok {bits : Nat} {a : Int} (h : Accepted bits a) (ib bb : Nat) (vals : List Nat) :
    ∃ v, fromBlock bits (decode ib bb a) vals = .ok v := by
  obtain ⟨hb, ho, _⟩ := h
  have hoff : (decode ib bb a).byteOff = wrap32 a % 4 := rfl
  unfold fromBlock
  rcases hb with rfl | rfl | rfl
  · exact ⟨_, rfl⟩
  · rw [if_neg (by decide), if_pos rfl, if_neg (by omega)]; exact ⟨_, rfl⟩
  · rw [if_neg (by decide), if_neg (by decide), if_neg (by omega)]; exact ⟨_, rfl⟩

theorem intoBlock_ok {bits : Nat} {a : Int} (h : Accepted bits a) (ib bb : Nat) (block : List Nat)
    (v : Nat) :
    ∃ b', intoBlock bits (decode ib bb a) block v = .ok b' ∧ b'.length = block.length :=
  ⟨_, C03.intoBlock_ok bits (decode ib bb a) block v h.1 h.2.1, List.length_set⟩

theorem memWrite_accepted {bits : Nat} {a : Int} (h : Accepted bits a) (m : Mem.Mem)
    (hc : m.cfg = Mem.riscvCfg) (v : Nat) :
    ∃ m', Mem.write m bits a v = some (m', none) ∧ m'.cfg = Mem.riscvCfg := by
  obtain ⟨m', h1, h2, _⟩ := C03.write_riscv_cfg hc bits h.1 a v h.2.2
    (by have := C03.wrap32_lt a; have := h.2.1; omega)
  exact ⟨m', h1, h2⟩

/-! ### Write-back of a displaced block -/

theorem writeDisplaced_ok {m : Mem.Mem} (hc : m.cfg = Mem.riscvCfg) {old : Way Nat} {g : Geo}
    (ho : WayOK g old) :
    ∃ m', m'.cfg = Mem.riscvCfg ∧
      C03.writeDisplaced m (if old.dirty then some (old.base, old.vals) else none) = (m', none) := by
  cases hd : old.dirty with
  | false => exact ⟨m, hc, rfl⟩
  | true =>
    obtain ⟨h1, h2⟩ := ho.2 hd
    obtain ⟨m', hm', hc', _⟩ := C03.writeBlockToMem_ok hc old.base old.vals 0 h1 (by omega)
    exact ⟨m', hc', hm'⟩

end ArchSim.Lemmas.C09
