/-
C04 (back end): a concrete listing used by the non-vacuity examples.
-/
import ArchSim.Lemmas.C04Build
import ArchSim.Lemmas.C04Branch
import ArchSim.Lemmas.C04Expand

namespace ArchSim.Lemmas.C04
open ArchSim ArchSim.Asm ArchSim.Rv

/-- ```
    start:
    foo: li x5, 100000
    loop:
    beq x5, x0, end
    ecall
    jal x0, loop+0x4
    end:
    ``` (text entries before expansion; the in-line label `foo` of line 2 is in `exPending`) -/
def exSource : List TEntry :=
  [ (1, "start:", .str "start"),
    (2, "foo: li x5, 100000", .grp (.li 5 100000)),
    (3, "loop:", .str "loop"),
    (4, "beq x5, x0, end", .grp (.btypeLabel "beq" 5 0 "end" 0)),
    (5, "ecall", .str "ecall"),
    (6, "jal x0, loop+0x4", .grp (.jalLabel 0 "loop" 4)),
    (7, "end:", .str "end") ]

def exPending : List (Nat × String) := [(2, "foo")]

/-- the listing after expansion -/
def exText : List TEntry :=
  [ (1, "start:", .str "start"),
    (2, "foo: li x5, 100000", .grp (.utype "lui" 5 24)),
    (2, "foo: li x5, 100000", .grp (.rri "addi" 5 5 1696)),
    (3, "loop:", .str "loop"),
    (4, "beq x5, x0, end", .grp (.btypeLabel "beq" 5 0 "end" 0)),
    (5, "ecall", .str "ecall"),
    (6, "jal x0, loop+0x4", .grp (.jalLabel 0 "loop" 4)),
    (7, "end:", .str "end") ]

def exLabels : Labels := [("start", 0), ("foo", 0), ("loop", 8), ("end", 20)]

def exProg : List Instr :=
  [ { op := .lui, rd := 5, imm := 24 }, { op := .addi, rd := 5, rs1 := 5, imm := 1696 },
    { op := .beq, rs1 := 5, rs2 := 0, imm := 12 }, { op := .ecall },
    { op := .jal, rd := 0, imm := -4, aux := 12 } ]

end ArchSim.Lemmas.C04
