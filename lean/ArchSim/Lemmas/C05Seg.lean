/-
`_segment` as a fold: `segment (first :: rest)` is `segStep` folded over `rest` from `seg0 first rest`; entries that are
no directive leave the state alone, a directive cuts the remaining entries at the index of its line. Both parts of the
pair `segment` returns, and the entry named in its error, are entries of the list.
-/
import ArchSim.Model.Asm

namespace ArchSim.Lemmas.C05
open ArchSim ArchSim.Asm ArchSim.Rv

/-- the step function of `segment` (a copy of the model's local `step`) -/
def segStep (acc : Except AsmErr Seg) (e : Entry) : Except AsmErr Seg :=
  match acc with
  | .error x => .error x
  | .ok s =>
    if isDir "data" e then
      if !s.dataExists then
        let idx := idxOfLine e.1 s.text
        .ok { s with dataExists := true, data := s.text.drop (idx + 1), text := s.text.take idx }
      else .error (.parser "ParserDirectiveException" e.1 e.2.1)
    else if isDir "text" e then
      if !s.textExists then
        let idx := idxOfLine e.1 s.data
        .ok { s with textExists := true, text := s.data.drop (idx + 1), data := s.data.take idx }
      else .error (.parser "ParserDirectiveException" e.1 e.2.1)
    else .ok s

theorem foldl_segStep_error (l : List Entry) (x : AsmErr) : l.foldl segStep (.error x) = .error x := by
  induction l with
  | nil => rfl
  | cons e l ih => simp only [List.foldl_cons, segStep, ih]

/-- the initial state of `segment` -/
def seg0 (first : Entry) (rest : List Entry) : Seg :=
  if isDir "data" first then { data := rest, text := [], dataExists := true, textExists := false }
  else if isDir "text" first then { data := [], text := rest, dataExists := false, textExists := true }
  else { data := [], text := first :: rest, dataExists := false, textExists := true }

theorem segment_cons (first : Entry) (rest : List Entry) :
    segment (first :: rest) =
      match rest.foldl segStep (.ok (seg0 first rest)) with
      | .error x => .error x
      | .ok s => .ok (s.data, s.text) := by
  rfl

/-- no entry of the list is a segment directive -/
def noDir (l : List Entry) : Prop := ∀ e ∈ l, isDir "data" e = false ∧ isDir "text" e = false

theorem foldl_noDir (l : List Entry) (s : Seg) (h : noDir l) : l.foldl segStep (.ok s) = .ok s := by
  induction l with
  | nil => rfl
  | cons e rest ih =>
    have he := h e (List.mem_cons_self ..)
    simp only [List.foldl_cons, segStep, he.1, he.2, Bool.false_eq_true, if_false]
    exact ih (fun x hx => h x (List.mem_cons_of_mem _ hx))

theorem segment_noDir (es : List Entry) (h : noDir es) : segment es = .ok ([], es) := by
  cases es with
  | nil => rfl
  | cons e rest =>
    have he := h e (List.mem_cons_self ..)
    rw [segment_cons, foldl_noDir rest _ (fun x hx => h x (List.mem_cons_of_mem _ hx))]
    simp only [seg0, he.1, he.2, Bool.false_eq_true, if_false]

theorem idxOfLine_append (l₁ l₂ : List Entry) (x : Entry) (h1 : ∀ e ∈ l₁, e.1 ≠ x.1) :
    idxOfLine x.1 (l₁ ++ x :: l₂) = l₁.length := by
  have h : l₁.findIdx (fun e => e.1 == x.1) = l₁.length :=
    List.findIdx_eq_length.mpr fun e he => beq_eq_false_iff_ne.mpr (h1 e he)
  simp [idxOfLine, List.findIdx_append, h, List.findIdx_cons]

theorem isDir_text_not_data (e : Entry) (h : isDir "text" e = true) : isDir "data" e = false := by
  simp only [isDir, Bool.and_eq_true, beq_iff_eq] at h
  simp only [isDir, h.1, Bool.and_eq_false_iff]
  left
  decide

theorem isDir_data_not_text (e : Entry) (h : isDir "data" e = true) : isDir "text" e = false := by
  simp only [isDir, Bool.and_eq_true, beq_iff_eq] at h
  simp only [isDir, h.1, Bool.and_eq_false_iff]
  left
  decide

/-! ### the error of `segment` and its two parts come from the entries -/

/-- Invariant of the `_segment` loop over the entries `toks`. -/
def SegInv (toks : List Entry) : Except AsmErr Seg → Prop
  | .error e => ∃ x ∈ toks, e = .parser "ParserDirectiveException" x.1 x.2.1
  | .ok s => (∀ x ∈ s.data, x ∈ toks) ∧ (∀ x ∈ s.text, x ∈ toks)

theorem segment_inv (toks : List Entry) :
    match segment toks with
    | .error e => ∃ x ∈ toks, e = .parser "ParserDirectiveException" x.1 x.2.1
    | .ok (d, t) => (∀ x ∈ d, x ∈ toks) ∧ (∀ x ∈ t, x ∈ toks) := by
  cases toks with
  | nil => simp [segment]
  | cons first rest =>
    rw [segment_cons]
    generalize hr : rest.foldl segStep (.ok (seg0 first rest)) = r
    have hinv : SegInv (first :: rest) r := by
      rw [← hr]
      refine List.foldlRecOn (motive := SegInv (first :: rest)) rest segStep ?_ ?_
      · unfold seg0
        split
        · exact ⟨fun x hx => List.mem_cons_of_mem _ hx, fun _ hx => (nomatch hx)⟩
        · split
          · exact ⟨fun _ hx => (nomatch hx), fun x hx => List.mem_cons_of_mem _ hx⟩
          · exact ⟨fun _ hx => (nomatch hx), fun x hx => hx⟩
      · intro acc h e he
        have he' : e ∈ first :: rest := List.mem_cons_of_mem _ he
        unfold segStep
        split
        · exact h
        · next s =>
          obtain ⟨hd, ht⟩ := h
          split
          · split
            · exact ⟨fun x hx => ht x (List.mem_of_mem_drop hx), fun x hx => ht x (List.mem_of_mem_take hx)⟩
            · exact ⟨e, he', rfl⟩
          · split
            · split
              · exact ⟨fun x hx => hd x (List.mem_of_mem_take hx), fun x hx => hd x (List.mem_of_mem_drop hx)⟩
              · exact ⟨e, he', rfl⟩
            · exact ⟨hd, ht⟩
    cases r with
    | error e => exact hinv
    | ok s => exact hinv

theorem segment_err {toks : List Entry} {e : AsmErr} (h : segment toks = .error e) :
    ∃ x ∈ toks, e = .parser "ParserDirectiveException" x.1 x.2.1 := by
  have := segment_inv toks
  rwa [h] at this

theorem segment_ok {toks d t : List Entry} (h : segment toks = .ok (d, t)) :
    (∀ x ∈ d, x ∈ toks) ∧ (∀ x ∈ t, x ∈ toks) := by
  have := segment_inv toks
  rwa [h] at this

end ArchSim.Lemmas.C05
