/-
One cache set and the array of sets, generic in the payload `α` and in the policy: the one place where
`read_block` / `write_block` of the model are unfolded, case by case, for the accounting proof, the
transparency proof (C03Sets) and the instruction cache (C11).  `findWay` is `findTag` of the erased ways,
so the erasure of the results is the reference `lookupSets`.
-/
import ArchSim.Spec.TagCache
import ArchSim.Spec.CacheAbs

namespace ArchSim.Lemmas.C09
open ArchSim ArchSim.Cache ArchSim.Spec.TagCache

/-! ### The abstract policy interface -/

/-- What the cache needs from a replacement policy: a predicate `ok` on policy states that holds
    initially and is preserved by `access`; on `ok` states `access` of a way `< assoc` never fails and
    `victim` never fails and names a way `< assoc`.  `Spec.CacheAbs.PolicyOK` states the same three
    clauses for the statements of C03 / C12 (`PolicyOK.abs` converts); the accounting statements name
    this one, so that they mention only `Spec.TagCache` and the C09 modules.  For LRU / PLRU: `C09.polOps_ok`
    (`Lemmas/C09Pol.lean`) for this one, `C03.pol_ok` (`Lemmas/C03Hist.lean`) for that one. -/
structure PolicyOK {σ : Type} (P : PolicyOps σ) (assoc : Nat) (ok : σ → Prop) : Prop where
  init   : ok (P.init assoc)
  access : ∀ s i, ok s → i < assoc → ∃ s', P.access s i = some s' ∧ ok s'
  victim : ∀ s, ok s → ∃ v, P.victim s = some v ∧ v < assoc

theorem PolicyOK.abs {σ : Type} {P : PolicyOps σ} {assoc : Nat} {ok : σ → Prop}
    (h : PolicyOK P assoc ok) : Spec.CacheAbs.PolicyOK P assoc ok := ⟨h.init, h.access, h.victim⟩

/-- Accessing the same way twice in a row is the same as accessing it once.  Needed because a write hit
    runs `read_block` and then `write_block`, each of which tells the policy about the way, while the
    reference cache tells it once (`lookupSets_hit_rewrite`); a policy that counts accesses
    (`C09.counterOps`) breaks the accounting of write hits. -/
def PolicyIdem {σ : Type} (P : PolicyOps σ) (ok : σ → Prop) : Prop :=
  ∀ s s' i, ok s → P.access s i = some s' → P.access s' i = some s'

/-! ### `findTag`, and `findWay` as `findTag` of the erased ways -/

theorem findTag_some {tags : List (Option Nat)} {t i : Nat} (h : findTag tags t = some i) :
    i < tags.length ∧ tags[i]? = some (some t) ∧ ∀ j, j < i → tags[j]? ≠ some (some t) := by
  unfold findTag at h
  simp only at h
  split at h
  · rename_i hlt
    cases h
    refine ⟨hlt, ?_, fun j hj => ?_⟩
    · have := List.findIdx_getElem (w := hlt)
      rw [List.getElem?_eq_getElem hlt]
      simpa using this
    · have := List.not_of_lt_findIdx hj
      rw [List.getElem?_eq_getElem (Nat.lt_trans hj hlt)]
      simpa using this
  · cases h

theorem findTag_none {tags : List (Option Nat)} {t : Nat} (h : findTag tags t = none) (j : Nat) :
    tags[j]? ≠ some (some t) := by
  unfold findTag at h
  simp only at h
  split at h
  · cases h
  · rename_i hge
    intro hj
    obtain ⟨hjl, hje⟩ := List.getElem?_eq_some_iff.mp hj
    have hall := List.findIdx_eq_length.mp (Nat.le_antisymm List.findIdx_le_length (Nat.le_of_not_lt hge))
    have := hall tags[j] (List.getElem_mem hjl)
    rw [hje] at this
    simp at this

theorem lt_of_getElem? {α : Type} {l : List α} {i : Nat} {a : α} (h : l[i]? = some a) :
    i < l.length := (List.getElem?_eq_some_iff.mp h).1

theorem eraseWay_beq {α : Type} (w : Way α) (t : Nat) :
    (eraseWay w == some t) = (w.valid && w.tag == t) := by
  unfold eraseWay
  cases w.valid <;> simp

theorem findWay_eq_findTag {α : Type} (ways : List (Way α)) (t : Nat) :
    findWay ways t = findTag (ways.map eraseWay) t := by
  unfold findWay findTag
  simp only [List.findIdx_map, Function.comp_def, eraseWay_beq, List.length_map]

section FindWay
variable {α : Type} {ways : List (Way α)} {t i : Nat}

theorem findWay_lt (h : findWay ways t = some i) :
    i < ways.length := by
  simpa using (findTag_some ((findWay_eq_findTag ways t).symm.trans h)).1

theorem findWay_tag (h : findWay ways t = some i) :
    (ways.map eraseWay)[i]? = some (some t) :=
  (findTag_some ((findWay_eq_findTag ways t).symm.trans h)).2.1

theorem eraseWay_get : (ways.map eraseWay)[i]? = some (some t) ↔ ∃ w, ways[i]? = some w ∧ w.valid = true ∧ w.tag = t := by
  rw [List.getElem?_map]
  cases ways[i]? with
  | none => simp
  | some w => cases hv : w.valid <;> simp [eraseWay, hv]

theorem findWay_some (h : findWay ways t = some i) : ∃ w, ways[i]? = some w ∧ w.valid = true ∧ w.tag = t :=
  eraseWay_get.mp (findWay_tag h)

theorem findWay_before (h : findWay ways t = some i) (j : Nat) (hj : j < i) : (ways.map eraseWay)[j]? ≠ some (some t) :=
  (findTag_some ((findWay_eq_findTag ways t).symm.trans h)).2.2 j hj

theorem findWay_none (h : findWay ways t = none) (j : Nat) : (ways.map eraseWay)[j]? ≠ some (some t) :=
  findTag_none ((findWay_eq_findTag ways t).symm.trans h) j

theorem findWay_of_first (hi : (ways.map eraseWay)[i]? = some (some t))
    (hb : ∀ j, j < i → (ways.map eraseWay)[j]? ≠ some (some t)) : findWay ways t = some i := by
  have hil : i < ways.length := by
    simpa using lt_of_getElem? hi
  cases h : findWay ways t with
  | none => exact absurd hi (findWay_none h i)
  | some k =>
    have hk := findWay_tag h
    have hkb := findWay_before h
    rcases Nat.lt_trichotomy k i with hlt | heq | hgt
    · exact absurd hk (hb k hlt)
    · rw [heq]
    · exact absurd hi (hkb i hgt)

end FindWay

/-! ### Model set array: `readBlock` / `writeBlock` case by case -/

section Blocks
variable {σ α : Type} {P : PolicyOps σ} {sets : List (CSet σ α)} {d : DAddr} {cs : CSet σ α}

/-- The way `writeBlock` stores. -/
def newWay (d : DAddr) (vals : List α) : Way α :=
  { valid := true, dirty := true, tag := d.tag, base := d.blockBase, vals := vals }

theorem newWay_tag (d : DAddr) (vals : List α) : (newWay d vals).tag = d.tag := rfl

theorem set_self {β : Type} {l : List β} {i : Nat} {a : β} (h : l[i]? = some a) : l.set i a = l := by
  obtain ⟨hi, rfl⟩ := List.getElem?_eq_some_iff.mp h
  exact List.set_getElem_self hi

theorem getElem?_set_of_some {β : Type} {l : List β} {i : Nat} {a b : β} (h : l[i]? = some a) :
    (l.set i b)[i]? = some b := by
  rw [List.getElem?_set_self (lt_of_getElem? h)]

theorem readBlock_miss (hs : sets[d.setIdx]? = some cs) (hf : findWay cs.ways d.tag = none) :
    readBlock P sets d = .ok (sets, none) := by
  simp only [readBlock, hs, CSet.read, hf, set_self hs]

theorem readBlock_hit {i : Nat} {p : σ} (hs : sets[d.setIdx]? = some cs)
    (hf : findWay cs.ways d.tag = some i) (ha : P.access cs.pol i = some p) :
    readBlock P sets d =
      .ok (sets.set d.setIdx { cs with pol := p }, some ((cs.ways[i]?.map (·.vals)).getD [])) := by
  simp only [readBlock, hs, CSet.read, hf, ha]

theorem writeBlock_miss {v : Nat} {p : σ} {old : Way α} (vals : List α)
    (hs : sets[d.setIdx]? = some cs) (hf : findWay cs.ways d.tag = none)
    (hv : P.victim cs.pol = some v) (ho : cs.ways[v]? = some old) (ha : P.access cs.pol v = some p) :
    writeBlock P sets d vals =
      .ok (sets.set d.setIdx { ways := cs.ways.set v (newWay d vals), pol := p }, false,
           if old.dirty then some (old.base, old.vals) else none) := by
  simp only [writeBlock, hs, CSet.write, hf, hv, ho, ha, newWay]

theorem writeBlock_hit {i : Nat} {p : σ} (vals : List α)
    (hs : sets[d.setIdx]? = some cs) (hf : findWay cs.ways d.tag = some i)
    (ha : P.access cs.pol i = some p) :
    writeBlock P sets d vals =
      .ok (sets.set d.setIdx { ways := cs.ways.set i (newWay d vals), pol := p }, true, none) := by
  simp only [writeBlock, hs, CSet.write, hf, ha, newWay]

/-- `write_block` right after `read_block` hit way `i` (and told the policy: `p`). -/
theorem writeBlock_rehit {i : Nat} {p p2 : σ} (vals : List α) (hs : sets[d.setIdx]? = some cs)
    (hf : findWay cs.ways d.tag = some i) (ha2 : P.access p i = some p2) :
    writeBlock P (sets.set d.setIdx { cs with pol := p }) d vals =
      .ok (sets.set d.setIdx { ways := cs.ways.set i (newWay d vals), pol := p2 }, true, none) := by
  rw [writeBlock_hit (cs := { cs with pol := p }) vals (getElem?_set_of_some hs) hf ha2, List.set_set]

/-! ### Erasure of the results -/

theorem erase_sets_get (hs : sets[d.setIdx]? = some cs) :
    (sets.map eraseSet)[d.setIdx]? = some (eraseSet cs) := by
  simp [List.getElem?_map, hs]

theorem eraseWay_newWay (vals : List α) : eraseWay (newWay d vals) = some d.tag := rfl

theorem findWay_set {ways : List (Way α)} {v : Nat} (vals : List α) (hv : v < ways.length)
    (hb : ∀ j, j < v → (ways.map eraseWay)[j]? ≠ some (some d.tag)) :
    findWay (ways.set v (newWay d vals)) d.tag = some v := by
  apply findWay_of_first
  · rw [List.map_set, List.getElem?_set_self (by simpa using hv)]
    rfl
  · intro j hj
    rw [List.map_set, List.getElem?_set_ne (by omega)]
    exact hb j hj

theorem lookupSets_hit {i : Nat} {p : σ} (alloc : Bool) (hs : sets[d.setIdx]? = some cs)
    (hf : findWay cs.ways d.tag = some i) (ha : P.access cs.pol i = some p) :
    lookupSets P (sets.map eraseSet) d alloc =
      ((sets.set d.setIdx { cs with pol := p }).map eraseSet, true) := by
  have hft : findTag (eraseSet cs).tags d.tag = some i := by
    rw [← hf, findWay_eq_findTag]; rfl
  simp only [lookupSets, erase_sets_get hs, TSet.lookup, hft, touch, List.map_set]
  simp [eraseSet, ha]

/-- Reference lookup = erasure of the model's hit followed by a rewrite of the same block
    (`readBlock` then `writeBlock`, which informs the policy a second time). -/
theorem lookupSets_hit_rewrite {i : Nat} {p : σ} (alloc : Bool) (vals : List α)
    (hs : sets[d.setIdx]? = some cs)
    (hf : findWay cs.ways d.tag = some i) (ha : P.access cs.pol i = some p) :
    lookupSets P (sets.map eraseSet) d alloc =
      ((sets.set d.setIdx { ways := cs.ways.set i (newWay d vals), pol := p }).map eraseSet, true) := by
  rw [lookupSets_hit alloc hs hf ha]
  simp only [List.map_set, eraseSet, List.map_set, eraseWay_newWay, set_self (findWay_tag hf)]

theorem lookupSets_miss_alloc {v : Nat} {p : σ} (vals : List α) (hs : sets[d.setIdx]? = some cs)
    (hf : findWay cs.ways d.tag = none) (hv : P.victim cs.pol = some v)
    (ha : P.access cs.pol v = some p) :
    lookupSets P (sets.map eraseSet) d true =
      ((sets.set d.setIdx { ways := cs.ways.set v (newWay d vals), pol := p }).map eraseSet, false) := by
  have hft : findTag (eraseSet cs).tags d.tag = none := by
    rw [← hf, findWay_eq_findTag]; rfl
  simp only [lookupSets, erase_sets_get hs, TSet.lookup, hft, touch, victimOf, List.map_set, if_true]
  simp [eraseSet, ha, hv, List.map_set, eraseWay_newWay]

theorem lookupSets_miss_noalloc (hs : sets[d.setIdx]? = some cs)
    (hf : findWay cs.ways d.tag = none) :
    lookupSets P (sets.map eraseSet) d false = (sets.map eraseSet, false) := by
  have hft : findTag (eraseSet cs).tags d.tag = none := by
    rw [← hf, findWay_eq_findTag]; rfl
  simp only [lookupSets, erase_sets_get hs, TSet.lookup, hft, Bool.false_eq_true, if_false,
    set_self (erase_sets_get hs)]

end Blocks

end ArchSim.Lemmas.C09
