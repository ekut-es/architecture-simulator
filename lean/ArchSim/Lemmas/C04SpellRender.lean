/-
`pInstrBody` on an instruction line in any spelling returns the intended syntax tree and leaves exactly the trailing
blanks: each body `bodyS_X` (operands of shape `X`) names the operand parsers that compete for the mnemonic and says, as
a fact about each competitor, why it fails or stops early. When a spelling can be read back:
`Spellable i → SpellableF sp i → Legible sp i`, the last being the hypothesis of the lemmas.
-/
import ArchSim.Lemmas.C04SpellAlts

namespace ArchSim.Lemmas.C04Spell
open ArchSim ArchSim.PP ArchSim.Rv ArchSim.Asm ArchSim.Lemmas.C14

section bodies
variable {g w1 w2 w3 w4 tr : List Char} (hg : AllWs g) (hgne : g ≠ []) (h1 : AllWs w1) (h2 : AllWs w2)
  (h3 : AllWs w3) (h4 : AllWs w4) (htr : AllWs tr)

include hg hgne h1 h2 h3 h4 htr in
theorem bodyS_R (op : Op) (h : cls op = .r) {a b c : Nat} (ha : a < 32) (hb : b < 32) (hc : c < 32)
    {s1 s2 s3 : RegStyle} :
    pInstrBody (mn op ++ tReg g s1 a (tSep w1 ',' (tReg w2 s2 b (tSep w3 ',' (tReg w4 s3 c tr)))))
      = .ok (.grp (.rtype op.mnemonic a b c)) tr := by
  rw [pInstrBody_cls op _ (wordSep_tReg g s1 a _ hg hgne), h]
  simp [clsRows, Row.tail, pick, tailR, pReg_tReg, pComma_tSep, tokEnd_tSep, tokEnd_allWs, comma_nlb, orStep, isAbort, *]

include hg hgne h1 h2 h3 h4 htr in
theorem bodyS_RRI (op : Op) (h : cls op = .imm3 ∨ cls op = .jalr ∨ cls op = .b) {a b : Nat} {v : Int}
    (ha : a < 32) (hb : b < 32) {s1 s2 : RegStyle} {sn : NumStyle} (hv : NumFits sn v) :
    pInstrBody (mn op ++ tReg g s1 a (tSep w1 ',' (tReg w2 s2 b (tSep w3 ',' (tNum w4 sn v tr)))))
      = .ok (.grp (.rri op.mnemonic a b v)) tr := by
  have hI : tailRRI op.mnemonic (tReg g s1 a (tSep w1 ',' (tReg w2 s2 b (tSep w3 ',' (tNum w4 sn v tr)))))
      = .ok (.grp (.rri op.mnemonic a b v)) tr := by
    simp only [tailRRI, bind_ok, map_ok, pReg_tReg, pImm_tNum w4 sn v _ h4 hv (tokEnd_allWs tr htr), pComma_tSep,
      tokEnd_tSep, comma_nlb, *]
  rw [pInstrBody_cls op _ (wordSep_tReg g s1 a _ hg hgne)]
  rcases h with h | h | h
  · simp [h, clsRows, Row.tail, pick, hI, orStep, isAbort]
  · -- `jalr` shares its mnemonic with the loads. `mn r, imm(r)` finds a register where it wants a number. The load by
    -- variable name SUCCEEDS: it reads the second register as a variable name and stops in front of `, imm`; it
    -- leaves more text than `mn r, r, imm`, so the longer match wins.
    have hM : tailMem op.mnemonic (tReg g s1 a (tSep w1 ',' (tReg w2 s2 b (tSep w3 ',' (tNum w4 sn v tr))))) = .fail := by
      simp only [tailMem, bind_ok, bind_fail, map_fail, pReg_tReg, pComma_tSep, tokEnd_tSep, comma_nlb, pImm_fail_tReg, *]
    have hP : tailMemP op.mnemonic (tReg g s1 a (tSep w1 ',' (tReg w2 s2 b (tSep w3 ',' (tNum w4 sn v tr)))))
        = .ok (.grp (.memPseudo op.mnemonic a (String.ofList (regSp s2 b)) none)) (tSep w3 ',' (tNum w4 sn v tr)) := by
      simp only [tailMemP, bind_ok, map_ok, pReg_tReg g s1 a _ hg ha (tokEnd_tSep w1 ',' _ h1 comma_nlb),
        pComma_tSep w1 _ h1, pVariable_tReg w2 s2 b _ h2 hb (tokEnd_tSep w3 ',' _ h3 comma_nlb)
          (tSep_head_ne w3 ',' '[' _ h3 (by decide) (by decide))]
    have hlen : tr.length < (tSep w3 ',' (tNum w4 sn v tr)).length := by
      simp only [tSep, tNum, List.length_append, List.length_cons]; omega
    simp [h, clsRows, Row.tail, pick, hI, hM, hP, orStep, isAbort, hlen]
  · -- a branch: `mn r, r, label` finds a number where it wants a label
    have hB : tailB op.mnemonic (tReg g s1 a (tSep w1 ',' (tReg w2 s2 b (tSep w3 ',' (tNum w4 sn v tr))))) = .fail := by
      simp only [tailB, bind_ok, bind_fail, map_fail, pReg_tReg, pComma_tSep, tokEnd_tSep, comma_nlb, pLabel_fail_tNum, *]
    simp [h, clsRows, Row.tail, pick, hI, hB, orStep, isAbort]

include hg hgne h1 h2 h3 h4 in
theorem bodyS_MEM {w5 : List Char} (h5 : AllWs w5) (op : Op) (h : cls op = .load ∨ cls op = .store) {a b : Nat}
    {v : Int} (ha : a < 32) (hb : b < 32) {s1 s2 : RegStyle} {sn : NumStyle}
    (hv : NumFits sn v) :
    pInstrBody (mn op ++ tReg g s1 a (tSep w1 ',' (tNum w2 sn v (tSep w3 '(' (tReg w4 s2 b (tSep w5 ')' tr))))))
      = .ok (.grp (.mem op.mnemonic a v b)) tr := by
  have hM : tailMem op.mnemonic (tReg g s1 a (tSep w1 ',' (tNum w2 sn v (tSep w3 '(' (tReg w4 s2 b (tSep w5 ')' tr))))))
      = .ok (.grp (.mem op.mnemonic a v b)) tr := by
    simp only [tailMem, lparen_tSep, rparen_tSep, rparen_nlb, bind_ok, map_ok, pReg_tReg,
      pImm_tNum w2 sn v _ h2 hv (tokEnd_tSep w3 '(' _ h3 lparen_nlb), pComma_tSep, tokEnd_tSep, comma_nlb, *]
  -- the competitors want a register (`mn r, r, imm`) or a variable name (the by-name forms) where the number stands
  have hI : tailRRI op.mnemonic (tReg g s1 a (tSep w1 ',' (tNum w2 sn v (tSep w3 '(' (tReg w4 s2 b (tSep w5 ')' tr))))))
      = .fail := by
    simp only [tailRRI, bind_ok, bind_fail, map_fail, pReg_tReg, pComma_tSep, tokEnd_tSep, comma_nlb, pReg_fail_tNum, *]
  rw [pInstrBody_cls op _ (wordSep_tReg g s1 a _ hg hgne)]
  rcases h with h | h
  · have hP : tailMemP op.mnemonic (tReg g s1 a (tSep w1 ',' (tNum w2 sn v (tSep w3 '(' (tReg w4 s2 b (tSep w5 ')' tr))))))
        = .fail := by
      simp only [tailMemP, bind_ok, map_fail, pReg_tReg, pComma_tSep, tokEnd_tSep, comma_nlb, pVariable_fail_tNum, *]
    simp [h, clsRows, Row.tail, pick, hM, hI, hP, orStep, isAbort]
  · have hP : tailSP op.mnemonic (tReg g s1 a (tSep w1 ',' (tNum w2 sn v (tSep w3 '(' (tReg w4 s2 b (tSep w5 ')' tr))))))
        = .fail := by
      simp only [tailSP, bind_ok, bind_fail, map_fail, pReg_tReg, pComma_tSep, tokEnd_tSep, comma_nlb,
        pVariable_fail_tNum, *]
    simp [h, clsRows, Row.tail, pick, hM, hI, hP, orStep, isAbort]

include hg hgne h1 h2 htr in
theorem bodyS_U (op : Op) (h : cls op = .u) {a : Nat} {v : Int} (ha : a < 32) {s1 : RegStyle} {sn : NumStyle}
    (hv : NumFits sn v) :
    pInstrBody (mn op ++ tReg g s1 a (tSep w1 ',' (tNum w2 sn v tr))) = .ok (.grp (.utype op.mnemonic a v)) tr := by
  rw [pInstrBody_cls op _ (wordSep_tReg g s1 a _ hg hgne), h]
  simp [clsRows, Row.tail, pick, tailU, pReg_tReg, pComma_tSep, pImm_tNum w2 sn v _ h2 hv (tokEnd_allWs tr htr), tokEnd_tSep,
    comma_nlb, orStep, isAbort, *]

include hg hgne h1 h2 htr in
theorem bodyS_J {a : Nat} {v : Int} (ha : a < 32) {s1 : RegStyle} {sn : NumStyle}
    (hv : NumFits sn v) :
    pInstrBody (mn .jal ++ tReg g s1 a (tSep w1 ',' (tNum w2 sn v tr))) = .ok (.grp (.jalImm a v)) tr := by
  -- of the two target forms of `jal` the number is read; a number is no label
  have hJ : ∀ m, tailJal m (tReg g s1 a (tSep w1 ',' (tNum w2 sn v tr))) = .ok (.grp (.jalImm a v)) tr := by
    intro m
    simp only [tailJal, bind_ok, pReg_tReg g s1 a _ hg ha (tokEnd_tSep w1 ',' _ h1 comma_nlb), pComma_tSep w1 _ h1]
    rw [orLongest_pickOf, pick]
    simp only [List.map_cons, List.map_nil, pImm_tNum w2 sn v _ h2 hv (tokEnd_allWs tr htr), map_ok,
      pLabel_fail_tNum w2 sn v tr h2, bind_fail]
    rfl
  rw [pInstrBody_cls .jal _ (wordSep_tReg g s1 a _ hg hgne)]
  simp [cls, clsRows, Row.tail, pick, hJ, orStep, isAbort]

include hg hgne h1 h2 h3 h4 htr in
theorem bodyS_CSR (op : Op) (h : cls op = .csr) {a b : Nat} {n : Int} (ha : a < 32) (hb : b < 32)
    {s1 s2 : RegStyle} {sn : NumStyle} (hn : NumFits sn n) :
    pInstrBody (mn op ++ tReg g s1 a (tSep w1 ',' (tNum w2 sn n (tSep w3 ',' (tReg w4 s2 b tr)))))
      = .ok (.grp (.csr op.mnemonic a n b)) tr := by
  rw [pInstrBody_cls op _ (wordSep_tReg g s1 a _ hg hgne), h]
  simp [clsRows, Row.tail, pick, tailCsr, pReg_tReg, pComma_tSep, pImm_tNum w2 sn n _ h2 hn (tokEnd_tSep w3 ',' _ h3 comma_nlb),
    tokEnd_tSep, tokEnd_allWs, comma_nlb, orStep, isAbort, *]

include hg hgne h1 h2 h3 h4 htr in
theorem bodyS_CSRI (op : Op) (h : cls op = .csri) {a : Nat} {n v : Int} (ha : a < 32) {s1 : RegStyle}
    {sn sv : NumStyle} (hn : NumFits sn n) (hv : NumFits sv v) :
    pInstrBody (mn op ++ tReg g s1 a (tSep w1 ',' (tNum w2 sn n (tSep w3 ',' (tNum w4 sv v tr)))))
      = .ok (.grp (.csri op.mnemonic a n v)) tr := by
  rw [pInstrBody_cls op _ (wordSep_tReg g s1 a _ hg hgne), h]
  simp [clsRows, Row.tail, pick, tailCsri, pReg_tReg, pComma_tSep, pImm_tNum w2 sn n _ h2 hn (tokEnd_tSep w3 ',' _ h3 comma_nlb),
    pImm_tNum w4 sv v _ h4 hv (tokEnd_allWs tr htr), tokEnd_tSep, comma_nlb, orStep, isAbort, *]

include htr in
theorem bodyS_env (op : Op) (h : cls op = .ecall ∨ cls op = .ebreak) :
    pInstrBody (mn op ++ tr) = .ok (.str op.mnemonic) tr := by
  rw [pInstrBody_cls op tr (wordSep_allWs tr htr)]
  rcases h with h | h
  · simp [h, clsRows, Row.tail, pick, tailWord, orStep, isAbort]
  · simp [h, clsRows, Row.tail, pick, tailWord, orStep, isAbort]

end bodies

/-- a run of blanks: `false` = space, `true` = tab -/
def blanks (b : List Bool) : List Char := b.map (fun t => if t then '\t' else ' ')

theorem mem_blanks (b : List Bool) : ∀ c ∈ blanks b, c = ' ' ∨ c = '\t' := by
  intro c hc
  simp only [blanks, List.mem_map] at hc
  obtain ⟨t, _, rfl⟩ := hc
  cases t <;> simp

theorem allWs_blanks (b : List Bool) : AllWs (blanks b) :=
  fun c hc => by rcases mem_blanks b c hc with rfl | rfl <;> decide

/-- How a line is written. The default value of every field is the choice the printer `Instr.repr` makes. -/
structure Spelling where
  /-- blanks at the start of the line -/
  lead : List Bool := []
  /-- letter `k` of the mnemonic is upper case -/
  mnCase : Nat → Bool := fun _ => false
  /-- the blank after the mnemonic is a tab -/
  gapTab : Bool := false
  /-- further blanks after it -/
  gap : List Bool := []
  /-- spelling of the first, second, third register operand -/
  r1 : RegStyle := .x
  r2 : RegStyle := .x
  r3 : RegStyle := .x
  /-- spelling of the csr number -/
  csrNum : NumStyle := .hex 0 (fun _ => false)
  /-- spelling of the immediate -/
  imm : NumStyle := .dec
  /-- blanks before / after the first comma -/
  c1a : List Bool := []
  c1b : List Bool := [false]
  /-- blanks before / after the second comma -/
  c2a : List Bool := []
  c2b : List Bool := [false]
  /-- blanks before `(`, after `(`, before `)` -/
  pa : List Bool := []
  pb : List Bool := []
  pc : List Bool := []
  /-- blanks at the end of the line -/
  trail : List Bool := []

def gapOf (sp : Spelling) : List Char := (if sp.gapTab then '\t' else ' ') :: blanks sp.gap

theorem allWs_gapOf (sp : Spelling) : AllWs (gapOf sp) := by
  intro c hc
  rcases List.mem_cons.mp hc with rfl | hc
  · cases sp.gapTab <;> decide
  · exact allWs_blanks _ c hc

theorem gapOf_ne_nil (sp : Spelling) : gapOf sp ≠ [] := by simp [gapOf]

/-- the operands of `i` (after the mnemonic) in the spelling `sp`, followed by `tr` -/
def operands (sp : Spelling) (i : Instr) (tr : List Char) : List Char :=
  let g := gapOf sp
  let c1 (r : List Char) := tSep (blanks sp.c1a) ',' r
  let c2 (r : List Char) := tSep (blanks sp.c2a) ',' r
  let w1 := blanks sp.c1b
  let w2 := blanks sp.c2b
  let paren (b : Nat) := tSep (blanks sp.pa) '(' (tReg (blanks sp.pb) sp.r2 b (tSep (blanks sp.pc) ')' tr))
  match cls i.op with
  | .r => tReg g sp.r1 i.rd (c1 (tReg w1 sp.r2 i.rs1 (c2 (tReg w2 sp.r3 i.rs2 tr))))
  | .imm3 | .jalr => tReg g sp.r1 i.rd (c1 (tReg w1 sp.r2 i.rs1 (c2 (tNum w2 sp.imm i.imm tr))))
  | .load => tReg g sp.r1 i.rd (c1 (tNum w1 sp.imm i.imm (paren i.rs1)))
  | .store => tReg g sp.r1 i.rs2 (c1 (tNum w1 sp.imm i.imm (paren i.rs1)))
  | .b => tReg g sp.r1 i.rs1 (c1 (tReg w1 sp.r2 i.rs2 (c2 (tNum w2 sp.imm i.imm tr))))
  | .u => tReg g sp.r1 i.rd (c1 (tNum w1 sp.imm i.imm tr))
  | .jal => tReg g sp.r1 i.rd (c1 (tNum w1 sp.imm i.aux tr))
  | .csr => tReg g sp.r1 i.rd (c1 (tNum w1 sp.csrNum i.aux (c2 (tReg w2 sp.r2 i.rs1 tr))))
  | .csri => tReg g sp.r1 i.rd (c1 (tNum w1 sp.csrNum i.aux (c2 (tNum w2 sp.imm i.imm tr))))
  | .ecall | .ebreak | .fence => tr

/-- the line for instruction `i` in the spelling `sp` -/
def render (sp : Spelling) (i : Instr) : List Char :=
  blanks sp.lead ++ (recase sp.mnCase (mn i.op) ++ operands sp i (blanks sp.trail))

/-- the token item every spelling of `i` is read as (the value for `fence`, which the printer writes without operands, is
    reached by no lemma: `Legible` excludes it) -/
def itemOf (i : Instr) : Item :=
  match cls i.op with
  | .r => .grp (.rtype i.op.mnemonic i.rd i.rs1 i.rs2)
  | .imm3 | .jalr => .grp (.rri i.op.mnemonic i.rd i.rs1 i.imm)
  | .load => .grp (.mem i.op.mnemonic i.rd i.imm i.rs1)
  | .store => .grp (.mem i.op.mnemonic i.rs2 i.imm i.rs1)
  | .b => .grp (.rri i.op.mnemonic i.rs1 i.rs2 i.imm)
  | .u => .grp (.utype i.op.mnemonic i.rd i.imm)
  | .jal => .grp (.jalImm i.rd i.aux)
  | .csr => .grp (.csr i.op.mnemonic i.rd i.aux i.rs1)
  | .csri => .grp (.csri i.op.mnemonic i.rd i.aux i.imm)
  | .ecall | .ebreak => .str i.op.mnemonic
  | .fence => .grp (.fence 0 0)

/-- A condition on the instruction alone under which EVERY spelling of its line can be read back: register numbers
    below 32, both numbers of at most 4300 decimal digits, not `fence` (which the printer writes without operands).
    The strongest of three: `Spellable i → SpellableF sp i → Legible sp i`. -/
def Spellable (i : Instr) : Prop :=
  i.rd < 32 ∧ i.rs1 < 32 ∧ i.rs2 < 32 ∧ i.imm.natAbs < 10 ^ 4300 ∧ i.aux.natAbs < 10 ^ 4300 ∧ i.op ≠ .fence

/-- `Spellable` with the size limit applied only to the numbers written in decimal: each of `imm`, `aux` fits every
    style it could be written in under `sp` (`aux` both as a target and as a csr number), whatever the class of `i`.
    Between `Spellable` and `Legible`, which asks it of `imm` always and of `aux` only where the line shows it. -/
def SpellableF (sp : Spelling) (i : Instr) : Prop :=
  i.rd < 32 ∧ i.rs1 < 32 ∧ i.rs2 < 32 ∧ NumFits sp.imm i.imm ∧ NumFits sp.imm i.aux ∧
    NumFits sp.csrNum i.aux ∧ i.op ≠ .fence

theorem spellableF_of_spellable (sp : Spelling) (i : Instr) (h : Spellable i) : SpellableF sp i :=
  ⟨h.1, h.2.1, h.2.2.1, numFits_of_small _ _ h.2.2.2.1, numFits_of_small _ _ h.2.2.2.2.1,
    numFits_of_small _ _ h.2.2.2.2.1, h.2.2.2.2.2⟩

/-- the csr number, if the line shows one, fits the style it is written in -/
def CsrFits (sp : Spelling) (i : Instr) : Prop := cls i.op = .csr ∨ cls i.op = .csri → NumFits sp.csrNum i.aux

/-- The weakest of the three conditions, and the hypothesis of the lemmas: what reading the line of `i` in the
    spelling `sp` back needs — register numbers below 32, not `fence`, `imm` fits the style of immediates (asked of
    every class, also those whose line shows no immediate), and `aux` fits its style where the line shows it. `aux` is
    shown by `jal` (the target, in the style of immediates) and by the CSR forms (the csr number); a canonical CSR
    instruction may hold a csr number of any size, which the printer writes in hexadecimal. -/
def Legible (sp : Spelling) (i : Instr) : Prop :=
  i.rd < 32 ∧ i.rs1 < 32 ∧ i.rs2 < 32 ∧ NumFits sp.imm i.imm ∧ (cls i.op = .jal → NumFits sp.imm i.aux) ∧
    CsrFits sp i ∧ i.op ≠ .fence

theorem SpellableF.legible {sp : Spelling} {i : Instr} (h : SpellableF sp i) : Legible sp i :=
  ⟨h.1, h.2.1, h.2.2.1, h.2.2.2.1, fun _ => h.2.2.2.2.1, fun _ => h.2.2.2.2.2.1, h.2.2.2.2.2.2⟩

theorem Spellable.legible {i : Instr} (h : Spellable i) (sp : Spelling) : Legible sp i :=
  (spellableF_of_spellable sp i h).legible

end ArchSim.Lemmas.C04Spell
