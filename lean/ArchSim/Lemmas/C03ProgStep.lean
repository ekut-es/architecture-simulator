/-
C03 (program level): one single-cycle step, and single-cycle runs, on related states.  The walk through the
print-string loop, `process_ecall`, `behavior()` and `singleStep` is done once, for any relation `R` between the two
memory systems that accepted reads and writes keep (`MemSim R`); `CacheRel` is the case `R = MRel`, C12's `MRelT`
another.
-/
import ArchSim.Lemmas.C03ProgInit
import ArchSim.Lemmas.RvEcall
import ArchSim.Lemmas.C01Defs

namespace ArchSim.Lemmas.C03Prog
open ArchSim ArchSim.Cache ArchSim.Mem ArchSim.Rv ArchSim.Spec.CacheAbs ArchSim.Spec.TagCache
open ArchSim.Lemmas.C02Split

variable {R : MemSys → MemSys → Prop}

theorem processEcall_sim (hR : MemSim R) {sc sf : St} (h : StRel R sc sf)
    (hp : sf.regs 17 = 4 → PrintOK sf.mem (sf.regs 10)) :
    (processEcall sc).2 = (processEcall sf).2 ∧ (processEcall sf).1 = sf.mem ∧
      R (processEcall sc).1 sf.mem := by
  have hr := h.regs
  by_cases h4 : sf.regs 17 = 4
  · obtain ⟨cs, hcs⟩ := hp h4
    obtain ⟨p1, p2, p3⟩ := printStr_sim hR printStrFuel sc.mem sf.mem (sf.regs 10) [] cs h.mem hcs
    rw [processEcall_of_eq4 sf h4, processEcall_of_eq4 sc (by rw [hr]; exact h4), hr, p1, hcs]
    exact ⟨rfl, p2, p3⟩
  · rw [processEcall_of_ne4 sf h4, processEcall_of_ne4 sc (by rw [hr]; exact h4), hr]
    exact ⟨rfl, rfl, h.mem⟩

/-! ### `behavior()` -/

/-- The relation as an EQUATION: `sf` is `sc` with four fields replaced.  After substituting it (`behavior_sim`)
    every `behavior_*` equation rewrites both sides at one state, and `StRel.of_canon` closes each case. -/
theorem StRel.canon {sc sf : St} (h : StRel R sc sf) :
    sf = { sc with mem := sf.mem, cycles := sf.cycles, stalls := sf.stalls, flushes := sf.flushes } := by
  obtain ⟨_, h1, h2, h3, h4, h5, h6, h7, h8⟩ := h
  cases sc; cases sf
  simp only at h1 h2 h3 h4 h5 h6 h7 h8
  subst h1 h2 h3 h4 h5 h6 h7 h8
  rfl

theorem StRel.of_canon (sc : St) (mf : MemSys) (c st fl : Nat) (hm : R sc.mem mf) :
    StRel R sc { sc with mem := mf, cycles := c, stalls := st, flushes := fl } :=
  ⟨hm, rfl, rfl, rfl, rfl, rfl, rfl, rfl, rfl⟩

theorem ecall_ty {i : Instr} (h : i.op = .ecall) : i.op.ty = .i := by rw [h]; rfl

theorem behavior_sim (hR : MemSim R) (i : Instr) {sc sf : St} (h : StRel R sc sf) (hacc : AccessOK i sf) :
    (behavior i sc).fault = (behavior i sf).fault ∧ StRel R (behavior i sc).st (behavior i sf).st := by
  obtain ⟨hL, hS, hE⟩ := hacc
  obtain ⟨mf, c, st, fl, rfl⟩ : ∃ mf c st fl, sf =
      { sc with mem := mf, cycles := c, stalls := st, flushes := fl } := ⟨_, _, _, _, h.canon⟩
  have hm : R sc.mem mf := h.mem
  by_cases h1 : i.op.ty = .memI
  · obtain ⟨v, r1, r2, r3⟩ := hR.read hm (hL h1) true true
    simp only [behavior_memI i _ h1, r1, r2]
    exact ⟨trivial, StRel.of_canon _ _ _ _ _ r3⟩
  by_cases h2 : i.op.ty = .s
  · have hv : sc.regs i.rs2 % 2 ^ accessBits i.op < 2 ^ accessBits i.op :=
      Nat.mod_lt _ (Nat.two_pow_pos _)
    obtain ⟨r1, r2, r3⟩ := hR.write hm (hS h2) hv
    simp only [behavior_s i _ h2, r1, r2]
    exact ⟨trivial, StRel.of_canon _ _ _ _ _ r3⟩
  by_cases h3 : i.op = .ecall
  · obtain ⟨p1, p2, p3⟩ := processEcall_sim hR h (hE h3)
    rw [behavior_ecall i sc h3, behavior_ecall i _ h3]
    rcases hc : processEcall sc with ⟨mc', rc⟩
    rcases hf : processEcall { sc with mem := mf, cycles := c, stalls := st, flushes := fl } with ⟨mf', rf⟩
    rw [hc, hf] at p1
    rw [hf] at p2
    rw [hc] at p3
    simp only at p1 p2 p3
    subst p1 p2
    cases rc <;> exact ⟨rfl, StRel.of_canon _ _ _ _ _ p3⟩
  · rw [behavior_nonmem i sc mf c st fl h1 h2 h3]
    exact ⟨rfl, StRel.of_canon _ _ _ _ _ (by rw [behavior_nonmem_mem i sc h1 h2 h3]; exact hm)⟩

/-! ### the part of `singleStep` after the fetch -/

theorem StRel.withMem {sc sf : St} (h : StRel R sc sf) {mc mf : MemSys} (hm : R mc mf) (cc cf : Nat) :
    StRel R { sc with mem := mc, cycles := cc } { sf with mem := mf, cycles := cf } :=
  ⟨hm, h.regs, h.pc, h.imem, h.output, h.exitCode, h.instrs, h.branches, h.procs⟩

theorem StRel.withPc {sc sf : St} (h : StRel R sc sf) :
    StRel R { sc with pc := (sc.pc + 4) % 4294967296 } { sf with pc := (sf.pc + 4) % 4294967296 } :=
  ⟨h.mem, h.regs, by show (sc.pc + 4) % 4294967296 = (sf.pc + 4) % 4294967296; rw [h.pc], h.imem,
    h.output, h.exitCode, h.instrs, h.branches, h.procs⟩

theorem singleTail_load (i : Instr) (s : St) (hty : i.op.ty = .memI) {v v' : Nat}
    (hr : (s.mem.read (accessBits i.op) ((s.regs i.rs1 : Int) + i.imm) true).res = .ok v)
    (hr' : ((behavior i s).st.mem.read (accessBits i.op) ((wrapU (s.regs i.rs1 : Int) : Int) + i.imm)
      false).res = .ok v') :
    singleTail i s =
      { st := { (behavior i s).st with
                mem := ((behavior i s).st.mem.read (accessBits i.op)
                  ((wrapU (s.regs i.rs1 : Int) : Int) + i.imm) false).mem,
                cycles := (behavior i s).st.cycles + ((behavior i s).st.mem.read (accessBits i.op)
                  ((wrapU (s.regs i.rs1 : Int) : Int) + i.imm) false).extra,
                pc := ((behavior i s).st.pc + 4) % 4294967296 },
        fault := none } := by
  have hf : (behavior i s).fault = none := by simp only [behavior_memI i s hty, hr]
  simp only [singleTail, hf, hty, if_true, accessRegs, memoryAccess_load_ok i hty _ none _ false v' hr']

theorem accepted_wrapU {bits : Nat} {r : Nat} {imm : Int} (h : Accepted bits ((r : Int) + imm)) :
    Accepted bits ((wrapU (r : Int) : Int) + imm) := by
  unfold Accepted at h ⊢
  rw [C09.wrap32_wrapU_add]; exact h

/-- For a load the display re-read is one more accepted (uncounted) read through the cache: it keeps
    the relation. -/
theorem singleTail_sim (hR : MemSim R) (i : Instr) {sc sf : St} (h : StRel R sc sf) (hacc : AccessOK i sf) :
    (singleTail i sc).fault = (singleTail i sf).fault ∧
      StRel R (singleTail i sc).st (singleTail i sf).st := by
  obtain ⟨hf, hb⟩ := behavior_sim hR i h hacc
  by_cases hty : i.op.ty = .memI
  · have hA := hacc.1 hty
    have hr := h.regs
    obtain ⟨v, r1, r2, _⟩ := hR.read h.mem hA true true
    have hA' : Accepted (accessBits i.op) ((sc.regs i.rs1 : Int) + i.imm) := by rw [hr]; exact hA
    obtain ⟨v', q1, q2, q3⟩ := hR.read hb.mem (accepted_wrapU hA') false false
    rw [singleTail_load i sc hty (by rw [hr]; exact r1) q1,
      singleTail_load i sf hty (by rw [r2]) (by rw [← hr, q2])]
    have hq : ((behavior i sf).st.mem.read (accessBits i.op) ((wrapU (sf.regs i.rs1 : Int) : Int) + i.imm)
        false).mem = (behavior i sf).st.mem := by rw [← hr, q2]
    rw [← hq] at q3
    exact ⟨rfl, (hb.withMem q3 _ _).withPc⟩
  · rw [singleTail_nonLoad i sc hty, singleTail_nonLoad i sf hty, ← hf, h.pc]
    cases hfc : (behavior i sc).fault with
    | some ft => exact ⟨rfl, hb⟩
    | none => exact ⟨rfl, hb.withPc⟩

/-! ### one single-cycle step -/

theorem StRel.afterFetch {sc sf : St} (h : StRel R sc sf) :
    StRel R (afterFetch sc) (afterFetch sf) :=
  ⟨h.mem, h.regs, h.pc,
    by show (sc.imem.fetch sc.pc).imem = (sf.imem.fetch sf.pc).imem; rw [h.imem, h.pc],
    h.output, h.exitCode, by show sc.instrs + 1 = sf.instrs + 1; rw [h.instrs], h.branches, h.procs⟩

theorem fetched_some {s : St} {j i : Instr} (h1 : s.imem.instrAt s.pc = some j)
    (h2 : (s.imem.fetch s.pc).res = .ok (some i)) : fetched s = some i := by
  simp only [fetched, h1, h2]

theorem singleStep_sim (hR : MemSim R) {sc sf : St} (h : StRel R sc sf) (hacc : StepAccepted sf) :
    (singleStep sc).fault = (singleStep sf).fault ∧ StRel R (singleStep sc).st (singleStep sf).st := by
  have hi' : sc.imem.instrAt sc.pc = sf.imem.instrAt sf.pc := by rw [h.imem, h.pc]
  have hf' : (sc.imem.fetch sc.pc).res = (sf.imem.fetch sf.pc).res := by rw [h.imem, h.pc]
  rw [singleStep_unfold sc, singleStep_unfold sf, hi', hf']
  cases hi : sf.imem.instrAt sf.pc with
  | none => exact ⟨rfl, h.withMem h.mem _ _⟩
  | some j =>
    simp only
    cases hf : (sf.imem.fetch sf.pc).res with
    | error e => exact ⟨by rw [h.pc], h.afterFetch⟩
    | ok oi =>
      cases oi with
      | none => exact ⟨by rw [h.pc], h.afterFetch⟩
      | some i => exact singleTail_sim hR i h.afterFetch (hacc i (fetched_some hi hf))

/-! ### runs -/

/-- `n` raw single-cycle steps (the state after a step, whether or not it raised); the last step is
    outermost.  The same function as `Pipe.singleRun` (Lemmas/C02Compose: the pipeline modules stand above this
    one in the import order, the step level of C03 needs none of them), and as `C11.singleRun` (Lemmas/C11Step),
    which recurses at the other end (`C11.singleRun_succ'`). -/
def singleRun : Nat → St → St
  | 0, s => s
  | n + 1, s => (singleStep (singleRun n s)).st

theorem StRel.singleDone {sc sf : St} (h : StRel R sc sf) : singleDone sc = singleDone sf := by
  unfold Rv.singleDone; rw [h.exitCode, h.imem, h.pc]

theorem singleRun_sim (hR : MemSim R) {sc sf : St} (h : StRel R sc sf) :
    ∀ n, (∀ j, j < n → StepAccepted (singleRun j sf)) →
      StRel R (singleRun n sc) (singleRun n sf) ∧
      ∀ j, j < n → (singleStep (singleRun j sc)).fault = (singleStep (singleRun j sf)).fault
  | 0, _ => ⟨h, fun _ hj => absurd hj (Nat.not_lt_zero _)⟩
  | n + 1, hacc => by
    obtain ⟨ih, ihf⟩ := singleRun_sim hR h n (fun j hj => hacc j (by omega))
    obtain ⟨hf, hr⟩ := singleStep_sim hR ih (hacc n (by omega))
    refine ⟨hr, fun j hj => ?_⟩
    rcases Nat.lt_or_ge j n with hlt | hge
    · exact ihf j hlt
    · have : j = n := by omega
      subst this; exact hf

open ArchSim.Lemmas.C01 in
theorem simN_sim (hR : MemSim R) : ∀ (n : Nat) {sc sf : St}, StRel R sc sf →
    (∀ j, Rv.singleDone (simN j sf).st = false → StepAccepted (simN j sf).st) →
    (simN n sc).fault = (simN n sf).fault ∧ StRel R (simN n sc).st (simN n sf).st
  | 0, _, _, h, _ => ⟨rfl, h⟩
  | n + 1, sc, sf, h, hacc => by
    have hd := h.singleDone
    unfold simN
    rw [hd]
    by_cases hdone : Rv.singleDone sf = true
    · simp only [hdone, if_true]; exact ⟨trivial, h⟩
    · have hdf : Rv.singleDone sf = false := by simpa using hdone
      have h0 : StepAccepted sf := hacc 0 hdf
      obtain ⟨hf, hr⟩ := singleStep_sim hR h h0
      simp only [hdone]
      rw [← hf]
      cases hfc : (singleStep sc).fault with
      | some f => exact ⟨rfl, hr⟩
      | none =>
        have hff : (singleStep sf).fault = none := by rw [← hf]; exact hfc
        refine simN_sim hR n hr (fun j => ?_)
        have := hacc (j + 1)
        unfold simN at this
        simp only [hdone, hff] at this
        exact this

theorem CacheRel.singleDone {sc sf : St} (h : CacheRel sc sf) : singleDone sc = singleDone sf :=
  (h.toStRel h.mem).singleDone

theorem singleRun_rel {sc sf : St} (h : CacheRel sc sf) (n : Nat)
    (hacc : ∀ j, j < n → StepAccepted (singleRun j sf)) :
    CacheRel (singleRun n sc) (singleRun n sf) ∧
      ∀ j, j < n → (singleStep (singleRun j sc)).fault = (singleStep (singleRun j sf)).fault :=
  (singleRun_sim MRel.memSim (h.toStRel h.mem) n hacc).imp_left StRel.toCacheRel

end ArchSim.Lemmas.C03Prog
