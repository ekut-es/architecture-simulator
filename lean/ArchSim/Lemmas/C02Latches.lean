/-
Every stage hands on address and instruction of its input register (`SameAddr`), so a property of
(address, instruction) that holds of what IF delivers holds of every register after a cycle,
whatever the cycle does (stall, flush, exception). The registers in front of MEM and the two a
stall preserves are closed under a cycle on their own (`FrontP`); `AllP` is all seven.
-/
import ArchSim.Lemmas.C02Step
import ArchSim.Lemmas.C02SplitStages

namespace ArchSim.Pipe
open ArchSim ArchSim.Rv ArchSim.Lemmas.C02Split

variable {P : Int → Instr → Prop} {p : PSt} {l l' : Option Latch}

/-- A non-empty register satisfies `P` at its address and instruction. -/
def LatchP (P : Int → Instr → Prop) (l : Option Latch) : Prop := ∀ x, l = some x → P x.addr x.instr

theorem LatchP.none : LatchP P none := fun _ h => by cases h

theorem LatchP.of_sameAddr (h : LatchP P l) (hs : SameAddr l l') : LatchP P l' := by
  intro x' hx'
  obtain ⟨x, hx, ha, hi⟩ := hs x' hx'
  rw [ha, hi]; exact h x hx

theorem LatchP.ite {c : Prop} [Decidable c] {a b : Option Latch} (ha : LatchP P a) (hb : LatchP P b) :
    LatchP P (if c then a else b) := by
  split
  · exact ha
  · exact hb

def StallP (P : Int → Instr → Prop) (o : Option Stall) : Prop :=
  ∀ st, o = some st → LatchP P st.p0 ∧ LatchP P st.p1

theorem StallP.none : StallP P none := fun _ h => by cases h

/-- The registers in front of MEM: IF/ID, ID/EX, EX/MEM and the two preserved by a stall. What a
    cycle leaves in them comes from them or from IF. -/
structure FrontP (P : Int → Instr → Prop) (p : PSt) : Prop where
  l0 : LatchP P p.l0
  l1 : LatchP P p.l1
  l2 : LatchP P p.l2
  stl : StallP P p.stalled

/-- All seven registers of the pipeline. -/
structure AllP (P : Int → Instr → Prop) (p : PSt) : Prop extends FrontP P p where
  l3 : LatchP P p.l3
  l4 : LatchP P p.l4

theorem StallP.next (hl0 : LatchP P p.l0) (hl1 : LatchP P p.l1) (hs : StallP P p.stalled)
    (picked : Option Nat) : StallP P (nextStall p.stalled picked p.l0 p.l1) := by
  intro st' h
  rcases nextStall_parts _ _ _ _ _ h with ⟨_, e0, e1 | e1, _⟩ | ⟨st, hst, e0, e1, _⟩ <;> rw [e0, e1]
  · exact ⟨hl0.of_sameAddr (sameAddr_setFlag _), hl1.of_sameAddr (sameAddr_setFlag _)⟩
  · exact ⟨hl0.of_sameAddr (sameAddr_setFlag _), .none⟩
  · exact hs st hst

theorem FrontP.inputs (h : FrontP P p) :
    LatchP P (idInput p) ∧ LatchP P (exInput p) ∧ LatchP P (memInput p) ∧ LatchP P (exFaultL1 p) := by
  unfold idInput exInput memInput exFaultL1
  cases hs : p.stalled with
  | none => exact ⟨h.l0, h.l1, h.l2, h.l1⟩
  | some st =>
    obtain ⟨h0, h1⟩ := h.stl st hs
    exact ⟨h0, .ite .none h1, .ite .none h.l2, .ite h1 h.l1⟩

theorem FrontP.finishStep {s : St} {n0 n1 n2 n3 n4 : Option Latch} (h : FrontP P p)
    (h0 : LatchP P n0) (h1 : LatchP P n1) (h2 : LatchP P n2) :
    FrontP P (finishStep p s n0 n1 n2 n3 n4) := by
  have hS := StallP.next h.l0 h.l1 h.stl (pickStall p.stalled n1 n2)
  cases f4 : latchFlush n4 with
  | some a => rw [finishStep_flush4 _ _ _ _ _ _ _ a f4]; exact ⟨.none, .none, .none, .none⟩
  | none =>
    cases f3 : latchFlush n3 with
    | some a => rw [finishStep_flush3 _ _ _ _ _ _ _ a f4 f3]; exact ⟨.none, .none, .none, .none⟩
    | none =>
      cases f2 : latchFlush n2 with
      | some a =>
        rw [finishStep_flush2 _ _ _ _ _ _ _ a f4 f3 f2]
        exact ⟨.none, .none, h2, fun st h => hS st (dropLowStall_some _ st h)⟩
      | none => rw [finishStep_noflush _ _ _ _ _ _ _ f4 f3 f2]; exact ⟨h0, h1, h2, hS⟩

theorem FrontP.step (h : FrontP P p) (hf : LatchP P (ifOut p).2) : FrontP P (step p).p := by
  obtain ⟨hid, hex, _, hfl⟩ := h.inputs
  rw [step_eq]
  split
  · exact ⟨h.l0, hfl, h.l2, h.stl⟩
  · split
    · exact ⟨h.l0, h.l1, h.l2, h.stl⟩
    · exact h.finishStep hf (hid.of_sameAddr (sameAddr_idStage _ _ _ _ _))
        (hex.of_sameAddr (sameAddr_exStage _ _ _ _))

theorem step_st_imem (p : PSt) : (step p).p.st.imem = (ifOut p).1.imem := by
  have hex : (exOut p).st.imem = (ifOut p).1.imem :=
    (congrArg St.imem (exStage_st ..)).trans (congrArg St.imem (wbStage_st ..) :)
  have hme : (memOut p).st.imem = (ifOut p).1.imem := (congrArg St.imem (memStage_st ..)).trans hex
  rw [step_eq]
  split
  · exact hex
  · split
    · exact hme
    · exact (congrArg St.imem (finishStep_st ..)).trans hme

theorem back_latches_origin (p : PSt) :
    ((step p).p.l3 = p.l3 ∨ (step p).p.l3 = (memOut p).latch ∨ (step p).p.l3 = none) ∧
    ((step p).p.l4 = p.l4 ∨ (step p).p.l4 = (wbOut p).2) := by
  rw [step_eq]
  split
  · exact ⟨.inl rfl, .inl rfl⟩
  · split
    · exact ⟨.inl rfl, .inl rfl⟩
    · obtain ⟨_, _, _, _, _, _, he, _, _, _, h3⟩ := finishStep_shape p (memOut p).st (ifOut p).2 (idOut p)
        (exOut p).latch (memOut p).latch (wbOut p).2
      rw [he]; exact ⟨.inr h3, .inr rfl⟩

theorem AllP.step (h : AllP P p) (hf : LatchP P (ifOut p).2) : AllP P (step p).p := by
  refine ⟨h.toFrontP.step hf, ?_, ?_⟩
  · rcases (back_latches_origin p).1 with e | e | e <;> rw [e]
    · exact h.l3
    · exact h.toFrontP.inputs.2.2.1.of_sameAddr (sameAddr_memStage _ _)
    · exact .none
  · rcases (back_latches_origin p).2 with e | e <;> rw [e]
    · exact h.l4
    · exact h.l3.of_sameAddr (sameAddr_wbStage _ _)

end ArchSim.Pipe
