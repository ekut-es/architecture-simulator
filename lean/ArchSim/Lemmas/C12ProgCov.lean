/-
C12, the memory table: the coverage invariant `Cov s m` — every cell the flat reference memory has stored is a stored
cell of the backing memory or lies in a resident block — and the combined table invariant `TRep` (write-through:
backing memory = flat memory as a structure) along operations and histories; then from the state invariants to the
ROWS of the two word tables, the backing store's (what the user sees) and the flat run's.
-/
import ArchSim.Lemmas.C12ProgWB

namespace ArchSim.Lemmas.C12Prog
open ArchSim ArchSim.Cache ArchSim.Mem ArchSim.Spec.ByteStore ArchSim.Lemmas.C18 ArchSim.Spec.CacheAbs
open ArchSim.Lemmas.C03 ArchSim.Lemmas.C12

variable {σ : Type} {P : PolicyOps σ} {WFp : σ → Prop}

/-- Every stored cell of the flat memory `m` is stored in the backing memory of `s` or resident. -/
def Cov (s : DSys σ) (m : Mem) : Prop :=
  ∀ k, k ∈ m.keys → k ∈ s.mem.keys ∨ resident s k = true

theorem Cov.evo {s s' : DSys σ} {m : Mem} (hm : MemOK m) (h : Cov s m) (e : Evo s s') : Cov s' m := by
  intro k hk
  rcases h k hk with h1 | h1
  · exact Or.inl (e.1 k h1)
  · rcases e.2 k h1 with h2 | h2
    · exact Or.inr h2
    · have hr := hm.wf.keys_inRange k hk
      rw [hm.cfg, riscv_inRange] at hr
      simp only [Bool.and_eq_true, decide_eq_true_eq] at hr
      have := wrap32_cast k
      rw [show ((wrap32 k : Nat) : Int) = k by omega] at h2
      exact Or.inl h2

theorem resident_same_word (s : DSys σ) (addr : Int) (i : Nat) (h : wrap32 addr % 4 + i < 4) :
    resident s (((wrap32 addr + i : Nat) : Int)) = resident s addr := by
  have hx := wrap32_lt addr
  have e1 : dec s (((wrap32 addr + i : Nat) : Int)) = dec s (addr + (i : Int)) :=
    decode_congr _ _ _ _ (by rw [wrap32_nat _ (by omega), wrap32_add addr i h])
  have e2 := decode_add s.geo.idxBits s.geo.blkBits addr i h
  unfold resident
  show (lookup s.sets (dec s _).setIdx (dec s _).tag).isSome = _
  rw [e1]
  show (lookup s.sets (decode s.geo.idxBits s.geo.blkBits (addr + (i : Int))).setIdx
    (decode s.geo.idxBits s.geo.blkBits (addr + (i : Int))).tag).isSome = _
  rw [e2]

/-- The memory-table invariant relating a cached system to the flat reference memory:
    write-through — the backing memory IS the flat memory (cells and key order);
    either policy — coverage. -/
structure TRep (s : DSys σ) (m : Mem) : Prop where
  wt  : s.wt = true → s.mem = m
  cov : Cov s m

theorem TRep.of_eq {s : DSys σ} {m : Mem} (h : s.mem = m) : TRep s m :=
  ⟨fun _ => h, fun k hk => Or.inl (by rw [h]; exact hk)⟩

theorem TRep.step {s : DSys σ} (hP : PolicyOK P s.geo.assoc WFp) {m : Mem} (hr : Repr WFp s m)
    (ht : TRep s m) (o : Spec.CacheAbs.Op) (ho : o.wf) :
    TRep (stepOp P s o).sys (flatStep m o).1 := by
  obtain ⟨hs, hm, _⟩ := hr
  by_cases hwt : s.wt = true
  · have e := ht.wt hwt
    have := wt_step_mem hP hs hwt o ho
    rw [e] at this
    exact TRep.of_eq this
  · have hwf : s.wt = false := by simpa using hwt
    obtain ⟨_, _, h3, _⟩ := step_agrees hP ⟨hs, hm, ‹_›⟩ o ho
    refine ⟨fun h => absurd (h3.symm.trans h) hwt, ?_⟩
    cases o with
    | read bits addr counted =>
      rw [flatStep_read_fst]
      exact ht.cov.evo hm (read_evo hP hs hwf bits addr counted)
    | write bits addr v =>
      obtain ⟨hb, hv⟩ : widthOK bits ∧ v < 2 ^ bits := ho
      rw [show stepOp P s (.write bits addr v) = s.writeWB P bits addr v from
        (write_eq s bits addr v).trans (if_neg hwt)]
      obtain ⟨k1, k2⟩ := writeWB_evo hP hs bits addr v hb hv
      by_cases hacc : (Spec.CacheAbs.Op.write bits addr v).accepted
      · have ⟨hw, hin⟩ : inWord bits addr ∧ inData addr := hacc
        have hw' : wrap32 addr % 4 + bits / 8 ≤ 4 := hw
        obtain ⟨m', hwr, _, _, _, hkeys⟩ := write_riscv hm bits hb addr v hin (inWord_hi hw)
        rw [flatStep_write_fst hacc hwr]
        intro k hk
        rcases (hkeys k).1 hk with h | h
        · exact ht.cov.evo hm k1 k h
        · obtain ⟨i, hi, rfl⟩ := h
          right
          rw [resident_same_word _ addr i (by omega)]
          exact k2 hw hin
      · rw [flatStep_write_rejected hacc]
        exact ht.cov.evo hm k1

theorem TRep.history {s : DSys σ} (hP : PolicyOK P s.geo.assoc WFp) {m : Mem} (hr : Repr WFp s m)
    (ht : TRep s m) (ops : List Spec.CacheAbs.Op) (ho : ∀ o, o ∈ ops → o.wf) :
    TRep (runOps P s ops).1 (flatOps m ops).1 := by
  induction ops generalizing s m with
  | nil => exact ht
  | cons o os ih =>
    have how := ho o (by simp)
    obtain ⟨h1, h2, _, _⟩ := step_agrees hP hr o how
    exact ih (s := (stepOp P s o).sys) (m := (flatStep m o).1) (by rw [h2]; exact hP) h1
      (ht.step hP hr o how) (fun o' ho' => ho o' (by simp [ho']))

/-! ### the rows of the two tables -/

theorem memWord_not_resident {s : DSys σ} {m : Mem}
    (hL : ∀ a, logical s a = m.cells ((wrap32 a : Nat) : Int)) (a : Int) (hal : wrap32 a % 4 = 0)
    (hnr : resident s a = false) : memWord s.mem (wrap32 a) = memWord m (wrap32 a) := by
  have hx := wrap32_lt a
  have hb : ∀ l, l < 4 → s.mem.cells ((wrap32 a + l : Nat) : Int) = m.cells ((wrap32 a + l : Nat) : Int) := by
    intro l hl
    have hr : resident s (((wrap32 a + l : Nat) : Int)) = false := by
      rw [resident_same_word s a l (by omega)]; exact hnr
    have h1 := backing_of_not_resident s _ hr
    have h2 := hL (((wrap32 a + l : Nat) : Int))
    rw [wrap32_nat _ (by omega)] at h1 h2
    rw [h1, h2]
  unfold memWord
  rw [show wrap32 a = wrap32 a + 0 from rfl, hb 0 (by decide), hb 1 (by decide), hb 2 (by decide),
    hb 3 (by decide)]

theorem mem_table {m : Mem} {a : Int} {v : Nat}
    (h : (a, v) ∈ (reprKeys m 32).map (fun a => (a, memWord m (wrap32 a)))) :
    a ∈ reprKeys m 32 ∧ v = memWord m (wrap32 a) := by
  simp only [List.mem_map, Prod.mk.injEq] at h
  obtain ⟨x, hx, rfl, rfl⟩ := h
  exact ⟨hx, rfl⟩

theorem table_rows {s : DSys σ} {m : Mem} (hs : CInvS WFp s) (hm : MemOK m)
    (hL : ∀ a, logical s a = m.cells ((wrap32 a : Nat) : Int)) :
    ∃ rb rf, reprEntries s.mem 32 = .ok rb ∧ reprEntries m 32 = .ok rf ∧
      (∀ a v, (a, v) ∈ rb → resident s a = false → Mem.read m 32 a = some (.ok v)) ∧
      (Cov s m → ∀ a v, (a, v) ∈ rf → resident s a = true ∨ (a, v) ∈ rb) := by
  have hsm := CInvS_memOK hs
  refine ⟨_, _, table_eq hsm, table_eq hm, fun a v hav hnr => ?_, fun hc a v hav => ?_⟩
  · obtain ⟨hk, rfl⟩ := mem_table hav
    obtain ⟨r1, r2, hal, _⟩ := (mem_reprKeys hsm a).1 hk
    rw [read_word_riscv hm a r1 r2, memWord_not_resident hL a hal hnr]
  · obtain ⟨hk, rfl⟩ := mem_table hav
    obtain ⟨r1, r2, hal, r4, i, hi, hy⟩ := (mem_reprKeys hm a).1 hk
    cases hres : resident s a with
    | true => exact Or.inl rfl
    | false =>
      right
      -- the stored byte of the flat memory is stored in the backing memory too: its block is not resident
      have hyk : ((wrap32 a + i : Nat) : Int) ∈ s.mem.keys := by
        rcases hc _ hy with h | h
        · exact h
        · rw [resident_same_word s a i (by omega), hres] at h
          cases h
      simp only [List.mem_map, Prod.mk.injEq]
      exact ⟨a, (mem_reprKeys hsm a).2 ⟨r1, r2, hal, r4, i, hi, hyk⟩, rfl,
        memWord_not_resident hL a hal hres⟩

end ArchSim.Lemmas.C12Prog
