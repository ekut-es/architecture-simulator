/-
Runs: after `n` fault-free cycles the abstraction of the pipeline state is the sequential state after
`fetches n` steps, the number of correct-path fetches so far; retire order, predicted fault (that of the last
step made) and "not done before" are further clauses of the one induction (`refine_fetches`). At its first
done cycle a run has empty latches (`drained_at_first_done`), so there the abstraction is the physical state.

Suffixes of the theorems over runs, here and in `C02Conv`, `C02Compose`: `_raw` — any setting of
the hazard-detection flag, with `RawFree` of every state along the run as a hypothesis (it follows
from detection on, `rawFree_run_of_hazard`, or from a hazard-free program, C08); `_init` — from
`PSt.init st true`, detection on, the `RawFree` hypothesis discharged; `_single_raw` — composed with
the data-path half, the sequential machine replaced by the single-cycle one (`C02Compose`).
-/
import ArchSim.Lemmas.C02Main

namespace ArchSim.Pipe
open ArchSim ArchSim.Rv

theorem runOK_succ {n : Nat} {p : PSt} (h : runOK (n + 1) p) :
    runOK n p ∧ (step (pipeRun n p)).fault = none :=
  ⟨fun m hm => h m (Nat.lt_succ_of_lt hm), h n (Nat.lt_succ_self n)⟩

theorem pipeRun_step (p : PSt) : ∀ n, pipeRun n (step p).p = pipeRun (n + 1) p
  | 0 => rfl
  | n + 1 => by rw [pipeRun, pipeRun_step p n]; rfl

theorem pipeRun_add (p : PSt) (n : Nat) : ∀ j, pipeRun j (pipeRun n p) = pipeRun (n + j) p
  | 0 => rfl
  | j + 1 => by rw [pipeRun, pipeRun_add p n j]; rfl

theorem runOK_add {p : PSt} {n j : Nat} (h : runOK (n + j) p) : runOK n p ∧ runOK j (pipeRun n p) :=
  ⟨fun m hm => h m (by omega), fun m hm => by rw [pipeRun_add]; exact h (n + m) (by omega)⟩

theorem PInv_run (p : PSt) (hI : PInv p) : ∀ n, runOK n p → PInv (pipeRun n p)
  | 0, _ => hI
  | n + 1, h => PInv_step _ (PInv_run p hI n (runOK_succ h).1) (runOK_succ h).2

theorem hazard_run (p : PSt) : ∀ n, (pipeRun n p).hazard = p.hazard
  | 0 => rfl
  | n + 1 => by rw [pipeRun, step_hazard, hazard_run p n]

theorem retireLog_succ (p0 : PSt) (n : Nat) (hf : (step (pipeRun n p0)).fault = none) :
    retireLog (n + 1) p0 = retireLog n p0 ++ latchLog (pipeRun n p0).l3 := by
  obtain ⟨hex, hme⟩ := (step_fault_none_iff _).1 hf
  show retireLog n p0 ++ l4Log (step (pipeRun n p0)).p.l4 = _
  rw [step_p _ hex hme, nextP, (finishStep_hazard_l4 _ _ _ _ _ _ _).2]
  unfold wbOut
  cases (pipeRun n p0).l3 <;> rfl

/-! ### The sequential machine up to observational equality -/

theorem seqStep_simP {s t : St} (h : SimP s t) (hs : FetchSound s.imem) (ht : FetchSound t.imem) :
    SimP (seqStep s) (seqStep t) ∧ seqFault s = seqFault t ∧ seqLog s = seqLog t := by
  obtain ⟨hsim, hpc⟩ := h
  have hia : s.imem.instrAt s.pc = t.imem.instrAt t.pc := by rw [instrAt_congr hsim.prog, hpc]
  cases hi : s.imem.instrAt s.pc with
  | none =>
    have hi' := hia ▸ hi
    have a := seqStep_noinstr s hi
    have b := seqStep_noinstr t hi'
    refine ⟨⟨a.1.trans (hsim.trans b.1.symm), a.2.trans (hpc.trans b.2.symm)⟩, ?_, ?_⟩
    · unfold seqFault; rw [splitStep_noinstr s hi, splitStep_noinstr t hi']
    · unfold seqLog; rw [hi, hi']
  | some i =>
    have hi' := hia ▸ hi
    -- both steps are the completion of the fetched instruction from `s`
    obtain ⟨a1, a2, a3, a4⟩ := seqStep_cID s i hi hs s (Sim.rfl' s)
    obtain ⟨b1, b2, b3, b4⟩ := seqStep_cID t i hi' ht s hsim
    rw [show fetchLatch t i = fetchLatch s i by unfold fetchLatch; rw [hpc]] at b1 b2 b3 b4
    exact ⟨⟨a1.trans b1.symm, by rw [a2, b2, hpc]⟩, a3.trans b3.symm, a4.trans b4.symm⟩

theorem seqStep_imem (s : St) (hs : FetchSound s.imem) :
    (seqStep s).imem = s.imem ∨ (seqStep s).imem = (s.imem.fetch s.pc).imem := by
  cases hi : s.imem.instrAt s.pc with
  | none => left; unfold seqStep; rw [splitStep_noinstr s hi]
  | some i =>
    unfold seqStep
    rw [splitStep_instr s i hi hs]
    cases hf : (splitTail (fetchSt s) (fetchLatch s i)).fault with
    | some _ => left; rfl
    | none =>
      have ht := splitTail_cID (fetchSt s) (fetchLatch s i)
      rw [hf] at ht
      right; simp only []; rw [ht.2.1]; exact cID_imem _ _

theorem ICoh_seqStep (s : St) (h : ICoh s.imem) : ICoh (seqStep s).imem := by
  rcases seqStep_imem s h.fetchSound with e | e <;> rw [e]
  · exact h
  · exact h.fetch _

theorem ICoh_seqRun (s : St) (h : ICoh s.imem) : ∀ n, ICoh (seqRun n s).imem
  | 0 => h
  | n + 1 => ICoh_seqStep _ (ICoh_seqRun s h n)

theorem seqStep_stuck (s : St) (h : (seqFault s).isSome = true) : seqStep s = s := by
  unfold seqStep; unfold seqFault at h
  cases hf : (splitStep s).fault with
  | none => rw [hf] at h; cases h
  | some _ => rfl

theorem seqLog_congr {s t : St} (h : SimP s t) (hs : FetchSound s.imem) (ht : FetchSound t.imem) :
    seqLog s = seqLog t :=
  (seqStep_simP h hs ht).2.2

theorem seqTrace_ext {s t : St} : ∀ k, (∀ j, j < k → seqLog (seqRun j s) = seqLog (seqRun j t)) →
    seqTrace k s = seqTrace k t
  | 0, _ => rfl
  | k + 1, h => by
    rw [seqTrace, seqTrace, seqTrace_ext k (fun j hj => h j (Nat.lt_succ_of_lt hj)), h k (Nat.lt_succ_self k)]

theorem exitCode_none_of_not_done (p : PSt) (h : isDone p = false) : p.st.exitCode = none := by
  unfold isDone at h
  cases hx : p.st.exitCode with
  | none => rfl
  | some c => rw [hx] at h; simp at h

theorem singleDone_congr {s t : St} (h : SimP s t) : singleDone s = singleDone t := by
  unfold singleDone
  rw [h.1.exitCode, instrAt_congr h.1.prog, h.2]

theorem fetchOK_iff (p : PSt) :
    fetchOK p = true ↔ p.stalled = none ∧ (absC p).red = none ∧ (p.st.imem.instrAt p.st.pc).isSome = true := by
  unfold fetchOK
  simp [Bool.and_eq_true, Option.isNone_iff_eq_none, and_assoc]

theorem not_singleDone_of_fetchOK (p : PSt) (hf : fetchOK p = true) (hd : isDone p = false) :
    singleDone (abs p) = false := by
  obtain ⟨_, hr, hi⟩ := (fetchOK_iff p).1 hf
  have hx := exitCode_none_of_not_done p hd
  have hpc : (abs p).pc = p.st.pc := by unfold abs; exact pcOr_of_none hr _
  unfold singleDone
  rw [abs_exitCode p hr, hx, abs_imem, hpc]
  cases hq : p.st.imem.instrAt p.st.pc with
  | none => rw [hq] at hi; cases hi
  | some _ => rfl

/-! ### Refinement over runs -/

/-- Number of correct-path fetches during the first `n` cycles: the number of steps the sequential
    machine has made. -/
def fetches : Nat → PSt → Nat
  | 0, _ => 0
  | n + 1, p => fetches n p + (if fetchOK (pipeRun n p) then 1 else 0)

theorem fetches_succ {n : Nat} {p : PSt} (h : fetchOK (pipeRun n p) = true) :
    fetches (n + 1) p = fetches n p + 1 := by
  simp [fetches, h]

theorem fetches_succ_stutter {n : Nat} {p : PSt} (h : fetchOK (pipeRun n p) = false) :
    fetches (n + 1) p = fetches n p := by
  simp [fetches, h]

theorem fetches_le (p : PSt) : ∀ n, fetches n p ≤ n
  | 0 => Nat.le_refl 0
  | n + 1 => by
    have := fetches_le p n
    cases h : fetchOK (pipeRun n p)
    · rw [fetches_succ_stutter h]; omega
    · rw [fetches_succ h]; omega

/-- Why the fault clauses hold: a correct-path fetch happens only while no fault is predicted, turns
    the abstraction into the sequential successor and predicts that step's fault; so the predicted
    fault is that of the last sequential step made, and the steps before it did not fault. Each step
    made was a correct-path fetch of a pipeline that was not done (`not_singleDone_of_fetchOK`). -/
theorem refine_fetches (p0 : PSt) (hI : PInv p0) :
    ∀ n, runOK n p0 → (∀ m, m < n → RawFree (pipeRun m p0)) →
      SimP (abs (pipeRun n p0)) (seqRun (fetches n p0) (abs p0)) ∧
      retireLog n p0 ++ absLog (pipeRun n p0) = absLog p0 ++ seqTrace (fetches n p0) (abs p0) ∧
      (fetches n p0 = 0 → absF (pipeRun n p0) = absF p0) ∧
      (∀ j, j < fetches n p0 → seqFault (seqRun j (abs p0)) =
        if j + 1 = fetches n p0 then absF (pipeRun n p0) else none) ∧
      ((∀ m, m < n → isDone (pipeRun m p0) = false) →
        ∀ j, j < fetches n p0 → singleDone (seqRun j (abs p0)) = false)
  | 0, _, _ => ⟨SimP.rfl' _, by simp [retireLog, seqTrace, fetches, pipeRun], fun _ => rfl,
      fun j hj => absurd hj (Nat.not_lt_zero _), fun _ j hj => absurd hj (Nat.not_lt_zero j)⟩
  | n + 1, hr, hraw => by
    obtain ⟨hr', hf⟩ := runOK_succ hr
    obtain ⟨hsim, hlog, hF0, hF, hnd⟩ :=
      refine_fetches p0 hI n hr' (fun m hm => hraw m (Nat.lt_succ_of_lt hm))
    obtain ⟨a1, a2, a3⟩ : SimP (abs (pipeRun (n + 1) p0)) _ ∧ absF (pipeRun (n + 1) p0) = _ ∧
        latchLog (pipeRun n p0).l3 ++ absLog (pipeRun (n + 1) p0) = _ :=
      abs_step_sim _ (PInv_run p0 hI n hr') (hraw n (Nat.lt_succ_self n)) hf _
        (ICoh_seqRun (abs p0) (by rw [abs_imem]; exact hI.icoh) _).fetchSound hsim
    rw [retireLog_succ p0 n hf, List.append_assoc, a3, ← List.append_assoc, hlog, a2]
    cases hfo : fetchOK (pipeRun n p0) with
    | false =>
      rw [hfo] at a1
      rw [fetches_succ_stutter hfo]
      exact ⟨a1, by simp, hF0, hF, fun h => hnd (fun m hm => h m (Nat.lt_succ_of_lt hm))⟩
    | true =>
      rw [hfo] at a1
      rw [fetches_succ hfo]
      simp only [if_true] at a1 ⊢
      refine ⟨a1, by rw [List.append_assoc]; rfl, fun h => absurd h (Nat.succ_ne_zero _), fun j hj => ?_,
        fun h j hj => ?_⟩
      · by_cases hjk : j < fetches n p0
        · -- a correct-path fetch happens only while no fault is predicted
          have hlive : absF (pipeRun n p0) = none := by
            unfold absF Comp.flt; rw [((fetchOK_iff _).1 hfo).2.1]
          rw [hF j hjk, hlive, ite_self, if_neg (by omega)]
        · rw [show j = fetches n p0 by omega, if_pos rfl]
      · -- the step just made was a correct-path fetch of a pipeline that is not done
        by_cases hjk : j < fetches n p0
        · exact hnd (fun m hm => h m (Nat.lt_succ_of_lt hm)) j hjk
        · rw [show j = fetches n p0 by omega, ← singleDone_congr hsim]
          exact not_singleDone_of_fetchOK _ hfo (h n (Nat.lt_succ_self n))

theorem fetches_bound (p0 : PSt) (hI : PInv p0) (kstar : Nat)
    (hh : singleDone (seqRun kstar (abs p0)) = true ∨ (seqFault (seqRun kstar (abs p0))).isSome = true)
    (n : Nat) (hr : runOK n p0) (hraw : ∀ m, m < n → RawFree (pipeRun m p0))
    (hnd : ∀ m, m < n → isDone (pipeRun m p0) = false) :
    fetches n p0 ≤ kstar + 1 ∧ (fetches n p0 ≤ kstar ∨ (absF (pipeRun n p0)).isSome = true) := by
  obtain ⟨-, -, -, hF, hfirst⟩ := refine_fetches p0 hI n hr hraw
  by_cases hle : fetches n p0 ≤ kstar
  · exact ⟨by omega, Or.inl hle⟩
  · -- step `kstar` was made by a pipeline that was not done: it faulted, so it was the last
    have hs : (seqFault (seqRun kstar (abs p0))).isSome = true := by
      rcases hh with h | h
      · rw [hfirst hnd kstar (by omega)] at h; cases h
      · exact h
    rw [hF kstar (by omega)] at hs
    split at hs
    · exact ⟨by omega, Or.inr hs⟩
    · cases hs

theorem rawFree_run_of_hazard (p0 : PSt) (hI : PInv p0) (hz : p0.hazard = true) (n : Nat) (hr : runOK n p0) :
    ∀ m, m < n → RawFree (pipeRun m p0) := fun m hm =>
  rawFree_of_hazard _ (PInv_run p0 hI m (fun j hj => hr j (Nat.lt_trans hj hm))) (by rw [hazard_run, hz])

theorem refine_run_bound (p0 : PSt) (hI : PInv p0) (hz : p0.hazard = true) (h0 : absF p0 = none)
    (kstar : Nat)
    (hh : singleDone (seqRun kstar (abs p0)) = true ∨ (seqFault (seqRun kstar (abs p0))).isSome = true)
    (n : Nat) (hr : runOK n p0) (hnd : ∀ m, m < n → isDone (pipeRun m p0) = false) :
    ∃ k, k ≤ kstar + 1 ∧ SimP (abs (pipeRun n p0)) (seqRun k (abs p0)) ∧
      (k ≤ kstar ∨ (absF (pipeRun n p0)).isSome = true) :=
  have hraw := rawFree_run_of_hazard p0 hI hz n hr
  have hb := fetches_bound p0 hI kstar hh n hr hraw hnd
  ⟨fetches n p0, hb.1, (refine_fetches p0 hI n hr hraw).1, hb.2⟩

theorem refine_run_first (p0 : PSt) (hI : PInv p0) (hz : p0.hazard = true) (n : Nat) (hr : runOK n p0)
    (hnd : ∀ m, m < n → isDone (pipeRun m p0) = false) :
    ∃ k, k ≤ n ∧ SimP (abs (pipeRun n p0)) (seqRun k (abs p0)) ∧
      (∀ j, j < k → singleDone (seqRun j (abs p0)) = false) ∧
      retireLog n p0 ++ absLog (pipeRun n p0) = absLog p0 ++ seqTrace k (abs p0) ∧
      (∀ j, j < k → seqFault (seqRun j (abs p0)) = none ∨ (absF (pipeRun n p0)).isSome = true) := by
  have hraw := rawFree_run_of_hazard p0 hI hz n hr
  obtain ⟨hsim, hlog, -, hF, hfirst⟩ := refine_fetches p0 hI n hr hraw
  refine ⟨fetches n p0, fetches_le p0 n, hsim, hfirst hnd, hlog, fun j hj => ?_⟩
  rw [hF j hj]
  split
  · cases absF (pipeRun n p0) with
    | none => exact Or.inl rfl
    | some _ => exact Or.inr rfl
  · exact Or.inl rfl

theorem fault_agrees_run_raw (p0 : PSt) (hI : PInv p0) (h0 : absF p0 = none)
    (n : Nat) (hr : runOK n p0) (hraw : ∀ m, m < n → RawFree (pipeRun m p0))
    (ft : PFault) (hft : (step (pipeRun n p0)).fault = some ft) :
    ∃ k, fetches n p0 = k + 1 ∧ k < n ∧ (∀ j, j < k → seqFault (seqRun j (abs p0)) = none) ∧
      seqFault (seqRun k (abs p0)) = some (ft.addr, ft.fault) ∧
      (seqRun k (abs p0)).pc = ft.addr ∧
      (step (pipeRun n p0)).p.st.regs = (seqRun k (abs p0)).regs ∧
      (step (pipeRun n p0)).p.st.output = (seqRun k (abs p0)).output := by
  obtain ⟨hsim, -, hF0, hF, -⟩ := refine_fetches p0 hI n hr hraw
  obtain ⟨f1, f2, f3, f4⟩ := fault_local (pipeRun n p0) (PInv_run p0 hI n hr) ft hft
  have hle := fetches_le p0 n
  cases hk : fetches n p0 with
  | zero => rw [hF0 hk, h0] at f1; cases f1
  | succ k =>
    rw [hk] at hsim hF hle
    have hs : seqFault (seqRun k (abs p0)) = some (ft.addr, ft.fault) := by
      rw [hF k (Nat.lt_succ_self k), if_pos rfl]; exact f1
    rw [show seqRun (k + 1) (abs p0) = seqRun k (abs p0) from seqStep_stuck _ (by rw [hs]; rfl)] at hsim
    exact ⟨k, rfl, hle, fun j hj => by rw [hF j (by omega), if_neg (by omega)], hs, by rw [← hsim.2, f2],
      by rw [f3, hsim.1.regs], by rw [f4, hsim.1.output]⟩

/-! ### A finished pipeline: the abstraction is the physical state -/

def Drained (p : PSt) : Prop :=
  p.l0 = none ∧ p.l1 = none ∧ p.l2 = none ∧ p.l3 = none ∧ p.stalled = none

theorem absC_of_drained (p : PSt) (h : Drained p) : absC p = pureC p.st :=
  absC_empty p h.1 h.2.1 h.2.2.1 h.2.2.2.1 h.2.2.2.2

theorem abs_of_drained (p : PSt) (h : Drained p) : abs p = p.st := by
  unfold abs; rw [absC_of_drained p h]; rfl

theorem absLog_of_drained (p : PSt) (h : Drained p) : absLog p = [] := by
  unfold absLog; rw [absC_of_drained p h]; rfl

theorem done_noexit_drained (p : PSt) (hI : PInv p) (hd : isDone p = true) (hx : p.st.exitCode = none) :
    Drained p := by
  unfold isDone at hd
  simp only [hx, Option.isSome_none, Bool.false_or, Bool.and_eq_true, Option.isNone_iff_eq_none] at hd
  obtain ⟨⟨⟨⟨h0, h1⟩, h2⟩, h3⟩, _⟩ := hd
  refine ⟨h0, h1, h2, h3, ?_⟩
  -- a stall in progress keeps an occupied ID/EX or EX/MEM latch
  have hsh := hI.shape
  unfold Shape at hsh
  cases hs : p.stalled with
  | none => rfl
  | some st =>
    rw [hs] at hsh
    rcases hsh with ⟨_, _, _, _, h⟩ | ⟨_, _, _, _, _, h⟩
    · rw [h1] at h; cases h
    · rw [h2] at h; cases h

theorem exit_retire_drained (p : PSt) (hf : (step p).fault = none)
    (hx : p.st.exitCode = none) (hx' : (step p).p.st.exitCode.isSome = true) :
    Drained (step p).p := by
  obtain ⟨hex, hme⟩ := (step_fault_none_iff p).1 hf
  rw [step_p p hex hme] at hx' ⊢
  cases h4 : latchFlush (wbOut p).2 with
  | some a => rw [nextP, finishStep_flush4 _ _ _ _ _ _ _ a h4]; exact ⟨rfl, rfl, rfl, rfl, rfl⟩
  | none =>
    exfalso
    have hxc : (nextP p).st.exitCode = none := by
      rw [nextP, (finishStep_sim _ _ _ _ _ _ _).exitCode]
      unfold memOut exOut wbOut
      rw [memStage_exitCode, exStage_exitCode, wbStage_exitCode_noexit _ _ (latchExit_of_wbflush_none p h4),
        ← (ifOut_sim p).exitCode, hx]
    rw [hxc] at hx'; cases hx' 

theorem drained_at_first_done (p0 : PSt) (hI : PInv p0) (hx0 : p0.st.exitCode = none) (n : Nat)
    (hr : runOK n p0) (hd : isDone (pipeRun n p0) = true)
    (hprev : ∀ m, m < n → isDone (pipeRun m p0) = false) :
    Drained (pipeRun n p0) := by
  cases hx : (pipeRun n p0).st.exitCode with
  | none => exact done_noexit_drained _ (PInv_run p0 hI n hr) hd hx
  | some c =>
    cases n with
    | zero => rw [pipeRun, hx0] at hx; cases hx
    | succ m =>
      obtain ⟨hr', hf⟩ := runOK_succ hr
      have hxm := exitCode_none_of_not_done _ (hprev m (Nat.lt_succ_self m))
      exact exit_retire_drained _ hf hxm (by rw [pipeRun] at hx; rw [hx]; rfl)

theorem abs_at_first_done (p0 : PSt) (hI : PInv p0) (hx0 : p0.st.exitCode = none) (n : Nat)
    (hr : runOK n p0) (hd : isDone (pipeRun n p0) = true)
    (hprev : ∀ m, m < n → isDone (pipeRun m p0) = false) :
    abs (pipeRun n p0) = (pipeRun n p0).st := abs_of_drained _ (drained_at_first_done p0 hI hx0 n hr hd hprev)

theorem absLog_at_first_done (p0 : PSt) (hI : PInv p0) (hx0 : p0.st.exitCode = none) (n : Nat)
    (hr : runOK n p0) (hd : isDone (pipeRun n p0) = true)
    (hprev : ∀ m, m < n → isDone (pipeRun m p0) = false) :
    absLog (pipeRun n p0) = [] := absLog_of_drained _ (drained_at_first_done p0 hI hx0 n hr hd hprev)

theorem singleDone_of_isDone (p : PSt) (h : isDone p = true) : singleDone p.st = true := by
  unfold isDone at h; unfold singleDone
  simp only [Bool.or_eq_true, Bool.and_eq_true] at h ⊢
  rcases h with h | h
  · exact Or.inl h
  · exact Or.inr h.2

end ArchSim.Pipe
