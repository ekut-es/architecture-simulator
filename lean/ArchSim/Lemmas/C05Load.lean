/-
How `load` uses the passes: after tokenizing and `segment`, `load` is `loadSeg (resetSt s) data text'`, so it sees the
token list only through the pair `segment` returns; `loadSeg` succeeds exactly when the four passes do and the
program fits.
-/
import ArchSim.Lemmas.C05Seg
import ArchSim.Lemmas.C05Read
import ArchSim.Lemmas.C13Load

namespace ArchSim.Lemmas.C05
open ArchSim ArchSim.Asm ArchSim.Rv

/-- everything `load` does after segmentation (a copy of the tail of the model's `load`) -/
def loadSeg (s0 : St) (data text' : List Entry) : LoadOut :=
  let pending : List (Nat × String) := text'.filterMap fun (k, _, t) => t.lbl.map fun l => (k, l)
  let tentries : List TEntry := text'.map fun (k, line, t) => (k, line, t.item)
  let d := writeData data { mem := s0.mem, vars := [], ctr := 16384, err := none }
  let s1 := { s0 with mem := d.mem }
  match d.err with
  | some e => { st := s1, err := some e }
  | none =>
    match expandAll d.vars tentries with
    | .error e => { st := s1, err := some e }
    | .ok expanded =>
      match processLabels expanded pending [] 0 with
      | .error e => { st := s1, err := some e }
      | .ok ls =>
        match buildInstrs ls expanded 0 with
        | .error e => { st := s1, err := some e }
        | .ok instrs =>
          if instrs.length > 4096 then
            { st := { s1 with imem := { s1.imem with prog := instrs.take 4096 } }, err := some (.memAddr 16384) }
          else { st := { s1 with imem := { s1.imem with prog := instrs } }, err := none }

theorem load_factors (s : St) (text : String) :
    load s text =
      match tokenize (sanitize text) with
      | .error e => { st := resetSt s, err := some e }
      | .ok toks =>
        match segment toks with
        | .error e => { st := resetSt s, err := some e }
        | .ok (data, text') => loadSeg (resetSt s) data text' := by
  -- the results of the two passes are made variables first: `rfl` on the whole statement lets the
  -- unifier evaluate `tokenize (sanitize text)` as far as it goes
  unfold load
  generalize tokenize (sanitize text) = r
  cases r with
  | error e => rfl
  | ok toks =>
    dsimp only
    generalize segment toks = q
    cases q with
    | error e => rfl
    | ok p => rfl

theorem load_of_segment (s : St) (t : String) (toks data text' : List Entry)
    (ht : tokenize (sanitize t) = .ok toks) (hs : segment toks = .ok (data, text')) :
    load s t = loadSeg (resetSt s) data text' := by
  rw [load_factors, ht]
  simp only [hs]

theorem loadSeg_mem (s0 : St) (data text' : List Entry) :
    (loadSeg s0 data text').st.mem =
      (writeData data { mem := s0.mem, vars := [], ctr := 16384, err := none }).mem := by
  simp only [loadSeg]
  split
  · rfl
  · split
    · rfl
    · split
      · rfl
      · split
        · rfl
        · split <;> rfl

theorem resetSt_flat (s : St) (m : Mem.Mem) (hm : s.mem = .flat m) (hc : m.cfg = Mem.riscvCfg) :
    ({ mem := (resetSt s).mem, vars := [], ctr := 16384, err := none } : DataOut) = dataInit := by
  simp only [resetSt, hm, MemSys.reset, Mem.Mem.reset, hc, dataInit]

theorem loadSeg_ok (s0 : St) (data text' : List Entry) (expanded : List TEntry) (ls : Labels) (instrs : List Instr)
    (hd : (writeData data { mem := s0.mem, vars := [], ctr := 16384, err := none }).err = none)
    (he : expandAll (writeData data { mem := s0.mem, vars := [], ctr := 16384, err := none }).vars
      (text'.map fun (k, line, t) => (k, line, t.item)) = .ok expanded)
    (hl : processLabels expanded (text'.filterMap fun (k, _, t) => t.lbl.map fun l => (k, l)) [] 0 = .ok ls)
    (hb : buildInstrs ls expanded 0 = .ok instrs) (hlen : instrs.length ≤ 4096) :
    loadSeg s0 data text' =
      { st := { s0 with mem := (writeData data { mem := s0.mem, vars := [], ctr := 16384, err := none }).mem,
                        imem := { s0.imem with prog := instrs } },
        err := none } := by
  simp only [loadSeg, hd, he, hl, hb, show ¬ instrs.length > 4096 by omega, if_false]

theorem loadSeg_ok_inv (s0 : St) (data text' : List Entry) (h : (loadSeg s0 data text').err = none) :
    ∃ expanded ls instrs,
      (writeData data { mem := s0.mem, vars := [], ctr := 16384, err := none }).err = none ∧
      expandAll (writeData data { mem := s0.mem, vars := [], ctr := 16384, err := none }).vars
        (text'.map fun (k, line, t) => (k, line, t.item)) = .ok expanded ∧
      processLabels expanded (text'.filterMap fun (k, _, t) => t.lbl.map fun l => (k, l)) [] 0 = .ok ls ∧
      buildInstrs ls expanded 0 = .ok instrs ∧ instrs.length ≤ 4096 := by
  simp only [loadSeg] at h
  split at h
  · cases h
  · next hd =>
    split at h
    · cases h
    · next expanded he =>
      split at h
      · cases h
      · next ls hl =>
        split at h
        · cases h
        · next instrs hb =>
          split at h
          · cases h
          · next hlen => exact ⟨expanded, ls, instrs, hd, he, hl, hb, by omega⟩

end ArchSim.Lemmas.C05
