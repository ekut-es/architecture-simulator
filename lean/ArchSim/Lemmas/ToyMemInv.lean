/-
Every TOY state reached by loading a program and calling the stepping API has a well-formed memory with the TOY
configuration (`MemWF`): only `STO` and the loader write, and both go through `writeN`.  Stated for EVERY state, not
only those satisfying `Toy.Inv`: `Props/C17Views.toy_memory_invariant` asks for that.
-/
import ArchSim.Lemmas.C18Read
import ArchSim.Lemmas.ToyLoad

namespace ArchSim.Toy
open ArchSim ArchSim.Mem ArchSim.Lemmas.C18

/-- The memory is a TOY memory satisfying the invariant of all memories reached by writes. -/
def MemWF (m : Mem) : Prop := m.cfg = toyCfg ∧ WF m

theorem MemWF_empty : MemWF (Mem.empty toyCfg) := ⟨rfl, WF_empty toyCfg⟩

theorem MemWF_writeN (m : Mem) (h : MemWF m) (a : Int) (n v : Nat) : MemWF (writeN m a n v).1 :=
  ⟨by rw [writeN_cfg]; exact h.1, WF_writeN m a n v h.2⟩

theorem MemWF_wr (s : TSt) (h : MemWF s.mem) (a v : Nat) : MemWF (wr s a v) := by
  unfold wr Mem.write
  by_cases hb : s.mem.cfg.cellBits > 16
  · simp only [hb, if_true]; exact h
  · simp only [hb, if_false]; exact MemWF_writeN _ h _ _ _

theorem MemWF_behavior (i : TInstr) (s : TSt) (h : MemWF s.mem) : MemWF (behavior i s).mem := by
  rw [behavior_mem]
  split
  · exact MemWF_wr s h _ _
  · exact h

theorem MemWF_firstCycle (t : TSim) (h : MemWF t.s.mem) : MemWF (firstCycle t).t.s.mem := by
  fun_cases firstCycle t
  · exact h
  · exact h
  · exact MemWF_behavior _ _ h

theorem MemWF_secondCycle (t : TSim) (h : MemWF t.s.mem) : MemWF (secondCycle t).t.s.mem := by
  fun_cases secondCycle t <;> exact h

theorem MemWF_call (t : TSim) (c : Call) (h : MemWF t.s.mem) : MemWF (call t c).t.s.mem := by
  cases c with
  | first => exact MemWF_firstCycle t h
  | second => exact MemWF_secondCycle t h
  | step =>
    simp only [call, stepCall]
    split
    · exact h
    · split
      · exact MemWF_firstCycle t h
      · exact MemWF_secondCycle _ (MemWF_firstCycle t h)
  | single =>
    simp only [call, singleCall]
    split
    · exact MemWF_firstCycle t h
    · exact MemWF_secondCycle t h

theorem MemWF_run (n : Nat) (t : TSim) (h : MemWF t.s.mem) : MemWF (run n t).s.mem := by
  induction n generalizing t with
  | zero => exact h
  | succ n ih =>
    rw [run]
    split
    · exact h
    · exact ih _ (MemWF_call t .step h)

theorem MemWF_foldl_dataStep (data : List (Nat × Nat)) (m : Mem) (h : MemWF m) :
    MemWF (data.foldl dataStep m) := by
  induction data generalizing m with
  | nil => exact h
  | cons av data ih => exact ih _ (MemWF_writeN m h _ _ _)

theorem MemWF_writeInstrs (is : List TInstr) (m : Mem) (k : Nat) (h : MemWF m) :
    MemWF (loadImage.writeInstrs m k is) := by
  induction is generalizing m k with
  | nil => exact h
  | cons i is ih =>
    simp only [loadImage.writeInstrs]
    exact ih _ _ (MemWF_writeN m h _ _ _)

theorem MemWF_loadImage (t : TSim) (instrs : List TInstr) (data : List (Nat × Nat)) :
    MemWF (loadImage t instrs data).s.mem := by
  rw [loadImage_mem]
  exact MemWF_writeInstrs _ _ _ (MemWF_foldl_dataStep _ _ MemWF_empty)

end ArchSim.Toy
