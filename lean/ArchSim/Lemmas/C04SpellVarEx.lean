/-
Concrete texts for the non-vacuity example of the error case of "comments, blank lines and indentation change nothing".
-/
import ArchSim.Lemmas.C04SpellLoadRenum
import ArchSim.Lemmas.C04SpellVarLine

namespace ArchSim.Lemmas.C04Spell
open ArchSim ArchSim.PP ArchSim.Rv ArchSim.Asm ArchSim.Lemmas.C14

/-- a one-line program that uses an undeclared variable -/
def tErr1 : String := "lw x1, nosuch"
/-- the same entry on line 3, behind a comment line and a blank line, indented, with a trailing comment -/
def tErr2 : String := "# c\n\n  lw x1, nosuch  # x"

theorem tErr1_fails (s : St) :
    (load s tErr1).err = some (.parser "ParserVariableException" 1 "lw x1, nosuch") := by
  have hp : parseLine "lw x1, nosuch".toList = _ :=
    Eq.trans (congrArg parseLine (by decide +kernel)) (line_loadVar (.plain []) allWs_nil (fun _ => false) [' '] []
      [' '] [] allWs_space (by decide) allWs_nil allWs_space allWs_nil .lw rfl 1 (by decide) .x "nosuch".toList
      ⟨'n', "osuch".toList, rfl, by decide, by decide⟩ .none trivial)
  have hsan : sanitize tErr1 = [(1, "lw x1, nosuch".toList)] := by decide +kernel
  have htok : tokenize (sanitize tErr1) = .ok [(1, "lw x1, nosuch",
      { lbl := none, item := .grp (.memPseudo "lw" 1 "nosuch" none) })] := by
    rw [hsan]
    simp only [tokenize, hp]
    rfl
  unfold load
  simp only [htok]
  rfl

end ArchSim.Lemmas.C04Spell
