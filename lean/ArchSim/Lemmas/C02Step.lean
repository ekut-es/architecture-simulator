/-
`Pipe.step` exposed: the outputs of the five stages of one cycle as named functions of the old
pipeline state, and `finishStep` by the latch that raises the flush, so that a proof rewrites a
cycle instead of unfolding it.
-/
import ArchSim.Model.Pipe

namespace ArchSim.Pipe
open ArchSim ArchSim.Rv

def tick (p : PSt) : St := { p.st with cycles := p.st.cycles + 1 }

/-- IF stage output of this cycle (state, new IF/ID latch). -/
def ifOut (p : PSt) : St × Option Latch :=
  match p.stalled with
  | none => ifStage (tick p)
  | some _ => (tick p, p.l0)

def wbOut (p : PSt) : St × Option Latch := wbStage (ifOut p).1 p.l3
def idOut (p : PSt) : Option Latch := idStage p.hazard (wbOut p).1.regs (idInput p) p.l1 p.l2
def exOut (p : PSt) : ExOut := exStage (wbOut p).1 (exInput p) p.l2 p.l3
def memOut (p : PSt) : MemStOut := memStage (exOut p).st (memInput p)

/-- The pipeline state after a cycle in which no stage faults. -/
def nextP (p : PSt) : PSt :=
  finishStep p (memOut p).st (ifOut p).2 (idOut p) (exOut p).latch (memOut p).latch (wbOut p).2

theorem step_eq (p : PSt) :
    step p =
      match (exOut p).fault with
      | some f => { p := { p with st := (exOut p).st, l1 := exFaultL1 p }, fault := some f }
      | none =>
        match (memOut p).fault with
        | some f => { p := { p with st := (memOut p).st }, fault := some f }
        | none =>
          { p := finishStep p (memOut p).st (ifOut p).2 (idOut p) (exOut p).latch (memOut p).latch (wbOut p).2,
            fault := none } := by
  rfl

theorem step_nofault (p : PSt) (h1 : (exOut p).fault = none) (h2 : (memOut p).fault = none) :
    step p = { p := finishStep p (memOut p).st (ifOut p).2 (idOut p) (exOut p).latch (memOut p).latch (wbOut p).2,
               fault := none } := by
  rw [step_eq, h1]; simp only [h2]

theorem step_p (p : PSt) (h1 : (exOut p).fault = none) (h2 : (memOut p).fault = none) :
    (step p).p = nextP p := by
  rw [step_nofault p h1 h2]; rfl

theorem step_fault_none_iff (p : PSt) :
    (step p).fault = none ↔ (exOut p).fault = none ∧ (memOut p).fault = none := by
  rw [step_eq]
  cases h1 : (exOut p).fault <;> simp
  cases h2 : (memOut p).fault <;> simp

/-- Stall bookkeeping of `finishStep` after pick-up and count-down. A new record starts at `rem := 3`
    (`stall_signal.duration + 1`, the duration always 2) and is counted down in the pick-up cycle itself: it
    leaves that cycle with `rem := 2` (`nextStall_none_some`), two more stalled cycles. -/
def nextStall (old : Option Stall) (picked : Option Nat) (l0 l1 : Option Latch) : Option Stall :=
  let stalled1 : Option Stall := match picked with
    | none => old
    | some k =>
      match old with
      | none => some { k := k, rem := 3, p0 := setFlag l0, p1 := if k = 2 then setFlag l1 else none }
      | some o => some { o with k := k, rem := 3 }
  match stalled1 with
  | none => none
  | some st => if st.rem - 1 = 0 then none else some { st with rem := st.rem - 1 }

/-- A flush raised by EX cancels only an ID stall. -/
def dropLowStall (s : Option Stall) : Option Stall :=
  match s with
  | none => none
  | some st => if st.k < 2 then none else some st

def stallBump (picked : Option Nat) (s : St) : St :=
  if picked.isSome then { s with stalls := s.stalls + 1 } else s

def flushSt (s : St) (a : Int) : St := { s with flushes := s.flushes + 1, pc := a % 4294967296 }

theorem finishStep_flush4 (p : PSt) (s : St) (n0 n1 n2 n3 n4 : Option Latch) (a : Int)
    (h4 : latchFlush n4 = some a) :
    finishStep p s n0 n1 n2 n3 n4 =
      { p with st := flushSt (stallBump (pickStall p.stalled n1 n2) s) a,
               l0 := none, l1 := none, l2 := none, l3 := none, l4 := n4, stalled := none } := by
  unfold finishStep; simp only [h4]; rfl

theorem finishStep_flush3 (p : PSt) (s : St) (n0 n1 n2 n3 n4 : Option Latch) (a : Int)
    (h4 : latchFlush n4 = none) (h3 : latchFlush n3 = some a) :
    finishStep p s n0 n1 n2 n3 n4 =
      { p with st := flushSt (stallBump (pickStall p.stalled n1 n2) s) a,
               l0 := none, l1 := none, l2 := none, l3 := n3, l4 := n4, stalled := none } := by
  unfold finishStep; simp only [h4, h3]; rfl

theorem finishStep_flush2 (p : PSt) (s : St) (n0 n1 n2 n3 n4 : Option Latch) (a : Int)
    (h4 : latchFlush n4 = none) (h3 : latchFlush n3 = none) (h2 : latchFlush n2 = some a) :
    finishStep p s n0 n1 n2 n3 n4 =
      { p with st := flushSt (stallBump (pickStall p.stalled n1 n2) s) a,
               l0 := none, l1 := none, l2 := n2, l3 := n3, l4 := n4,
               stalled := dropLowStall (nextStall p.stalled (pickStall p.stalled n1 n2) p.l0 p.l1) } := by
  unfold finishStep; simp only [h4, h3, h2]; rfl

theorem finishStep_noflush (p : PSt) (s : St) (n0 n1 n2 n3 n4 : Option Latch)
    (h4 : latchFlush n4 = none) (h3 : latchFlush n3 = none) (h2 : latchFlush n2 = none) :
    finishStep p s n0 n1 n2 n3 n4 =
      { p with st := stallBump (pickStall p.stalled n1 n2) s,
               l0 := n0, l1 := n1, l2 := n2, l3 := n3, l4 := n4,
               stalled := nextStall p.stalled (pickStall p.stalled n1 n2) p.l0 p.l1 } := by
  unfold finishStep; simp only [h4, h3, h2]; rfl

theorem stallBump_st (k : Option Nat) (s : St) :
    stallBump k s = { s with stalls := s.stalls + (if k.isSome then 1 else 0) } := by
  unfold stallBump; split <;> rfl

theorem finishStep_shape (p : PSt) (s : St) (n0 n1 n2 n3 n4 : Option Latch) :
    ∃ s' a0 a1 a2 a3 sl,
      finishStep p s n0 n1 n2 n3 n4 =
        { p with st := s', l0 := a0, l1 := a1, l2 := a2, l3 := a3, l4 := n4, stalled := sl } ∧
      (s' = stallBump (pickStall p.stalled n1 n2) s ∨
        ∃ a, s' = flushSt (stallBump (pickStall p.stalled n1 n2) s) a) ∧
      (a1 = n1 ∨ a1 = none) ∧
      (sl = none ∨ sl = nextStall p.stalled (pickStall p.stalled n1 n2) p.l0 p.l1 ∨
        sl = dropLowStall (nextStall p.stalled (pickStall p.stalled n1 n2) p.l0 p.l1)) ∧
      (a3 = n3 ∨ a3 = none) := by
  cases h4 : latchFlush n4 with
  | some a =>
    exact ⟨_, _, _, _, _, _, finishStep_flush4 p s n0 n1 n2 n3 n4 a h4, .inr ⟨a, rfl⟩, .inr rfl, .inl rfl,
      .inr rfl⟩
  | none =>
    cases h3 : latchFlush n3 with
    | some a =>
      exact ⟨_, _, _, _, _, _, finishStep_flush3 p s n0 n1 n2 n3 n4 a h4 h3, .inr ⟨a, rfl⟩, .inr rfl,
        .inl rfl, .inl rfl⟩
    | none =>
      cases h2 : latchFlush n2 with
      | some a =>
        exact ⟨_, _, _, _, _, _, finishStep_flush2 p s n0 n1 n2 n3 n4 a h4 h3 h2, .inr ⟨a, rfl⟩, .inr rfl,
          .inr (.inr rfl), .inl rfl⟩
      | none =>
        exact ⟨_, _, _, _, _, _, finishStep_noflush p s n0 n1 n2 n3 n4 h4 h3 h2, .inl rfl, .inl rfl,
          .inr (.inl rfl), .inl rfl⟩

theorem finishStep_hazard_l4 (p : PSt) (s : St) (n0 n1 n2 n3 n4 : Option Latch) :
    (finishStep p s n0 n1 n2 n3 n4).hazard = p.hazard ∧ (finishStep p s n0 n1 n2 n3 n4).l4 = n4 := by
  obtain ⟨_, _, _, _, _, _, h, _⟩ := finishStep_shape p s n0 n1 n2 n3 n4
  rw [h]; exact ⟨rfl, rfl⟩

theorem finishStep_st (p : PSt) (s : St) (n0 n1 n2 n3 n4 : Option Latch) :
    (finishStep p s n0 n1 n2 n3 n4).st =
      { s with stalls := (finishStep p s n0 n1 n2 n3 n4).st.stalls,
               flushes := (finishStep p s n0 n1 n2 n3 n4).st.flushes,
               pc := (finishStep p s n0 n1 n2 n3 n4).st.pc } := by
  obtain ⟨s', _, _, _, _, _, h, hs, _⟩ := finishStep_shape p s n0 n1 n2 n3 n4
  rw [h]
  rcases hs with rfl | ⟨a, rfl⟩ <;> rw [stallBump_st] <;> rfl

theorem step_hazard (p : PSt) : (step p).p.hazard = p.hazard := by
  rw [step_eq]
  split
  · rfl
  · split
    · rfl
    · exact (finishStep_hazard_l4 _ _ _ _ _ _ _).1

/-! ### `pickStall` / `nextStall` by stall mode -/

theorem pickStall_none (n1 n2 : Option Latch) :
    pickStall none n1 n2 = if latchStall n2 then some 2 else if latchStall n1 then some 1 else none := by
  simp [pickStall]

theorem pickStall_k1 (st : Stall) (hk : st.k = 1) (n1 n2 : Option Latch) :
    pickStall (some st) n1 n2 = if latchStall n2 then some 2 else none := by
  simp [pickStall, hk]

theorem pickStall_k2 (st : Stall) (hk : st.k = 2) (n1 n2 : Option Latch) :
    pickStall (some st) n1 n2 = none := by
  simp [pickStall, hk]

@[simp] theorem nextStall_none_none (l0 l1 : Option Latch) : nextStall none none l0 l1 = none := rfl

theorem nextStall_none_some (k : Nat) (l0 l1 : Option Latch) :
    nextStall none (some k) l0 l1 =
      some { k := k, rem := 2, p0 := setFlag l0, p1 := if k = 2 then setFlag l1 else none } := rfl

theorem nextStall_some_none (st : Stall) (l0 l1 : Option Latch) :
    nextStall (some st) none l0 l1 = if st.rem - 1 = 0 then none else some { st with rem := st.rem - 1 } := rfl

theorem nextStall_parts (old : Option Stall) (picked : Option Nat) (l0 l1 : Option Latch) (st' : Stall)
    (h : nextStall old picked l0 l1 = some st') :
    (old = none ∧ st'.p0 = setFlag l0 ∧ (st'.p1 = setFlag l1 ∨ st'.p1 = none) ∧ (st'.k = 2 → st'.p1 = setFlag l1) ∧
      picked = some st'.k) ∨
    (∃ st, old = some st ∧ st'.p0 = st.p0 ∧ st'.p1 = st.p1 ∧ (picked = none → st'.k = st.k) ∧
      ∀ k, picked = some k → st'.k = k) := by
  cases old with
  | none =>
    cases picked with
    | none => cases h
    | some k =>
      rw [nextStall_none_some] at h; cases h
      left
      refine ⟨rfl, rfl, ?_, ?_, rfl⟩
      · dsimp only; split
        · exact Or.inl rfl
        · exact Or.inr rfl
      · intro hk; dsimp only at hk ⊢; rw [if_pos hk]
  | some st =>
    right
    cases picked with
    | none =>
      rw [nextStall_some_none] at h
      split at h
      · cases h
      · cases h; exact ⟨st, rfl, rfl, rfl, fun _ => rfl, fun k hc => (by cases hc)⟩
    | some k =>
      simp only [nextStall] at h
      split at h
      · cases h
      · cases h; exact ⟨st, rfl, rfl, rfl, fun hc => (by cases hc), fun k' hc => (by cases hc; rfl)⟩

theorem dropLowStall_some (o : Option Stall) (st : Stall) (h : dropLowStall o = some st) : o = some st := by
  cases o with
  | none => cases h
  | some st1 =>
    unfold dropLowStall at h
    dsimp only at h
    split at h
    · cases h
    · exact h

end ArchSim.Pipe
