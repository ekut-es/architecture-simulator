/-
The grammar's guarantees survive the passes of `load` up to the instruction pass — tokenizing,
segmenting and pseudo-instruction expansion only hand trees of the grammar to `buildInstrs` — so the
program of every successful `load` is built from trees of the grammar (`load_ok_built`).
-/
import ArchSim.Lemmas.C14Sound
import ArchSim.Lemmas.C05Load
import ArchSim.Lemmas.C15Asm

namespace ArchSim.Lemmas.C14
open ArchSim ArchSim.PP ArchSim.Rv ArchSim.Asm

theorem mem_of_memPseudo : ∀ mn ∈ memIMn ++ ["la"], mn ≠ "la" → mn ∈ memIMn ++ sMn := by decide +kernel
theorem mem_of_sPseudo : ∀ mn ∈ sMn, mn ∈ memIMn ++ sMn := by decide +kernel

theorem expandOne_form (vars : Vars) (e : TEntry) (g : List TEntry) (he : ItemForm e.2.2)
    (h : expandOne vars e = .ok g) : ∀ x ∈ g, ItemForm x.2.2 := by
  obtain ⟨k, line, it⟩ := e
  have lui (a : Nat) (v : Int) (ha : a < 32) : ItemForm (.grp (.utype "lui" a v)) := grp_form ⟨by decide, ha⟩
  have addi (a b : Nat) (v : Int) (ha : a < 32) (hb : b < 32) : ItemForm (.grp (.rri "addi" a b v)) :=
    grp_form ⟨by decide, ha, hb⟩
  unfold expandOne at h
  simp only at h
  split at h
  · cases h; exact List.forall_mem_singleton.2 (addi 0 0 0 (by decide) (by decide))
  · next rd imm =>
    have hrd : rd < 32 := he _ rfl
    split at h
    · cases h; exact List.forall_mem_cons.2 ⟨lui rd _ hrd, List.forall_mem_singleton.2 (addi rd rd _ hrd hrd)⟩
    · cases h; exact List.forall_mem_singleton.2 (addi rd 0 _ hrd (by decide))
  · next mn r1 v idx =>
    obtain ⟨hmn, hr1⟩ : GrammarForm (.memPseudo mn r1 v idx) := he _ rfl
    split at h
    · cases h
    · split at h
      · cases h; exact List.forall_mem_cons.2 ⟨lui r1 _ hr1, List.forall_mem_singleton.2 (addi r1 r1 _ hr1 hr1)⟩
      · next hla =>
        cases h
        exact List.forall_mem_cons.2 ⟨lui r1 _ hr1, List.forall_mem_cons.2 ⟨addi r1 r1 _ hr1 hr1,
          List.forall_mem_singleton.2 (grp_form ⟨mem_of_memPseudo mn hmn hla, hr1, hr1⟩)⟩⟩
  · next mn r1 v idx r2 =>
    obtain ⟨hmn, hr1, hr2⟩ : GrammarForm (.sPseudo mn r1 v idx r2) := he _ rfl
    split at h
    · cases h
    · cases h
      exact List.forall_mem_cons.2 ⟨lui r2 _ hr2, List.forall_mem_cons.2 ⟨addi r2 r2 _ hr2 hr2,
        List.forall_mem_singleton.2 (grp_form ⟨mem_of_sPseudo mn hmn, hr1, hr2⟩)⟩⟩
  · next rd rs =>
    obtain ⟨hrd, hrs⟩ : GrammarForm (.mv rd rs) := he _ rfl
    cases h; exact List.forall_mem_singleton.2 (addi rd rs 0 hrd hrs)
  · cases h; exact List.forall_mem_singleton.2 he

/-- A property of items that every parsed line of the text has and that `expandOne` hands on holds of every entry the
    instruction pass is given. -/
theorem load_ok_entries {P : Item → Prop} (s : St) (text : String) (h : (load s text).err = none)
    (hsrc : ∀ p ∈ sanitize text, ∀ t, parseLine p.2 = some t → P t.item)
    (hone : ∀ vars e g, P e.2.2 → expandOne vars e = .ok g → ∀ x ∈ g, P x.2.2) :
    ∃ ls es, (∀ e ∈ es, P e.2.2) ∧ buildInstrs ls es 0 = .ok (load s text).st.imem.prog := by
  rw [C05.load_factors] at h ⊢
  cases htok : tokenize (sanitize text) with
  | error e => rw [htok] at h; simp at h
  | ok toks =>
    rw [htok] at h
    simp only at h ⊢
    cases hseg : segment toks with
    | error e => rw [hseg] at h; simp at h
    | ok p =>
      obtain ⟨data, text'⟩ := p
      rw [hseg] at h
      simp only at h ⊢
      obtain ⟨expanded, ls, instrs, hd, hexp, hl, hb, hlen⟩ := C05.loadSeg_ok_inv _ data text' h
      rw [C05.loadSeg_ok _ data text' expanded ls instrs hd hexp hl hb hlen]
      refine ⟨ls, expanded, C15.expandAll_all (P := fun e => P e.2.2) (hone _) ?_ hexp, hb⟩
      intro e he
      obtain ⟨x, hx, rfl⟩ := List.mem_map.mp he
      exact C15.tokenize_all (P := fun e => P e.2.2.item) hsrc htok x ((C05.segment_ok hseg).2 x hx)

theorem load_ok_built (s : St) (text : String) (h : (load s text).err = none) :
    ∃ ls es, GrammarEntries es ∧ buildInstrs ls es 0 = .ok (load s text).st.imem.prog :=
  load_ok_entries s text h (fun _ _ _ => parseLine_form) fun vars => expandOne_form vars

end ArchSim.Lemmas.C14
