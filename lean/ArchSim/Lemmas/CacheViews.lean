/-
What `blockRow` of `Model/CacheViews.lean` shows for a valid way and for an invalid one.
Property theorems: `Props/C12Views.lean`, `Props/C11Views.lean`.
-/
import ArchSim.Model.CacheViews

namespace ArchSim.Lemmas.CacheViews
open ArchSim ArchSim.Cache ArchSim.CacheViews

theorem blockRow_valid {α : Type} (g : Geo) (showVal : α → String) (w : Way α) (hv : w.valid = true) :
    blockRow g showVal w =
      { valid := "1", dirty := bitStr w.dirty,
        cells := w.vals.mapIdx (fun i v => (toHexStr (w.base + i * 4) 32, showVal v)),
        tag := "0x" ++ toHexStr w.tag (tagBits g) } := by
  unfold blockRow
  simp only [hv, if_true, bitStr]

theorem blockRow_valid_cell {α : Type} (g : Geo) (showVal : α → String) (w : Way α) (hv : w.valid = true)
    (j : Nat) (hj : j < w.vals.length) :
    (blockRow g showVal w).cells[j]? = some (toHexStr (w.base + j * 4) 32, showVal w.vals[j]) := by
  rw [blockRow_valid g showVal w hv]
  simp [List.getElem?_mapIdx, List.getElem?_eq_getElem hj]

theorem blockRow_invalid {α : Type} (g : Geo) (showVal : α → String) (w : Way α) (hv : w.valid = false) :
    blockRow g showVal w =
      { valid := "0", dirty := bitStr w.dirty, cells := List.replicate (2 ^ g.blkBits) ("", ""),
        tag := String.ofList (List.replicate 30 ' ') } := by
  unfold blockRow
  simp only [hv, bitStr]
  rfl

end ArchSim.Lemmas.CacheViews
