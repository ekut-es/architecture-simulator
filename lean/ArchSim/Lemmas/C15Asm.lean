/-
RISC-V assembler: the shape of every error of every pass. Each pass reports only the `(line number, line)` of an
entry it was given (`X_err` for the pass `X`) and hands on whatever holds of its entries, so every parser error of
`Asm.load` names an existing line of the text; the memory error comes from a direct data write below the data range or
from a program of more than 4096 instructions.
-/
import ArchSim.Lemmas.C13Load
import ArchSim.Lemmas.Sanitize
import ArchSim.Lemmas.C05Seg
import ArchSim.Lemmas.C05Err
import ArchSim.Lemmas.C04Expand

namespace ArchSim.Lemmas.C15
open ArchSim ArchSim.PP ArchSim.Asm ArchSim.Rv
open ArchSim.Lemmas.C05 (segment_err segment_ok writeData_cons_eq declWrite_err)
variable {e : AsmErr}

theorem exists_mem_tail {α : Type} {p : α → Prop} {a : α} {l : List α} (h : ∃ x ∈ l, p x) : ∃ x ∈ a :: l, p x :=
  let ⟨x, hx, hp⟩ := h; ⟨x, List.mem_cons_of_mem a hx, hp⟩

theorem tokenize_err {xs : List (Nat × List Char)} (h : tokenize xs = .error e) :
    ∃ x ∈ xs, e = .parser "ParserSyntaxException" x.1 (String.ofList x.2) := by
  induction xs with
  | nil => simp [tokenize] at h
  | cons x rest ih =>
    obtain ⟨k, l⟩ := x
    unfold tokenize at h
    split at h
    · cases h; exact ⟨_, List.mem_cons_self, rfl⟩
    · split at h
      · next he => cases h; exact exists_mem_tail (ih he)
      · cases h

theorem tokenize_all {P : Entry → Prop} {xs : List (Nat × List Char)} {es : List Entry}
    (hx : ∀ p ∈ xs, ∀ t, parseLine p.2 = some t → P (p.1, String.ofList p.2, t)) (h : tokenize xs = .ok es) :
    ∀ x ∈ es, P x := by
  induction xs generalizing es with
  | nil => cases h; exact fun _ hx => nomatch hx
  | cons x rest ih =>
    obtain ⟨k, l⟩ := x
    unfold tokenize at h
    split at h
    · cases h
    · next t ht =>
      split at h
      · cases h
      · next es' he =>
        cases h
        exact List.forall_mem_cons.2 ⟨hx _ List.mem_cons_self t ht,
          ih (fun p hp => hx p (List.mem_cons_of_mem _ hp)) he⟩

theorem writeData_err {data : List Entry} {o : DataOut} {e : AsmErr}
    (h : (writeData data o).err = some e) :
    o.err = some e ∨
    (∃ x ∈ data, e = .parser "ParserDataSyntaxException" x.1 x.2.1 ∨
                 e = .parser "ParserDataDuplicateException" x.1 x.2.1) ∨
    (∃ a, e = .memAddr a ∧ (o.mem.backing.cfg = Mem.riscvCfg → 0 ≤ a ∧ a < 16384)) := by
  induction data generalizing o with
  | nil => exact .inl h
  | cons x rest ih =>
    obtain ⟨k, line, t⟩ := x
    rw [writeData_cons_eq] at h
    split at h
    · cases h; exact .inr (.inl ⟨_, List.mem_cons_self, .inl rfl⟩)
    · split at h
      · cases h; exact .inr (.inl ⟨_, List.mem_cons_self, .inr rfl⟩)
      · split at h
        · next hw => cases h; exact .inr (.inr (declWrite_err hw))
        · next hw =>
          -- the later writes find the configuration the memory had before this declaration's writes
          exact (ih h).imp_right (Or.imp exists_mem_tail fun ⟨a, ha, hr⟩ =>
            ⟨a, ha, fun hc => hr ((declWrite_reach hw).cfg_eq.trans hc)⟩)

theorem expandOne_err {vars : Vars} {e : TEntry} {x : AsmErr} (h : expandOne vars e = .error x) :
    x = .parser "ParserVariableException" e.1 e.2.1 :=
  (C04.expandOne_error_inv vars e.1 e.2.1 e.2.2 x h).1

theorem expandOne_line {vars : Vars} {e : TEntry} {es : List TEntry} (h : expandOne vars e = .ok es) :
    ∀ y ∈ es, y.1 = e.1 ∧ y.2.1 = e.2.1 :=
  (C04.expandOne_relocate vars e.1 e.1 e.2.1 e.2.1 e.2.2 es h).2

theorem expandAll_err {vars : Vars} {tes : List TEntry} (h : expandAll vars tes = .error e) :
    ∃ x ∈ tes, e = .parser "ParserVariableException" x.1 x.2.1 := by
  induction tes with
  | nil => simp [expandAll] at h
  | cons x rest ih =>
    unfold expandAll at h
    split at h
    · next hx' => cases h; exact ⟨x, List.mem_cons_self, expandOne_err hx'⟩
    · split at h
      · next hx' => cases h; exact exists_mem_tail (ih hx')
      · cases h

theorem expandAll_all {P : TEntry → Prop} {vars : Vars} {tes ex : List TEntry}
    (hone : ∀ e g, P e → expandOne vars e = .ok g → ∀ y ∈ g, P y) (ht : ∀ x ∈ tes, P x)
    (h : expandAll vars tes = .ok ex) : ∀ y ∈ ex, P y := by
  induction tes generalizing ex with
  | nil => cases h; exact fun _ hy => nomatch hy
  | cons x rest ih =>
    unfold expandAll at h
    split at h
    · cases h
    · next g hg =>
      split at h
      · cases h
      · next more hmore =>
        cases h
        exact List.forall_mem_append.2 ⟨hone x g (ht x List.mem_cons_self) hg,
          ih (fun x' hx' => ht x' (List.mem_cons_of_mem _ hx')) hmore⟩

theorem addLabel_err {ls : Labels} {n : String} {v : Int} {k : Nat} {line : String} {e : AsmErr}
    (h : addLabel ls n v k line = .error e) : e = .parser "DuplicateLabelException" k line := by
  unfold addLabel at h
  split at h
  · cases h; rfl
  · cases h

theorem processLabels_err {tes : List TEntry} {pending : List (Nat × String)} {ls : Labels} {addr : Int}
    (h : processLabels tes pending ls addr = .error e) :
    ∃ x ∈ tes, e = .parser "DuplicateLabelException" x.1 x.2.1 := by
  induction tes generalizing pending ls addr with
  | nil => simp [processLabels] at h
  | cons x rest ih =>
    obtain ⟨k, line, it⟩ := x
    unfold processLabels at h
    split at h
    · split at h
      · split at h
        · next he' => cases h; exact ⟨_, List.mem_cons_self, addLabel_err he'⟩
        · exact exists_mem_tail (ih h)
      · split at h
        · split at h
          · next he' => cases h; exact ⟨_, List.mem_cons_self, addLabel_err he'⟩
          · exact exists_mem_tail (ih h)
        · exact exists_mem_tail (ih h)
    · simp only at h
      split at h
      · split at h
        · next he' => cases h; exact ⟨_, List.mem_cons_self, addLabel_err he'⟩
        · exact exists_mem_tail (ih h)
      · exact exists_mem_tail (ih h)

def buildKinds : List String :=
  ["ParserSyntaxException", "ParserOddImmediateException", "ParserLabelException"]

theorem labelDisp_err {ls : Labels} {l : String} {off addr : Int} {k : Nat} {line : String} {e : AsmErr}
    (h : labelDisp ls l off addr k line = .error e) :
    e = .parser "ParserLabelException" k line ∨ e = .parser "ParserOddImmediateException" k line := by
  unfold labelDisp at h
  split at h
  · split at h
    · cases h; exact Or.inr rfl
    · cases h
  · cases h; exact Or.inl rfl

theorem instantiate_err {ls : Labels} {addr : Int} {k : Nat} {line : String} {pi : PInstr} {e : AsmErr}
    (h : instantiate ls addr k line pi = .error e) :
    ∃ kind ∈ buildKinds, e = .parser kind k line := by
  have mk : ∀ {kind e}, kind ∈ buildKinds →
      (Except.error (.parser kind k line) : Except AsmErr Rv.Instr) = .error e →
      ∃ kind ∈ buildKinds, e = .parser kind k line := by
    intro kind e hk h'; cases h'; exact ⟨kind, hk, rfl⟩
  have lab : ∀ {l off e}, labelDisp ls l off addr k line = .error e →
      ∃ kind ∈ buildKinds, e = .parser kind k line := by
    intro l off e h'
    rcases labelDisp_err h' with rfl | rfl <;> exact ⟨_, by simp [buildKinds], rfl⟩
  unfold instantiate at h
  simp only at h
  repeat' split at h
  all_goals first | (cases h; done) | exact mk (by simp [buildKinds]) h | (cases h; exact lab ‹_›)

theorem map_err {α β : Type} {f : α → β} {x : Except AsmErr α} {e : AsmErr}
    (h : x.map f = .error e) : x = .error e := by
  cases x with
  | error e' => simpa [Except.map] using h
  | ok a => simp [Except.map] at h

theorem buildInstrs_err {ls : Labels} {tes : List TEntry} {addr : Int} {e : AsmErr}
    (h : buildInstrs ls tes addr = .error e) :
    ∃ x ∈ tes, ∃ kind ∈ buildKinds, e = .parser kind x.1 x.2.1 := by
  induction tes generalizing addr with
  | nil => simp [buildInstrs] at h
  | cons x rest ih =>
    obtain ⟨k, line, it⟩ := x
    unfold buildInstrs at h
    split at h
    · split at h
      · exact exists_mem_tail (ih (map_err h))
      · split at h
        · exact exists_mem_tail (ih (map_err h))
        · exact exists_mem_tail (ih h)
    · split at h
      · rename_i e' he'
        cases h
        exact ⟨_, List.mem_cons_self, instantiate_err he'⟩
      · exact exists_mem_tail (ih (map_err h))
    · cases h
      exact ⟨(k, line, it), by simp, _, by simp [buildKinds], rfl⟩

/-- All the parser-error kinds the RISC-V model can produce. -/
def riscvKinds : List String :=
  ["ParserSyntaxException", "ParserDirectiveException", "ParserDataSyntaxException",
   "ParserDataDuplicateException", "ParserVariableException", "DuplicateLabelException",
   "ParserLabelException", "ParserOddImmediateException"]

theorem load_err_shape (s : Rv.St) (text : String) (h : (Asm.load s text).err = some e) :
    (∃ k line kind, LineOf text k line ∧ kind ∈ riscvKinds ∧ e = .parser kind k line) ∨
    (∃ a, e = .memAddr a ∧
      ∃ toks data text', tokenize (sanitize text) = .ok toks ∧ segment toks = .ok (data, text') ∧
        ∃ d, d = writeData data { mem := s.mem.reset, vars := [], ctr := 16384, err := none } ∧
          ((d.err = some (.memAddr a) ∧ (s.mem.backing.cfg = Mem.riscvCfg → 0 ≤ a ∧ a < 16384)) ∨
           (d.err = none ∧ a = 16384 ∧
             ∃ expanded pending ls instrs,
               expandAll d.vars (text'.map (fun (x : Entry) => ((x.1, x.2.1, x.2.2.item) : TEntry))) = .ok expanded ∧
               processLabels expanded pending [] 0 = .ok ls ∧
               buildInstrs ls expanded 0 = .ok instrs ∧ instrs.length > 4096))) := by
  -- the lines the entries of each pass come from
  have src {toks : List Entry} (ht : tokenize (sanitize text) = .ok toks) : ∀ x ∈ toks, LineOf text x.1 x.2.1 :=
    tokenize_all (P := fun x => LineOf text x.1 x.2.1) (fun _ hp _ _ => sanitize_mem hp) ht
  have srcT {toks data text' : List Entry} (ht : tokenize (sanitize text) = .ok toks)
      (hs : segment toks = .ok (data, text')) :
      ∀ y ∈ text'.map (fun (x : Entry) => ((x.1, x.2.1, x.2.2.item) : TEntry)), LineOf text y.1 y.2.1 :=
    fun y hy => by
      obtain ⟨x, hx, rfl⟩ := List.mem_map.1 hy
      exact src ht x ((segment_ok hs).2 x hx)
  have srcX {toks data text' : List Entry} {vars : Vars} {expanded : List TEntry}
      (ht : tokenize (sanitize text) = .ok toks) (hs : segment toks = .ok (data, text'))
      (hx : expandAll vars (text'.map (fun (x : Entry) => ((x.1, x.2.1, x.2.2.item) : TEntry))) = .ok expanded) :
      ∀ y ∈ expanded, LineOf text y.1 y.2.1 :=
    expandAll_all (P := fun y => LineOf text y.1 y.2.1)
      (fun e g he hg y hy => by obtain ⟨h1, h2⟩ := expandOne_line hg y hy; rw [h1, h2]; exact he) (srcT ht hs) hx
  revert h
  -- the exits of `load` in the order of its definition: `tokenize` fails (1), `segment` (2), the data pass (3),
  -- expansion (4), the label pass (5), the instruction pass (6), the program is too long (7); success (8) has no error
  fun_cases Asm.load s text <;> intro h <;> cases h
  case case1 hx =>
    obtain ⟨x, hm, rfl⟩ := tokenize_err hx
    exact .inl ⟨_, _, _, sanitize_mem hm, by simp [riscvKinds], rfl⟩
  case case2 _ _ ht hx =>
    obtain ⟨x, hm, rfl⟩ := segment_err hx
    exact .inl ⟨_, _, _, src ht x hm, by simp [riscvKinds], rfl⟩
  case case3 _ _ ht _ _ hs _ _ hd =>
    rcases writeData_err hd with h | ⟨x, hx, h | h⟩ | ⟨a, rfl, hr⟩
    · cases h
    · exact .inl ⟨_, _, _, src ht x ((segment_ok hs).1 x hx), by simp [riscvKinds], h⟩
    · exact .inl ⟨_, _, _, src ht x ((segment_ok hs).1 x hx), by simp [riscvKinds], h⟩
    · exact .inr ⟨a, rfl, _, _, _, ht, hs, _, rfl, .inl ⟨hd, fun hc => hr ((reset_cfg _).trans hc)⟩⟩
  case case4 _ _ ht _ _ hs _ _ _ _ hx =>
    obtain ⟨x, hm, rfl⟩ := expandAll_err hx
    exact .inl ⟨_, _, _, srcT ht hs x hm, by simp [riscvKinds], rfl⟩
  case case5 _ _ ht _ _ hs _ _ _ _ _ _ hexp hx =>
    obtain ⟨x, hm, rfl⟩ := processLabels_err hx
    exact .inl ⟨_, _, _, srcX ht hs hexp x hm, by simp [riscvKinds], rfl⟩
  case case6 _ _ ht _ _ hs _ _ _ _ _ _ hexp _ _ hx =>
    obtain ⟨x, hm, kind, hk, rfl⟩ := buildInstrs_err hx
    refine .inl ⟨_, _, kind, srcX ht hs hexp x hm, ?_, rfl⟩
    simp only [buildKinds, List.mem_cons, List.not_mem_nil, or_false] at hk
    rcases hk with rfl | rfl | rfl <;> simp [riscvKinds]
  case case7 _ _ ht _ _ hs _ _ _ _ hn _ hexp _ hls _ hins hlen =>
    exact .inr ⟨_, rfl, _, _, _, ht, hs, _, rfl, .inr ⟨hn, rfl, _, _, _, _, hexp, hls, hins, hlen⟩⟩

end ArchSim.Lemmas.C15
