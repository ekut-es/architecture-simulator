/-
The instruction pass. `Built ls addr pi ins` says which object `instantiate` makes of which tree (line number and text
occur only in errors), `Emitted` what one entry adds to the list; `buildInstrs` emits exactly the
instruction-producing entries, in order, the j-th one at address `addr + 4j`.
-/
import ArchSim.Lemmas.C04Labels

namespace ArchSim.Lemmas.C04
open ArchSim ArchSim.Asm ArchSim.Rv

theorem labelDisp_eq (ls : Labels) (l : String) (off addr : Int) (k : Nat) (line : String) :
    labelDisp ls l off addr k line =
      match lookupLabel ls l with
      | some L =>
        if (L + off - addr) % 2 ≠ 0 then .error (.parser "ParserOddImmediateException" k line)
        else .ok (L + off - addr)
      | none => .error (.parser "ParserLabelException" k line) := rfl

theorem labelDisp_ok_inv (ls : Labels) (l : String) (off addr : Int) (k : Nat) (line : String) (d : Int)
    (h : labelDisp ls l off addr k line = .ok d) :
    ∃ L, lookupLabel ls l = some L ∧ d = L + off - addr ∧ d % 2 = 0 := by
  rw [labelDisp_eq] at h
  cases hl : lookupLabel ls l with
  | none => rw [hl] at h; cases h
  | some L =>
    rw [hl] at h
    by_cases hodd : (L + off - addr) % 2 ≠ 0
    · simp only [if_pos hodd] at h; cases h
    · simp only [if_neg hodd] at h
      cases h
      exact ⟨L, rfl, rfl, by omega⟩

theorem labelDisp_line {ls : Labels} {l : String} {off addr : Int} {k : Nat} {line : String} {d : Int}
    (h : labelDisp ls l off addr k line = .ok d) (k' : Nat) (line' : String) :
    labelDisp ls l off addr k' line' = .ok d := by
  obtain ⟨L, hl, rfl, hev⟩ := labelDisp_ok_inv ls l off addr k line d h
  simp only [labelDisp, hl, hev, ne_eq, not_true_eq_false, if_false]

/-- the object of `mn a, b, v` and of `mn a, v(b)` (which `instantiate` treats alike) for the operation `op` that
    the mnemonic names -/
inductive BuiltRRI (a b : Nat) (v : Int) (op : Op) : Instr → Prop
  | i : op.ty = .i ∨ op.ty = .memI ∨ op.ty = .shiftI → BuiltRRI a b v op (mkInstr op a b 0 v)
  | s : op.ty = .s → BuiltRRI a b v op (mkInstr op 0 b a v)
  | b : op.ty = .b → v % 2 = 0 → BuiltRRI a b v op (mkInstr op 0 a b v)

/-- The objects `instantiate` builds with label table `ls` at address `addr`, by the form of the tree. The line
    number and text of the entry play no part: they only occur in error values. -/
inductive Built (ls : Labels) (addr : Int) : PInstr → Instr → Prop
  | rtype {mn op} (a b c : Nat) : Op.ofMnemonic mn = some op → Built ls addr (.rtype mn a b c) (mkInstr op a b c 0)
  | utype {mn op} (a : Nat) (v : Int) : Op.ofMnemonic mn = some op → Built ls addr (.utype mn a v) (mkInstr op a 0 0 v)
  | rri {mn op a b v i} : Op.ofMnemonic mn = some op → BuiltRRI a b v op i → Built ls addr (.rri mn a b v) i
  | mem {mn op a b v i} : Op.ofMnemonic mn = some op → BuiltRRI a b v op i → Built ls addr (.mem mn a v b) i
  | btypeLabel {mn op l off d} (a b : Nat) : Op.ofMnemonic mn = some op →
      (∀ k line, labelDisp ls l off addr k line = .ok d) → Built ls addr (.btypeLabel mn a b l off) (mkInstr op 0 a b d)
  | jalImm (rd : Nat) {v : Int} : v % 2 = 0 → Built ls addr (.jalImm rd v) (mkInstr .jal rd 0 0 (v - addr) v)
  | jalLabel {l off d} (rd : Nat) : (∀ k line, labelDisp ls l off addr k line = .ok d) →
      Built ls addr (.jalLabel rd l off) (mkInstr .jal rd 0 0 d (d + addr))
  | csr {mn op} (rd : Nat) (c : Int) (rs1 : Nat) : Op.ofMnemonic mn = some op →
      Built ls addr (.csr mn rd c rs1) { op := op, rd := rd, rs1 := rs1, aux := c }
  | csri {mn op} (rd : Nat) (c u : Int) : Op.ofMnemonic mn = some op →
      Built ls addr (.csri mn rd c u) { op := op, rd := rd, imm := u % 32, aux := c }
  | fence (a b : Nat) : Built ls addr (.fence a b) { op := .fence }

section
variable {ls : Labels} {addr : Int} {k : Nat} {line : String} {pi : PInstr} {ins : Instr}

theorem instantiate_rri_built {mn : String} {a b : Nat} {v : Int}
    (h : instantiate ls addr k line (.rri mn a b v) = .ok ins) :
    ∃ op, Op.ofMnemonic mn = some op ∧ BuiltRRI a b v op ins := by
  simp only [instantiate] at h
  split at h
  · cases h
  · next op ho =>
    refine ⟨op, ho, ?_⟩
    split at h
    · next ht => cases h; exact .i (.inl ht)
    · next ht => cases h; exact .i (.inr (.inl ht))
    · next ht => cases h; exact .i (.inr (.inr ht))
    · next ht => cases h; exact .s ht
    · next ht =>
      split at h
      · cases h
      · next hv => cases h; exact .b ht (Decidable.not_not.mp hv)
    · cases h

theorem instantiate_built (h : instantiate ls addr k line pi = .ok ins) : Built ls addr pi ins := by
  cases pi with
  | rtype mn a b c =>
    simp only [instantiate] at h
    split at h
    · next op ho => cases h; exact .rtype a b c ho
    · cases h
  | utype mn a v =>
    simp only [instantiate] at h
    split at h
    · next op ho => cases h; exact .utype a v ho
    · cases h
  | csr mn a c b =>
    simp only [instantiate] at h
    split at h
    · next op ho => cases h; exact .csr a c b ho
    · cases h
  | csri mn a c u =>
    simp only [instantiate] at h
    split at h
    · next op ho => cases h; exact .csri a c u ho
    · cases h
  | rri mn a b v =>
    obtain ⟨op, ho, hb⟩ := instantiate_rri_built h
    exact .rri ho hb
  | mem mn a v b =>
    obtain ⟨op, ho, hb⟩ := instantiate_rri_built (show instantiate ls addr k line (.rri mn a b v) = .ok ins from h)
    exact .mem ho hb
  | btypeLabel mn a b l off =>
    simp only [instantiate] at h
    split at h
    · cases h
    · next op ho =>
      cases hd : labelDisp ls l off addr k line with
      | error x => rw [hd] at h; cases h
      | ok d => rw [hd] at h; cases h; exact .btypeLabel a b ho (labelDisp_line hd)
  | jalImm rd v =>
    simp only [instantiate] at h
    split at h
    · cases h
    · next hv => cases h; exact .jalImm rd (Decidable.not_not.mp hv)
  | jalLabel rd l off =>
    simp only [instantiate] at h
    cases hd : labelDisp ls l off addr k line with
    | error x => rw [hd] at h; cases h
    | ok d => rw [hd] at h; cases h; exact .jalLabel rd (labelDisp_line hd)
  | fence a b => cases h; exact .fence a b
  | _ => simp only [instantiate] at h; cases h

theorem Built.instantiate_eq (hb : Built ls addr pi ins) (k : Nat) (line : String) :
    instantiate ls addr k line pi = .ok ins := by
  cases hb with
  | rtype a b c ho => simp only [instantiate, ho]
  | utype a v ho => simp only [instantiate, ho]
  | csr a c b ho => simp only [instantiate, ho]
  | csri a c u ho => simp only [instantiate, ho]
  | rri ho hr | mem ho hr =>
    cases hr with
    | i ht => rcases ht with ht | ht | ht <;> simp only [instantiate, ho, ht]
    | s ht => simp only [instantiate, ho, ht]
    | b ht hv => simp only [instantiate, ho, ht, hv, ne_eq, not_true_eq_false, if_false]
  | btypeLabel a b ho hd => simp only [instantiate, ho, hd]
  | jalImm rd hv => simp only [instantiate, hv, ne_eq, not_true_eq_false, if_false]
  | jalLabel rd hd => simp only [instantiate, hd]
  | fence a b => rfl

theorem Built.op_eq (hb : Built ls addr pi ins) : Op.ofMnemonic (piMnemonic pi) = some ins.op := by
  cases hb with
  | rri ho hr | mem ho hr => cases hr <;> exact ho
  | jalImm | jalLabel => exact show Op.ofMnemonic "jal" = some .jal by decide +kernel
  | fence => exact show Op.ofMnemonic "fence" = some .fence by decide +kernel
  | rtype _ _ _ ho | utype _ _ ho | csr _ _ _ ho | csri _ _ _ ho | btypeLabel _ _ ho => exact ho

theorem instantiate_ok_emits (h : instantiate ls addr k line pi = .ok ins) : emits (.grp pi) = true := by
  simp only [emits, isRealMnemonic, (instantiate_built h).op_eq, Option.isSome_some]

end

theorem map_ok_iff {α β ε} (f : α → β) (x : Except ε α) (y : β) :
    x.map f = .ok y ↔ ∃ a, x = .ok a ∧ f a = y := by
  cases x with
  | error e => simp [Except.map]
  | ok a => simp [Except.map]

/-- What the entry `(k, line, it)` at address `addr` adds to the instruction list. -/
inductive Emitted (ls : Labels) (addr : Int) (k : Nat) (line : String) : Item → Option Instr → Prop
  | ecall : Emitted ls addr k line (.str "ecall") (some { op := .ecall })
  | ebreak : Emitted ls addr k line (.str "ebreak") (some { op := .ebreak, imm := 1 })
  | label {s} : s ≠ "ecall" → s ≠ "ebreak" → Emitted ls addr k line (.str s) none
  | grp {pi i0} : instantiate ls addr k line pi = .ok i0 → Emitted ls addr k line (.grp pi) (some i0)

theorem buildInstrs_cons_ok (ls : Labels) (k : Nat) (line : String) (it : Item) (rest : List TEntry) (addr : Int)
    (instrs : List Instr) (h : buildInstrs ls ((k, line, it) :: rest) addr = .ok instrs) :
    ∃ (o : Option Instr) (tl : List Instr), instrs = o.toList ++ tl ∧
      buildInstrs ls rest (addr + 4 * (o.toList.length : Int)) = .ok tl ∧ Emitted ls addr k line it o := by
  cases it with
  | str s =>
    simp only [buildInstrs] at h
    by_cases h1 : s = "ecall"
    · subst h1
      obtain ⟨tl, htl, rfl⟩ := (map_ok_iff _ _ _).mp (by simpa only [if_true] using h)
      exact ⟨some _, tl, rfl, htl, .ecall⟩
    · by_cases h2 : s = "ebreak"
      · subst h2
        obtain ⟨tl, htl, rfl⟩ := (map_ok_iff _ _ _).mp (by simpa only [if_neg h1, if_true] using h)
        exact ⟨some _, tl, rfl, htl, .ebreak⟩
      · simp only [if_neg h1, if_neg h2] at h
        exact ⟨none, instrs, rfl, by simpa using h, .label h1 h2⟩
  | grp pi =>
    simp only [buildInstrs] at h
    cases hi : instantiate ls addr k line pi with
    | error x => rw [hi] at h; cases h
    | ok i0 =>
      rw [hi] at h
      obtain ⟨tl, htl, rfl⟩ := (map_ok_iff _ _ _).mp h
      exact ⟨some _, tl, rfl, htl, .grp hi⟩
  | _ => simp only [buildInstrs] at h; cases h

theorem Emitted.isSome {ls : Labels} {addr : Int} {k : Nat} {line : String} {it : Item} {o : Option Instr}
    (h : Emitted ls addr k line it o) : emits it = o.isSome := by
  cases h with
  | ecall | ebreak => rfl
  | label h1 h2 => simp only [emits, Option.isSome_none, decide_eq_false_iff_not, not_or]; exact ⟨h1, h2⟩
  | grp hi => exact instantiate_ok_emits hi

theorem Emitted.of_ecall {ls : Labels} {addr : Int} {k : Nat} {line : String} {it : Item} {o : Option Instr}
    (h : Emitted ls addr k line it o) (hit : it = .str "ecall") : o = some { op := .ecall } := by
  cases h with
  | ecall => rfl
  | ebreak => exact absurd (Item.str.inj hit) (by decide)
  | label h1 => exact absurd (Item.str.inj hit) h1
  | grp => cases hit

theorem Emitted.of_ebreak {ls : Labels} {addr : Int} {k : Nat} {line : String} {it : Item} {o : Option Instr}
    (h : Emitted ls addr k line it o) (hit : it = .str "ebreak") : o = some { op := .ebreak, imm := 1 } := by
  cases h with
  | ecall => exact absurd (Item.str.inj hit) (by decide)
  | ebreak => rfl
  | label _ h2 => exact absurd (Item.str.inj hit) h2
  | grp => cases hit

/-- Specification of `buildInstrs` as a predicate on the output: the statement of `Props.C04.instructions_in_order`. -/
def BuildSpec (ls : Labels) (es : List TEntry) (addr : Int) (instrs : List Instr) : Prop :=
    instrs.length = countE es ∧
    (∀ (p : Nat) (hp : p < es.length) (pi : PInstr), es[p].2.2 = .grp pi →
      emits (.grp pi) = true ∧
      ∃ ins, instantiate ls (addr + 4 * (countE (es.take p) : Int)) es[p].1 es[p].2.1 pi = .ok ins ∧
        instrs[countE (es.take p)]? = some ins) ∧
    (∀ (p : Nat) (hp : p < es.length), es[p].2.2 = .str "ecall" →
      instrs[countE (es.take p)]? = some { op := .ecall }) ∧
    (∀ (p : Nat) (hp : p < es.length), es[p].2.2 = .str "ebreak" →
      instrs[countE (es.take p)]? = some { op := .ebreak, imm := 1 }) ∧
    (∀ (p : Nat) (hp : p < es.length), (∃ s, es[p].2.2 = .str s) ∨ (∃ pi, es[p].2.2 = .grp pi))

theorem buildInstrs_spec (ls : Labels) (es : List TEntry) (addr : Int) (instrs : List Instr)
    (h : buildInstrs ls es addr = .ok instrs) : BuildSpec ls es addr instrs := by
  induction es generalizing addr instrs with
  | nil =>
    simp only [buildInstrs, Except.ok.injEq] at h
    subst h
    exact ⟨rfl, fun p hp => absurd hp (Nat.not_lt_zero _), fun p hp => absurd hp (Nat.not_lt_zero _),
      fun p hp => absurd hp (Nat.not_lt_zero _), fun p hp => absurd hp (Nat.not_lt_zero _)⟩
  | cons e rest ih =>
    obtain ⟨k, line, it⟩ := e
    obtain ⟨o, tl, rfl, htl, hE⟩ := buildInstrs_cons_ok ls k line it rest addr instrs h
    obtain ⟨ih0, ih1, ih2, ih3, ih4⟩ := ih _ tl htl
    have hlen : o.toList.length = if emits it then 1 else 0 := by rw [hE.isSome]; cases o <;> rfl
    -- index `c` of the rest is index `[head emits] + c` of the whole
    have hidx : ∀ p', (o.toList ++ tl)[countE (((k, line, it) :: rest).take (p' + 1))]? = tl[countE (rest.take p')]? := by
      intro p'
      rw [countE_take_succ, ← hlen, List.getElem?_append_right (Nat.le_add_right _ _), Nat.add_sub_cancel_left]
    have haddr : ∀ p', addr + 4 * (countE (((k, line, it) :: rest).take (p' + 1)) : Int) =
        addr + 4 * (o.toList.length : Int) + 4 * (countE (rest.take p') : Int) := by
      intro p'
      rw [countE_take_succ, ← hlen, Int.natCast_add]; omega
    refine ⟨?_, ?_, ?_, ?_, ?_⟩
    · rw [countE_cons, List.length_append, hlen, ih0]
    · intro p hp pi hpi
      cases p with
      | zero =>
        obtain rfl : it = .grp pi := hpi
        cases hE with
        | grp hi =>
          simp only [List.take_zero, countE_nil, Int.natCast_zero, Int.mul_zero, Int.add_zero]
          exact ⟨instantiate_ok_emits hi, _, hi, rfl⟩
      | succ p' =>
        rw [hidx, haddr]
        exact ih1 p' (Nat.lt_of_succ_lt_succ hp) pi hpi
    · intro p hp hpi
      cases p with
      | zero => rw [hE.of_ecall hpi]; rfl
      | succ p' => rw [hidx]; exact ih2 p' (Nat.lt_of_succ_lt_succ hp) hpi
    · intro p hp hpi
      cases p with
      | zero => rw [hE.of_ebreak hpi]; rfl
      | succ p' => rw [hidx]; exact ih3 p' (Nat.lt_of_succ_lt_succ hp) hpi
    · intro p hp
      cases p with
      | zero =>
        cases hE with
        | ecall | ebreak | label => exact .inl ⟨_, rfl⟩
        | grp => exact .inr ⟨_, rfl⟩
      | succ p' => exact ih4 p' (Nat.lt_of_succ_lt_succ hp)

/-- What `buildInstrs` does with a second list `es₂` after the result `r` of a first: it passes an error on, else
    builds `es₂` at the address behind `r`'s instructions. Makes `buildInstrs_append` one equation, errors
    included. -/
def appendBuild (ls : Labels) (es₂ : List TEntry) (addr : Int) (r : Except AsmErr (List Instr)) :
    Except AsmErr (List Instr) :=
  match r with
  | .error e => .error e
  | .ok i₁ => (buildInstrs ls es₂ (addr + 4 * (i₁.length : Int))).map (i₁ ++ ·)

theorem appendBuild_map_cons (ls : Labels) (es₂ : List TEntry) (addr : Int) (i0 : Instr)
    (r : Except AsmErr (List Instr)) :
    (appendBuild ls es₂ (addr + 4) r).map (i0 :: ·) = appendBuild ls es₂ addr (r.map (i0 :: ·)) := by
  cases r with
  | error x => rfl
  | ok i₁ =>
    simp only [appendBuild, Except.map, List.length_cons]
    have e : addr + 4 * (((i₁.length + 1 : Nat)) : Int) = addr + 4 + 4 * (i₁.length : Int) := by
      simp only [Int.natCast_add]; omega
    rw [e]
    cases buildInstrs ls es₂ (addr + 4 + 4 * (i₁.length : Int)) <;> rfl

theorem buildInstrs_append (ls : Labels) (es₁ es₂ : List TEntry) (addr : Int) :
    buildInstrs ls (es₁ ++ es₂) addr = appendBuild ls es₂ addr (buildInstrs ls es₁ addr) := by
  induction es₁ generalizing addr with
  | nil =>
    simp only [List.nil_append, buildInstrs, appendBuild, List.length_nil, Int.natCast_zero, Int.mul_zero,
      Int.add_zero]
    cases buildInstrs ls es₂ addr <;> simp [Except.map]
  | cons e rest ih =>
    obtain ⟨k, line, it⟩ := e
    cases it with
    | str s =>
      simp only [List.cons_append, buildInstrs]
      by_cases h1 : s = "ecall"
      · simp only [h1, if_true, ih, appendBuild_map_cons]
      · by_cases h2 : s = "ebreak"
        · subst h2
          have hne : ("ebreak" : String) ≠ "ecall" := by decide
          simp only [if_neg hne, if_true, ih, appendBuild_map_cons]
        · simp only [if_neg h1, if_neg h2, ih]
    | grp pi =>
      simp only [List.cons_append, buildInstrs]
      cases instantiate ls addr k line pi with
      | error x => rfl
      | ok i0 => simp only [ih, appendBuild_map_cons]
    | _ => simp only [List.cons_append, buildInstrs, appendBuild]

end ArchSim.Lemmas.C04
