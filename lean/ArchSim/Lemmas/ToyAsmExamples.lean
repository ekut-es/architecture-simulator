/-
Concrete TOY programs used by the examples of `Props/C19.lean`.
-/
import ArchSim.Model.ToyAsm

namespace ArchSim.ToyAsm
open ArchSim

/-- `loop: LDA x` / `.data` / `x: .word 7, 0x10` -/
def prog3 : List Entry :=
  [(1, "loop: LDA x", .instr (some "loop") "LDA" none (some "x")),
   (2, ".data", .directive "data"),
   (3, "x: .word 7, 0x10", .varDecl "x" ["7", "0x10"])]

/-- the same program with the data segment first -/
def prog3' : List Entry :=
  [(2, ".data", .directive "data"),
   (3, "x: .word 7, 0x10", .varDecl "x" ["7", "0x10"]),
   (4, ".text", .directive "text"),
   (1, "loop: LDA x", .instr (some "loop") "LDA" none (some "x"))]

/-- A loop that is meant to count `x` down to zero and never reaches `end`. -/
def countdown : String :=
  "LDA x\nloop: DEC\nBRZ end\nZRO\nBRZ loop\nend: STO x\n.data\nx: .word 3\n"

/-- The example of the TOY help page (`ToyHelp.vue`: compare `my_array[0]` with `my_var`), as
    tokenised by the front end. -/
def helpExample : List Entry :=
  [(1, ".data", .directive "data"),
   (2, "my_array: .word 7, 0x00F, 3", .varDecl "my_array" ["7", "0x00F", "3"]),
   (3, "my_var: .word 7", .varDecl "my_var" ["7"]),
   (4, "my_result: .word 0", .varDecl "my_result" ["0"]),
   (5, ".text", .directive "text"),
   (7, "LDA my_array", .instr none "LDA" none (some "my_array")),
   (8, "SUB my_var", .instr none "SUB" none (some "my_var")),
   (9, "BRZ true", .instr none "BRZ" none (some "true")),
   (10, "ZRO", .instr none "ZRO" none none),
   (11, "BRZ end", .instr none "BRZ" none (some "end")),
   (12, "true:", .label "true"),
   (13, "INC", .instr none "INC" none none),
   (14, "STO my_result", .instr none "STO" none (some "my_result")),
   (15, "end:", .label "end")]

/-- `tests/toy_programs/sum.toy` (sum of 1..n, here n = 10), as tokenised by the front end. -/
def sumToy : List Entry :=
  [(3, ".data", .directive "data"),
   (4, "n: .word 10", .varDecl "n" ["10"]),
   (5, "result: .word 0", .varDecl "result" ["0"]),
   (7, ".text", .directive "text"),
   (8, "LDA n", .instr none "LDA" none (some "n")),
   (9, "BRZ end", .instr none "BRZ" none (some "end")),
   (10, "loop:", .label "loop"),
   (11, "LDA result", .instr none "LDA" none (some "result")),
   (12, "ADD n", .instr none "ADD" none (some "n")),
   (13, "STO result", .instr none "STO" none (some "result")),
   (14, "LDA n", .instr none "LDA" none (some "n")),
   (15, "DEC", .instr none "DEC" none none),
   (16, "STO n", .instr none "STO" none (some "n")),
   (17, "BRZ end", .instr none "BRZ" none (some "end")),
   (18, "ZRO", .instr none "ZRO" none none),
   (19, "BRZ loop", .instr none "BRZ" none (some "loop")),
   (20, "end:", .label "end")]

/-- the text of `tests/toy_programs/sum.toy`, piece by piece -/
def sumLines : List String :=
  ["# computes the sum of the numbers from 1 to n\n", "\n", ".data\n",
   "    n: .word 10 # enter n here\n", "    result: .word 0\n", "\n", ".text\n",
   "    LDA n # skip to the end if n=0\n", "    BRZ end\n", "    loop:\n",
   "        LDA result\n", "        ADD n\n", "        STO result\n", "        LDA n\n",
   "        DEC\n", "        STO n\n", "        BRZ end\n", "        ZRO\n", "        BRZ loop\n",
   "    end:\n"]

/-- the text of the help-page example (`ToyHelp.vue`), piece by piece -/
def helpLines : List String :=
  [".data\n",
   "    my_array: .word 7, 0x00F, 3 # my_array points to the address of the first element of the array\n",
   "    my_var: .word 7\n", "    my_result: .word 0\n", ".text\n",
   "    # check if the first element of my_array is equal to my_var and store result in my_result\n",
   "    LDA my_array\n", "    SUB my_var\n", "    BRZ true\n", "    ZRO\n", "    BRZ end\n",
   "    true:\n", "        INC\n", "        STO my_result\n", "    end:"]

end ArchSim.ToyAsm
