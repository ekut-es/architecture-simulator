/-
The ecall services of the model compute what the reference's table prescribes: digit strings, the print-string loop
against `readStr`, the service table.  The outcome maps `αStr`, `αSvc` are partial as `αFault` is: `αStr r = some x`
also says that `r` is no error without counterpart.
-/
import ArchSim.Lemmas.C01Mem
import ArchSim.Lemmas.RvEcall

namespace ArchSim.Lemmas.C01
open ArchSim ArchSim.Rv ArchSim.Spec.RvSpec ArchSim.Mem ArchSim.Cache

/-! ### digit strings -/

theorem natToBase10 (n : Nat) : natToBase 10 (by decide) n = toString n := by
  rw [natToBase, toDigitsRev_reverse 10 _ id (by decide) n, List.map_id, Nat.toString_eq_ofList_toDigits]

theorem natToBase2 (n : Nat) : natToBase 2 (by decide) n = binary n := by
  rw [natToBase, toDigitsRev_reverse 2 _ id (by decide) n, List.map_id, binary]

theorem natToBase16 (n : Nat) : natToBase 16 (by decide) n = upperHex n := by
  rw [natToBase, toDigitsRev_reverse 16 _ Char.toUpper (by decide) n, upperHex]

theorem intToDec_eq (x : Int) : intToDec x = toString x := by
  cases x with
  | ofNat m =>
    simp only [intToDec, Int.ofNat_eq_natCast, Int.natAbs_natCast, natToBase10]
    rw [if_neg (by omega)]
    rfl
  | negSucc m =>
    simp only [intToDec, natToBase10]
    rw [if_pos (by omega)]
    rfl

/-! ### the reference `readStr`: its value in terms of the first address at which the scan stops -/

def prepend (l : List Char) : Except SpecFault (List Char) → Except SpecFault (List Char)
  | .ok cs => .ok (l ++ cs)
  | .error f => .error f

/-- The characters of the `k` bytes starting at `a`. -/
def strChars (mem : Word → Byte) (a k : Nat) : List Char :=
  (List.range k).map (fun j => Char.ofNat ((mem (BitVec.ofNat 32 (a + j))).toNat % 128))

theorem strChars_succ (mem : Word → Byte) (a k : Nat) :
    strChars mem a (k + 1) = Char.ofNat ((mem (BitVec.ofNat 32 a)).toNat % 128) :: strChars mem (a + 1) k := by
  simp only [strChars, List.range_succ_eq_map, List.map_cons, List.map_map, Nat.add_zero]
  congr 1
  apply List.map_congr_left
  intro j _
  simp only [Function.comp, Nat.succ_eq_add_one]
  rw [show a + (j + 1) = a + 1 + j by omega]

/-- Where the scan of `readStr` goes on: a mapped address holding a non-zero byte. -/
def Goes (mem : Word → Byte) (a : Nat) : Prop :=
  dataBase ≤ a ∧ a < 4294967296 ∧ mem (BitVec.ofNat 32 a) ≠ 0

theorem readStr_unmapped (mem : Word → Byte) (a : Nat) (h : a < dataBase ∨ 4294967296 ≤ a) :
    readStr mem a = .error (.access (BitVec.ofNat 32 a)) := by
  rw [readStr, dif_pos h]

theorem readStr_zero (mem : Word → Byte) (a : Nat) (h : ¬ (a < dataBase ∨ 4294967296 ≤ a))
    (hz : mem (BitVec.ofNat 32 a) = 0) : readStr mem a = .ok [] := by
  rw [readStr, dif_neg h]; simp only [hz, if_true]

theorem readStr_goes (mem : Word → Byte) (a : Nat) (h : Goes mem a) :
    readStr mem a = prepend [Char.ofNat ((mem (BitVec.ofNat 32 a)).toNat % 128)] (readStr mem (a + 1)) := by
  rw [readStr, dif_neg (by have := h.1; have := h.2.1; omega)]
  simp only [h.2.2, if_false]
  cases readStr mem (a + 1) <;> rfl

theorem readStr_skip (mem : Word → Byte) (k : Nat) : ∀ a, (∀ j, j < k → Goes mem (a + j)) →
    readStr mem a = prepend (strChars mem a k) (readStr mem (a + k)) := by
  induction k with
  | zero => intro a _; cases readStr mem a <;> rfl
  | succ k ih =>
    intro a h
    rw [readStr_goes mem a (h 0 (by omega)), ih (a + 1) (fun j hj => by
      rw [show a + 1 + j = a + (j + 1) by omega]; exact h (j + 1) (by omega)), strChars_succ,
      show a + 1 + k = a + (k + 1) by omega]
    cases readStr mem (a + (k + 1)) <;> rfl

theorem readStr_stops (mem : Word → Byte) (a : Nat) :
    ∃ k, (∀ j, j < k → Goes mem (a + j)) ∧ ¬ Goes mem (a + k) := by
  induction hn : 4294967296 - a using Nat.strongRecOn generalizing a with
  | _ n ih =>
    by_cases h : Goes mem a
    · obtain ⟨k, h1, h2⟩ := ih (4294967296 - (a + 1)) (by have := h.2.1; omega) (a + 1) rfl
      refine ⟨k + 1, fun j hj => ?_, by rw [show a + (k + 1) = a + 1 + k by omega]; exact h2⟩
      cases j with
      | zero => exact h
      | succ j => rw [show a + (j + 1) = a + 1 + j by omega]; exact h1 j (by omega)
    · exact ⟨0, fun j hj => by omega, h⟩

theorem readStr_eq (mem : Word → Byte) (a k : Nat) (hrun : ∀ j, j < k → Goes mem (a + j))
    (hstop : ¬ Goes mem (a + k)) :
    readStr mem a = if a + k < dataBase ∨ 4294967296 ≤ a + k then .error (.access (BitVec.ofNat 32 (a + k)))
      else .ok (strChars mem a k) := by
  rw [readStr_skip mem k a hrun]
  by_cases hm : a + k < dataBase ∨ 4294967296 ≤ a + k
  · rw [if_pos hm, readStr_unmapped mem _ hm]; rfl
  · rw [if_neg hm, readStr_zero mem _ hm (Decidable.byContradiction fun hz => hstop ⟨by omega, by omega, hz⟩)]
    simp only [prepend, List.append_nil]

/-! ### print-string: the model's read loop computes `readStr` -/

/-- What `read_byte(a)` returns on the flat memory. -/
def byteRes (m : Mem) (a : Int) : Except Err Nat :=
  if 16384 ≤ a % 4294967296 then .ok (m.cells (a % 4294967296) % 256) else .error (.addr (a % 4294967296))

theorem read8_flat (m : Mem) (hc : m.cfg = riscvCfg) (a : Int) (c : Bool) :
    (MemSys.flat m).read 8 a c = { mem := .flat m, extra := 0, res := byteRes m a } := by
  rw [read_flat_riscv m hc 8 (by omega)]
  simp only [readN, readNFrom, readCell_riscv m hc, liftMem, Nat.reduceDiv, byteRes, Int.natCast_zero, Int.add_zero,
    Nat.zero_mul, Nat.pow_zero, Nat.mul_one]
  by_cases h : 16384 ≤ a % 4294967296
  · simp only [h, if_true, Except.map, Nat.add_zero]
  · simp only [h, if_false, Except.map]

/-- The outcome of the read loop as the reference reports it.  As for `αFault`, of the memory errors only an
    address error has a counterpart: `αStr r = some _` says, too, that `r` is no other error. -/
def αStr : Except Err (List Char) → Option (Except SpecFault (List Char))
  | .ok cs => some (.ok cs)
  | .error (.addr a) => some (.error (.access (BitVec.ofInt 32 a)))
  | .error _ => none

theorem printStrLoop_succ_flat (m : Mem) (hc : m.cfg = riscvCfg) (fuel a : Nat) (acc : List Char) :
    printStrLoop (fuel + 1) (.flat m) (a : Int) acc =
      match byteRes m a with
      | .error e => (.flat m, .error e)
      | .ok b =>
        if b = 0 then (.flat m, .ok acc.reverse)
        else printStrLoop fuel (.flat m) ((a : Int) + 1) (Char.ofNat (b % 128) :: acc) := by
  rw [printStrLoop]
  simp only [read8_flat m hc]
  cases byteRes m a <;> rfl

theorem printStrLoop_flat (m : Mem) (hc : m.cfg = riscvCfg) :
    ∀ (fuel a : Nat) (acc : List Char), a ≤ 4294967296 → 4294967296 - a < fuel →
      αStr (printStrLoop fuel (.flat m) (a : Int) acc).2 =
        some (prepend acc.reverse (readStr (αMem (.flat m)) a)) := by
  intro fuel
  induction fuel with
  | zero => intro a acc _ h; omega
  | succ fuel ih =>
    intro a acc ha hf
    rw [printStrLoop_succ_flat m hc]
    by_cases hbad : a < dataBase ∨ 4294967296 ≤ a
    · have hbr : byteRes m a = .error (.addr ((a : Int) % 4294967296)) := by
        simp only [byteRes]; rw [if_neg (by simp only [dataBase] at hbad; omega)]
      rw [readStr_unmapped _ _ hbad, hbr]
      simp only [αStr, prepend]
      rw [ofInt_emod, BitVec.ofInt_natCast]
    · have hmap : 16384 ≤ a ∧ a < 4294967296 := by simp only [dataBase] at hbad; omega
      -- the byte the loop reads is the one the reference looks at
      have hbr : byteRes m a = .ok (αMem (.flat m) (BitVec.ofNat 32 a)).toNat := by
        simp only [byteRes, αMem_flat, BitVec.toNat_ofNat, Nat.reducePow, show (a : Int) % 4294967296 = a by omega,
          show a % 4294967296 = a by omega]
        rw [if_pos (by omega)]
      simp only [hbr]
      by_cases hzero : αMem (.flat m) (BitVec.ofNat 32 a) = 0
      · rw [if_pos (by rw [hzero]; rfl), readStr_zero _ _ hbad hzero]
        simp only [αStr, prepend, List.append_nil]
      · have hne : (αMem (.flat m) (BitVec.ofNat 32 a)).toNat ≠ 0 := fun h => hzero (BitVec.eq_of_toNat_eq h)
        rw [if_neg hne, readStr_goes _ _ ⟨hmap.1, hmap.2, hzero⟩,
          show ((a : Int) + 1) = ((a + 1 : Nat) : Int) by omega, ih (a + 1) _ (by omega) (by omega)]
        cases readStr (αMem (.flat m)) (a + 1) with
        | error f => rfl
        | ok cs => simp only [prepend, List.reverse_cons, List.append_assoc, List.singleton_append]

theorem printStr_flat (s : St) (m : Mem) (hm : s.mem = .flat m) (hc : m.cfg = riscvCfg)
    (hr : s.regs 10 < 4294967296) :
    αStr (printStrLoop printStrFuel s.mem (s.regs 10 : Int) []).2 = some (readStr (α s).mem (s.regs 10)) := by
  rw [hm, printStrLoop_flat m hc printStrFuel (s.regs 10) [] (by omega) (by simp only [printStrFuel]; omega)]
  simp only [α, hm]
  cases readStr (αMem (.flat m)) (s.regs 10) <;> rfl

/-! ### print-string never runs out of fuel, from any start address -/

/-- The hypothesis is the measure: an unmapped (wrapped) address needs one more step, a mapped one at most its distance
    to `2^32`, where the address wraps to 0 and is unmapped.  `.error .policy` is the value of `printStrLoop 0 …`,
    i.e. "fuel spent"; a read of a flat memory never produces it. -/
theorem printStr_fuel (m : Mem) (hc : m.cfg = riscvCfg) :
    ∀ (fuel : Nat) (a : Int) (acc : List Char),
      (a % 4294967296 < 16384 ∧ 0 < fuel ∨
        16384 ≤ a % 4294967296 ∧ 4294967296 - a % 4294967296 < (fuel : Int)) →
      (printStrLoop fuel (.flat m) a acc).2 ≠ .error .policy := by
  intro fuel
  induction fuel with
  | zero => intro a acc h; omega
  | succ fuel ih =>
    intro a acc hf
    rw [printStrLoop]
    simp only [read8_flat m hc, byteRes]
    by_cases hok : 16384 ≤ a % 4294967296
    · simp only [hok, if_true]
      split
      · simp
      · exact ih (a + 1) _ (by omega)
    · simp only [hok, if_false]
      simp

/-! ### the ecall table -/

/-- Abstraction of the result of `process_ecall` (a memory error as in `αStr`). -/
def αSvc : EcallRes → Option (Except SpecFault Service)
  | .out t => some (.ok (.print t))
  | .exit c => some (.ok (.exit c))
  | .err (.addr a) => some (.error (.access (BitVec.ofInt 32 a)))
  | .err _ => none
  | .invalid c => some (.error (.ecall (W c)))

/-- Both sides are if-chains over the same codes (`h4` removes the reference's print-string row): `W_inj c _ hc` turns the
    reference's tests `W c = k#32` into `c = k`, `apply_ite αSvc` / `apply_ite some` push the abstraction into the rows,
    and the digit-string lemmas (`intToDec_eq`, `natToBase16`, …) identify the rows. -/
theorem service_pure (σ : SpecSt) (c a : Nat) (hc : c < 4294967296) (ha : a < 4294967296)
    (h17 : σ.get 17 = W c) (h10 : σ.get 10 = W a) (h4 : c ≠ 4) :
    αSvc (ecallPure c a) = some (service σ) := by
  simp only [service, ecallPure, h17, h10, toNat_W a ha, toInt_W, BitVec.ofNat_eq_ofNat, W_inj c _ hc,
    Nat.reduceLT, h4, if_false, apply_ite αSvc, apply_ite some, intToDec_eq, natToBase16, natToBase2, natToBase10,
    String.singleton_eq_ofList]
  rfl

theorem service_str (σ : SpecSt) (a : Nat) (ha : a < 4294967296) (h17 : σ.get 17 = W 4)
    (h10 : σ.get 10 = W a) (r : Except Err (List Char)) (hr : αStr r = some (readStr σ.mem a)) :
    αSvc (strRes r) = some (service σ) := by
  simp only [service, h17, h10, toNat_W a ha]
  rw [if_neg (by decide), if_neg (by decide), if_pos (by decide)]
  -- `hr` gives `readStr` for characters and for an address error, and excludes the other errors
  generalize readStr σ.mem a = x at hr ⊢
  rcases r with (a | _ | _ | _) | cs <;> cases hr <;> rfl

theorem service_α (s : St) (hs : StOK s) : αSvc (processEcall s).2 = some (service (α s)) := by
  obtain ⟨m, hm, hc, _⟩ := hs.flat
  have h10 := α_get s hs 10 (by omega)
  have h17 := α_get s hs 17 (by omega)
  by_cases h4 : s.regs 17 = 4
  · rw [processEcall_of_eq4 s h4]
    rw [h4] at h17
    exact service_str _ _ (hs.regs_lt 10) h17 h10 _ (printStr_flat s m hm hc (hs.regs_lt 10))
  · rw [processEcall_of_ne4 s h4]
    exact service_pure _ _ _ (hs.regs_lt 17) (hs.regs_lt 10) h17 h10 h4

theorem execOne_ecall (i : Instr) (s : St) (hs : StOK s) (hop : i.op = .ecall) :
    αBeh (execOne i s) = some (exec i (α s)) := by
  obtain ⟨m, hm, _⟩ := hs.flat
  have h1 := processEcall_flat_mem hm
  have h2 := service_α s hs
  have hb := behavior_ecall i s hop
  simp only [exec, hop]
  generalize processEcall s = p at h1 h2 hb ⊢
  generalize service (α s) = sv at h2 ⊢
  obtain ⟨m', r⟩ := p
  subst h1
  -- `h2` gives `service (α s)` for each outcome of the model, and excludes a memory error without counterpart
  rcases r with t | c | (a | _ | _ | _) | c <;> cases h2
  · simp only [execOne, hb, αBeh, αOut, α, pc_next]
  · simp only [execOne, hb, αBeh, αOut, α, pc_next]
  · simp only [execOne, hb, αBeh, αOut, αFault, Option.map]
  · simp only [execOne, hb, αBeh, αOut, αFault, Option.map]

end ArchSim.Lemmas.C01
