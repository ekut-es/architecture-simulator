/-
The characters of a spelled line. After the mnemonic a line is a sequence of tokens, each after a run of blanks (`Toks`,
which asks of the run only `AllR`). Hence it contains no `#` and no line break and, without its outer blanks, neither
starts nor ends with a blank: the entry `sanitize` makes of it (with or without a trailing comment) is the line without
its outer blanks.
-/
import ArchSim.Lemmas.C04SpellMain
import ArchSim.Lemmas.C04SpellEntryText

namespace ArchSim.Lemmas.C04Spell
open ArchSim ArchSim.PP ArchSim.Rv ArchSim.Asm ArchSim.Lemmas.C14

/-- the characters a spelled line is made of -/
def RChar (c : Char) : Prop :=
  isLabelBody c = true ∨ c = ' ' ∨ c = '\t' ∨ c = ',' ∨ c = '(' ∨ c = ')' ∨ c = '-'

def AllR (l : List Char) : Prop := ∀ c ∈ l, RChar c

theorem allR_nil : AllR [] := by intro c hc; cases hc

theorem allR_append {a b : List Char} (ha : AllR a) (hb : AllR b) : AllR (a ++ b) := by
  intro c hc
  rcases List.mem_append.mp hc with h | h
  · exact ha c h
  · exact hb c h

theorem allR_blanks (b : List Bool) : AllR (blanks b) :=
  fun c hc => (mem_blanks b c hc).elim (fun h => .inr (.inl h)) (fun h => .inr (.inr (.inl h)))

/-! ### label characters, and what numbers and registers are made of -/

theorem labelBody_table : ∀ n < 128, isLabelBody (Char.ofNat n) = true →
    pyIsSpace (Char.ofNat n) = false ∧ Char.ofNat n ≠ '#' ∧ isLineBreak (Char.ofNat n) = false := by decide +kernel

theorem labelBody_facts (c : Char) (h : isLabelBody c = true) :
    pyIsSpace c = false ∧ c ≠ '#' ∧ isLineBreak c = false :=
  ascii_cases (fun c => isLabelBody c = true → pyIsSpace c = false ∧ c ≠ '#' ∧ isLineBreak c = false) c
    (labelBody_ascii c h) labelBody_table h

theorem rchar_facts (c : Char) (h : RChar c) : c ≠ '#' ∧ isLineBreak c = false := by
  rcases h with h | rfl | rfl | rfl | rfl | rfl | rfl
  · exact (labelBody_facts c h).2
  all_goals decide

theorem allR_noHash {l : List Char} (h : AllR l) : '#' ∉ l := fun hm => (rchar_facts '#' (h '#' hm)).1 rfl

theorem allR_noBreak {l : List Char} (h : AllR l) : NoBreak l := fun c hc => (rchar_facts c (h c hc)).2

theorem isHexNum_labelBody (c : Char) (h : isHexNum c = true) : isLabelBody c = true := by
  simp only [isLabelBody, isAlnum_of_isHexNum c h, Bool.true_or]

theorem numSp_chars (st : NumStyle) (v : Int) : ∀ c ∈ numSp st v, c = '-' ∨ isLabelBody c = true := by
  have hsign : ∀ (neg : Bool) c, c ∈ signTxt neg → c = '-' := by
    intro neg c hc
    cases neg with
    | false => cases hc
    | true => simpa [signTxt] using hc
  -- a radix numeral: sign, `0`, the radix letter `x`, zeros, digits
  have radix : ∀ (neg : Bool) (x : Char) (z : Nat) (ds : List Char), isLabelBody x = true →
      (∀ c ∈ ds, isHexNum c = true) → ∀ c ∈ signTxt neg ++ '0' :: x :: (List.replicate z '0' ++ ds),
        c = '-' ∨ isLabelBody c = true := by
    intro neg x z ds hx hds c hc
    simp only [List.mem_append, List.mem_cons] at hc
    rcases hc with h | rfl | rfl | h | h
    · exact .inl (hsign _ c h)
    · exact .inr (by decide)
    · exact .inr hx
    · exact .inr (isHexNum_labelBody c (replicate_zero_isHex z c h))
    · exact .inr (isHexNum_labelBody c (hds c h))
  intro c hc
  cases st with
  | dec =>
    rcases decTxt_chars v c hc with h | h
    · exact .inl h
    · exact .inr (isHexNum_labelBody c (isNum_isHexNum c h))
  | hex z up => exact radix _ 'x' z _ (by decide) (recase_hex_isHex up _) c hc
  | bin z =>
    exact radix _ 'b' z _ (by decide)
      (fun d hd => isNum_isHexNum d (isBin_isNum d (binDigitsOf_isBin _ d hd))) c hc

theorem numSp_ne_nil (st : NumStyle) (v : Int) : numSp st v ≠ [] := by
  obtain ⟨c, tl, h, _⟩ := numSp_head st v
  rw [h]; simp

theorem regSp_ne_nil (st : RegStyle) (n : Nat) (hn : n < 32) : regSp st n ≠ [] := by
  obtain ⟨c, tl, h, _⟩ := regSp_head st n hn
  rw [h]; simp

/-! ### token sequences -/

/-- the last character is no blank -/
def EndsOk (l : List Char) : Prop := l ≠ [] ∧ ∀ c ∈ l.getLast?, pyIsSpace c = false

theorem endsOk_append (x y : List Char) (h : EndsOk y) : EndsOk (x ++ y) := by
  refine ⟨by simp [h.1], ?_⟩
  simpa [List.getLast?_eq_some_getLast h.1] using h.2

theorem endsOk_of_all (l : List Char) (hne : l ≠ []) (h : ∀ c ∈ l, pyIsSpace c = false) : EndsOk l :=
  ⟨hne, fun c hc => h c (List.mem_of_getLast? hc)⟩

/-- a character of a token: a character of a spelled line that is no blank -/
def TChar (c : Char) : Prop := RChar c ∧ pyIsSpace c = false

theorem tchar_labelBody (c : Char) (h : isLabelBody c = true) : TChar c := ⟨.inl h, (labelBody_facts c h).1⟩

/-- a sequence of non-empty tokens `t`, each after a run `w` of line characters (blanks in every use; `AllR` is all that
    `Toks.allR` and `Toks.ends` need) -/
inductive Toks : List Char → Prop
  | nil : Toks []
  | tok {w t r : List Char} : AllR w → t ≠ [] → (∀ c ∈ t, TChar c) → Toks r → Toks (w ++ (t ++ r))

theorem Toks.allR {l : List Char} (h : Toks l) : AllR l := by
  induction h with
  | nil => exact allR_nil
  | tok hw _ ht _ ih => exact allR_append hw (allR_append (fun c hc => (ht c hc).1) ih)

theorem Toks.ends {l : List Char} (h : Toks l) : l = [] ∨ EndsOk l := by
  induction h with
  | nil => exact .inl rfl
  | tok _ hne ht _ ih =>
    refine .inr (endsOk_append _ _ ?_)
    rcases ih with rfl | ih
    · rw [List.append_nil]; exact endsOk_of_all _ hne (fun c hc => (ht c hc).2)
    · exact endsOk_append _ _ ih

theorem Toks.reg (b : List Bool) (st : RegStyle) (n : Nat) {r : List Char} (hn : n < 32) (hr : Toks r) :
    Toks (tReg (blanks b) st n r) :=
  .tok (allR_blanks b) (regSp_ne_nil st n hn) (fun c hc => tchar_labelBody c (regSp_labelBody st n hn c hc)) hr

theorem Toks.num (b : List Bool) (st : NumStyle) (v : Int) {r : List Char} (hr : Toks r) :
    Toks (tNum (blanks b) st v r) := by
  refine .tok (allR_blanks b) (numSp_ne_nil st v) (fun c hc => ?_) hr
  rcases numSp_chars st v c hc with rfl | h
  · exact ⟨.inr (.inr (.inr (.inr (.inr (.inr rfl))))), by decide⟩
  · exact tchar_labelBody c h

theorem Toks.sep (b : List Bool) {c : Char} {r : List Char} (hc : TChar c) (hr : Toks r) :
    Toks (tSep (blanks b) c r) :=
  .tok (t := [c]) (allR_blanks b) (by simp) (fun d hd => by rw [List.mem_singleton.mp hd]; exact hc) hr

theorem operands_toks (sp : Spelling) (i : Instr) (hs : Legible sp i) : Toks (operands sp i []) := by
  obtain ⟨hrd, hrs1, hrs2, -⟩ := hs
  have comma : TChar ',' := ⟨.inr (.inr (.inr (.inl rfl))), by decide⟩
  -- every class with operands starts with a register (after the gap, which is `blanks (sp.gapTab :: sp.gap)`) and a comma
  have start : ∀ (n : Nat) {r : List Char}, n < 32 → Toks r →
      Toks (tReg (gapOf sp) sp.r1 n (tSep (blanks sp.c1a) ',' r)) :=
    fun n _ hn hr => Toks.reg (sp.gapTab :: sp.gap) _ n hn (.sep _ comma hr)
  have paren : ∀ n < 32, Toks (tSep (blanks sp.pa) '(' (tReg (blanks sp.pb) sp.r2 n (tSep (blanks sp.pc) ')' []))) :=
    fun n hn => .sep _ ⟨.inr (.inr (.inr (.inr (.inl rfl)))), by decide⟩
      (.reg _ _ n hn (.sep _ ⟨.inr (.inr (.inr (.inr (.inr (.inl rfl))))), by decide⟩ .nil))
  cases hcl : cls i.op <;> simp only [operands, hcl]
  case r => exact start _ hrd (.reg _ _ _ hrs1 (.sep _ comma (.reg _ _ _ hrs2 .nil)))
  case imm3 => exact start _ hrd (.reg _ _ _ hrs1 (.sep _ comma (.num _ _ _ .nil)))
  case jalr => exact start _ hrd (.reg _ _ _ hrs1 (.sep _ comma (.num _ _ _ .nil)))
  case load => exact start _ hrd (.num _ _ _ (paren _ hrs1))
  case store => exact start _ hrs2 (.num _ _ _ (paren _ hrs1))
  case b => exact start _ hrs1 (.reg _ _ _ hrs2 (.sep _ comma (.num _ _ _ .nil)))
  case u => exact start _ hrd (.num _ _ _ .nil)
  case jal => exact start _ hrd (.num _ _ _ .nil)
  case csr => exact start _ hrd (.num _ _ _ (.sep _ comma (.reg _ _ _ hrs1 .nil)))
  case csri => exact start _ hrd (.num _ _ _ (.sep _ comma (.num _ _ _ .nil)))
  all_goals exact .nil

/-! ### appending to the end of the operands -/

theorem operands_append (sp : Spelling) (i : Instr) (tr : List Char) :
    operands sp i tr = operands sp i [] ++ tr := by
  cases hcl : cls i.op <;>
    simp only [operands, hcl, tReg, tNum, tSep, List.append_assoc, List.cons_append, List.nil_append]

/-- the line without its leading and trailing blanks -/
def core (sp : Spelling) (i : Instr) : List Char := recase sp.mnCase (mn i.op) ++ operands sp i []

theorem render_core (sp : Spelling) (i : Instr) :
    render sp i = blanks sp.lead ++ core sp i ++ blanks sp.trail := by
  rw [render, operands_append, core]
  simp [List.append_assoc]

theorem render_core_eq (sp : Spelling) (i : Instr) : render { sp with lead := [], trail := [] } i = core sp i := by
  rw [render_core]
  simp [blanks, core, operands, gapOf]

theorem mn_tchar (sp : Spelling) (i : Instr) :
    recase sp.mnCase (mn i.op) ≠ [] ∧ ∀ c ∈ recase sp.mnCase (mn i.op), TChar c :=
  ⟨recase_ne_nil _ _ (mn_low i.op).2, fun c hc => tchar_labelBody c
    (letter_facts c ((caseVar_recase sp.mnCase (mn i.op) (mn_low i.op).1).letters c hc)).labelBody⟩

theorem core_toks (sp : Spelling) (i : Instr) (hs : Legible sp i) : Toks (core sp i) := by
  show Toks ([] ++ (recase sp.mnCase (mn i.op) ++ operands sp i []))
  exact .tok allR_nil (mn_tchar sp i).1 (mn_tchar sp i).2 (operands_toks sp i hs)

theorem render_allR (sp : Spelling) (i : Instr) (hs : Legible sp i) : AllR (render sp i) := by
  rw [render_core]
  exact allR_append (allR_append (allR_blanks _) (core_toks sp i hs).allR) (allR_blanks _)

theorem render_noBreak (sp : Spelling) (i : Instr) (hs : Spellable i) : NoBreak (render sp i) :=
  allR_noBreak (render_allR sp i (hs.legible sp))

/-! ### the entry of a spelled line -/

theorem entryOf_fixed (l : List Char) (hh : ∀ c ∈ l.head?, pyIsSpace c = false) (he : EndsOk l)
    (hn : '#' ∉ l) : entryOf l = some l := by
  have hs := pyStrip_fixed l hh (by rw [List.head?_reverse]; exact he.2)
  have ht : entryText l = l := by rw [entryText, takeWhile_noHash l hn, hs]
  have hk : keepLine l = true := by
    rw [keepLine, hs]
    cases l with
    | nil => exact absurd rfl he.1
    | cons a r =>
      have : a ≠ '#' := fun e => hn (by simp [e])
      simp [this]
  simp only [entryOf, hk, ht, if_true]

theorem allSpace_blanks (b : List Bool) : AllSpace (blanks b) :=
  fun c hc => by rcases mem_blanks b c hc with rfl | rfl <;> decide

theorem entryOf_render (sp : Spelling) (i : Instr) (hs : Legible sp i) (cmt : List Char)
    (hc : cmt = [] ∨ ∃ c, cmt = '#' :: c) :
    entryOf (render sp i ++ cmt) = some (render { sp with lead := [], trail := [] } i) := by
  have ht := core_toks sp i hs
  obtain ⟨hmn, hmt⟩ := mn_tchar sp i
  have hne : core sp i ≠ [] := by simp [core, hmn]
  have hhead : ∀ c ∈ (core sp i).head?, pyIsSpace c = false := by
    -- the first character belongs to the mnemonic
    cases hr : recase sp.mnCase (mn i.op) with
    | nil => exact absurd hr hmn
    | cons a r =>
      intro c hc
      simp only [core, hr, List.cons_append, List.head?_cons, Option.mem_def, Option.some.injEq] at hc
      exact hc ▸ (hmt a (by simp [hr])).2
  have hplain : entryOf (render sp i) = some (core sp i) := by
    rw [render_core, entryOf_indent _ _ _ (allSpace_blanks _) (allSpace_blanks _)]
    exact entryOf_fixed _ hhead (ht.ends.resolve_left hne) (allR_noHash ht.allR)
  rw [render_core_eq]
  rcases hc with rfl | ⟨c, rfl⟩
  · rw [List.append_nil]; exact hplain
  · rw [entryOf_comment _ _ (allR_noHash (render_allR sp i hs))]
    exact hplain

end ArchSim.Lemmas.C04Spell
