/-
C03 (program level), five-stage mode.  The pipeline refines the sequential machine (C02), and a sequential step is a
single-cycle step where the two implementations of the instruction agree.  Along the flat run they agree by C02
(`flat_follows`), along the related cached run by the cache half of the representation (`cached_follows`), so
each sequential machine is its single-cycle machine up to the first done state, reached after the same number
of steps.
-/
import ArchSim.Lemmas.C03ProgStep
import ArchSim.Lemmas.C01Step
import ArchSim.Lemmas.SeqSingle
import ArchSim.Lemmas.C09ProgStep
import ArchSim.Lemmas.C02Compose

namespace ArchSim.Lemmas.C03Prog
open ArchSim ArchSim.Cache ArchSim.Mem ArchSim.Rv ArchSim.Pipe ArchSim.Spec.CacheAbs ArchSim.Spec.TagCache
open ArchSim.Lemmas.C02Split

/-- The program fits the instruction memory and consists of well-formed instructions of the supported
    set (`Instr.WF`: no CSR / fence / ebreak, register numbers below 32, stored immediates in their
    constructor's range, `ecall` as its constructor builds it). -/
structure ProgWF (prog : List Instr) : Prop where
  len : prog.length ≤ 4096
  wf  : ∀ i, i ∈ prog → i.WF

theorem agreeStep_of (t : St) (prog : List Instr) (hp : ProgWF prog)
    (him : t.imem = { prog := prog, cache := none }) (hregs : ∀ r, t.regs r < 4294967296)
    (hm : ∀ i, t.imem.instrAt t.pc = some i → ArchSim.Lemmas.C02Split.MemOK i t) : AgreeStep t :=
  agreeStep_of_memOK t (by rw [him]) (by rw [him]; exact hp.len) (by rw [him]; exact hp.wf) hregs hm

theorem flat_run_inv (prog : List Instr) (hp : ArchSim.Lemmas.C01.ProgOK prog) (sf : St) (hS : SOK prog sf) :
    ∀ j, SOK prog (singleRun j sf)
  | 0 => hS
  | j + 1 => SOK_step prog hp _ (flat_run_inv prog hp sf hS j)

/-- `SOK.follows` for this namespace's `singleRun`. -/
theorem flat_follows (prog : List Instr) (hp : ProgWF prog) (sf : St) (hS : SOK prog sf) (k : Nat)
    (hnf : ∀ j, j < k → seqFault (seqRun j sf) = none ∨ (singleStep (singleRun j sf)).fault = none) :
    (∀ j, j ≤ k → seqRun j sf = singleRun j sf) ∧
      ∀ j, j < k → (singleStep (singleRun j sf)).fault = none ∧ seqFault (seqRun j sf) = none :=
  seqRun_follows singleRun (fun _ => rfl) (fun _ _ => rfl) sf k
    (fun j _ _ => (flat_run_inv prog (c01ProgOK_of_wf hp.len hp.wf) sf hS j).agree hp.len hp.wf) hnf

theorem seqTrace_cached_eq_flat (sc sf : St) (k : Nat)
    (hc : ∀ j, j ≤ k → seqRun j sc = singleRun j sc) (hf : ∀ j, j ≤ k → seqRun j sf = singleRun j sf)
    (hr : ∀ j, j ≤ k → CacheRel (singleRun j sc) (singleRun j sf))
    (fc : ∀ j, j < k → seqFault (seqRun j sc) = none) (ff : ∀ j, j < k → seqFault (seqRun j sf) = none) :
    seqTrace k sc = seqTrace k sf :=
  seqTrace_ext k fun j hj => by
    unfold seqLog
    rw [fc j hj, ff j hj, hc j (Nat.le_of_lt hj), hf j (Nat.le_of_lt hj), (hr j (Nat.le_of_lt hj)).imem,
      (hr j (Nat.le_of_lt hj)).pc]

/-- Acceptance along the flat single-cycle run, up to where the simulation loop stops: every state
    before (and including) which the run was never done takes an accepted step. -/
def RunAccepted (sf : St) : Prop :=
  ∀ j, (∀ j', j' ≤ j → singleDone (singleRun j' sf) = false) → StepAccepted (singleRun j sf)

theorem RunAccepted.upto {sf : St} (hacc : RunAccepted sf) {k : Nat}
    (hnd : ∀ j, j < k → singleDone (singleRun j sf) = false) : ∀ j, j < k → StepAccepted (singleRun j sf) :=
  fun j hj => hacc j (fun j' _ => hnd j' (by omega))

theorem RunAccepted.of_done {sf : St} {k : Nat} (hd : singleDone (singleRun k sf) = true)
    (h : ∀ j, j < k → StepAccepted (singleRun j sf)) : RunAccepted sf := by
  intro j hnd
  rcases Nat.lt_or_ge j k with hj | hj
  · exact h j hj
  · rw [hnd k hj] at hd
    cases hd

theorem cached_follows {sc sf : St} (h : CacheRel sc sf) (prog : List Instr) (hp : ProgWF prog)
    (him : sf.imem = { prog := prog, cache := none }) (hs : ArchSim.Lemmas.C01.StOK sf)
    (hacc : RunAccepted sf) (k : Nat) (hnd : ∀ j, j < k → singleDone (singleRun j sf) = false)
    (hnf : ∀ j, j < k → (singleStep (singleRun j sf)).fault = none) :
    (∀ j, j ≤ k → CacheRel (singleRun j sc) (singleRun j sf)) ∧
    (∀ j, j ≤ k → seqRun j sc = singleRun j sc) ∧
    ∀ j, j < k → (singleStep (singleRun j sc)).fault = none ∧ seqFault (seqRun j sc) = none := by
  have hacc' := hacc.upto hnd
  have hrel : ∀ j, j ≤ k → CacheRel (singleRun j sc) (singleRun j sf) :=
    fun j hj => (singleRun_rel h j (fun j' hj' => hacc' j' (by omega))).1
  have hnfc : ∀ j, j < k → (singleStep (singleRun j sc)).fault = none :=
    fun j hj => ((singleRun_rel h k hacc').2 j hj).trans (hnf j hj)
  -- `MemOK` from the cache half of the representation
  have agc : ∀ j, j < k → AgreeStep (singleRun j sc) := by
    intro j hj
    have hr := hrel j (by omega)
    obtain ⟨b, a⟩ := flat_run_inv prog (c01ProgOK_of_wf hp.len hp.wf) sf ⟨him, hs⟩ j
    refine agreeStep_of _ prog hp (by rw [hr.imem]; exact b) (fun r => by rw [hr.regs]; exact a.regs_lt r)
      (fun i _ => ?_)
    obtain ⟨l, ds, m, hmc, _, hrep⟩ := hr.mem
    exact ArchSim.Lemmas.C09Prog.memOK_of_dok hrep.dok i _ hmc
  exact ⟨hrel, seqRun_follows singleRun (fun _ => rfl) (fun _ _ => rfl) sc k (fun j hj _ => agc j hj)
    (fun j hj => .inr (hnfc j hj))⟩

theorem progOK_icoh {sf : St} (prog : List Instr) (hp : ProgWF prog)
    (him : sf.imem = { prog := prog, cache := none }) : Pipe.ProgOK sf.imem ∧ ICoh sf.imem :=
  ⟨progOK_of_wf (by rw [him]; exact hp.wf), ICoh_nocache sf.imem (by rw [him]) (by rw [him]; exact hp.len)⟩

end ArchSim.Lemmas.C03Prog
