/-
Line numbers reach only the error messages and the matching of in-line labels with their lines, so renumbering the
lines by an injective `g` commutes with every pass, success and failure alike (the data pass does not even need `g`
injective); hence moving the data segment before or after the text segment gives the same image.
`X_ren` for the pass `X`; `renY g` is a `Y` with its line numbers renumbered by `g`. `renE` and the example token
lists are named under `C05`, the chain under `C04Spell` (beside `renL`).
-/
import ArchSim.Lemmas.C05Load
import ArchSim.Lemmas.C05Err
import ArchSim.Lemmas.C04Expand
import ArchSim.Lemmas.C04Labels
import ArchSim.Lemmas.C04Build
import ArchSim.Lemmas.C04SpellRenum

namespace ArchSim.Lemmas.C05
open ArchSim ArchSim.Asm ArchSim.Rv ArchSim.Lemmas.C04

/-- renumber the line of a token entry (`renL` at the entries; text entries and pending in-line labels are
    renumbered by `renL` itself) -/
def renE (f : Nat → Nat) (e : Entry) : Entry := (f e.1, e.2.1, e.2.2)

open ArchSim.Lemmas.C04Spell (renL)

theorem noDir_map_renE (f : Nat → Nat) (l : List Entry) (h : noDir l) : noDir (l.map (renE f)) := by
  intro e he
  obtain ⟨e0, he0, rfl⟩ := List.mem_map.mp he
  exact h e0 he0

theorem beq_inj (f : Nat → Nat) (hf : ∀ a b, f a = f b → a = b) (a k : Nat) : (f a == f k) = (a == k) := by
  by_cases h : a = k
  · subst h; simp only [beq_self_eq_true]
  · rw [beq_eq_false_iff_ne.mpr h, beq_eq_false_iff_ne.mpr fun e => h (hf _ _ e)]

theorem find_renL (f : Nat → Nat) (hf : ∀ a b, f a = f b → a = b) (pending : List (Nat × String)) (k : Nat) :
    (pending.map (renL f)).find? (fun p => p.1 == f k) = (pending.find? (fun p => p.1 == k)).map (renL f) := by
  rw [List.find?_map]
  congr 2
  funext q
  exact beq_inj f hf q.1 k

theorem filter_renL (f : Nat → Nat) (hf : ∀ a b, f a = f b → a = b) (pending : List (Nat × String)) (k : Nat) :
    (pending.map (renL f)).filter (fun p => p.1 != f k) = (pending.filter (fun p => p.1 != k)).map (renL f) := by
  rw [List.filter_map]
  congr 2
  funext q
  exact congrArg not (beq_inj f hf q.1 k)

theorem tentries_renum (g : Nat → Nat) (text' : List Entry) :
    ((text'.map (renE g)).map fun (k, line, t) => ((k, line, t.item) : TEntry)) =
      (text'.map fun (k, line, t) => ((k, line, t.item) : TEntry)).map (renL g) := by
  simp only [List.map_map]
  apply List.map_congr_left
  intro e _
  rfl

theorem pending_renum (g : Nat → Nat) (text' : List Entry) :
    ((text'.map (renE g)).filterMap fun (k, _, t) => t.lbl.map fun l => ((k, l) : Nat × String)) =
      (text'.filterMap fun (k, _, t) => t.lbl.map fun l => ((k, l) : Nat × String)).map (renL g) := by
  induction text' with
  | nil => rfl
  | cons e rest ih =>
    obtain ⟨k, line, t⟩ := e
    simp only [List.map_cons, renE, List.filterMap_cons]
    cases hl : t.lbl with
    | none => simpa [hl] using ih
    | some l => simpa [hl, renL] using ih

/-! ### token lists for the non-vacuity examples -/

def exDDir (k : Nat) : Entry := (k, ".data", { lbl := none, item := .directive "data" })
def exTDir (k : Nat) : Entry := (k, ".text", { lbl := none, item := .directive "text" })
/-- `v: .word 5` on line 2 -/
def exSegData : List Entry := [(2, "v: .word 5", { lbl := none, item := .varDecl "v" "word" [5] })]
/-- `foo: la x5, v` on line 4, `jal x0, foo` on line 5 -/
def exSegText : List Entry :=
  [ (4, "foo: la x5, v", { lbl := some "foo", item := .grp (.memPseudo "la" 5 "v" none) }),
    (5, "jal x0, foo", { lbl := none, item := .grp (.jalLabel 0 "foo" 0) }) ]

end ArchSim.Lemmas.C05

namespace ArchSim.Lemmas.C04Spell
open ArchSim ArchSim.Asm ArchSim.Rv ArchSim.Lemmas.C05 ArchSim.Lemmas.C04

def renErr (g : Nat → Nat) : AsmErr → AsmErr
  | .parser kind k line => .parser kind (g k) line
  | .memAddr a => .memAddr a

def renX {α β : Type} (g : Nat → Nat) (f : α → β) : Except AsmErr α → Except AsmErr β
  | .ok a => .ok (f a)
  | .error e => .error (renErr g e)

def renSeg (g : Nat → Nat) (s : Seg) : Seg :=
  { data := s.data.map (renE g), text := s.text.map (renE g), dataExists := s.dataExists,
    textExists := s.textExists }

def renPair (g : Nat → Nat) (p : List Entry × List Entry) : List Entry × List Entry :=
  (p.1.map (renE g), p.2.map (renE g))

def renD (g : Nat → Nat) (d : DataOut) : DataOut := { d with err := d.err.map (renErr g) }

def renOut (g : Nat → Nat) (o : LoadOut) : LoadOut := { o with err := o.err.map (renErr g) }

theorem isDir_renE (g : Nat → Nat) (d : String) (e : Entry) : isDir d (renE g e) = isDir d e := rfl

section
variable (g : Nat → Nat) (hg : ∀ a b, g a = g b → a = b)

theorem tokenize_ren (sl : List (Nat × List Char)) :
    tokenize (sl.map (renL g)) = renX g (List.map (renE g)) (tokenize sl) := by
  induction sl with
  | nil => rfl
  | cons p rest ih =>
    obtain ⟨k, l⟩ := p
    simp only [List.map_cons, renL, tokenize, ih]
    cases parseLine l with
    | none => rfl
    | some t =>
      cases tokenize rest with
      | error e => rfl
      | ok es => rfl

/-! ### `segment` -/

include hg in
theorem idxOfLine_ren (k : Nat) (l : List Entry) :
    idxOfLine (g k) (l.map (renE g)) = idxOfLine k l := by
  unfold idxOfLine
  rw [List.findIdx_map]
  congr 1
  funext e
  simp only [Function.comp, renE]
  rw [Bool.eq_iff_iff]
  simp only [beq_iff_eq]
  exact ⟨fun h => hg _ _ h, fun h => by rw [h]⟩

theorem seg0_ren (first : Entry) (rest : List Entry) :
    seg0 (renE g first) (rest.map (renE g)) = renSeg g (seg0 first rest) := by
  simp only [seg0, isDir_renE]
  by_cases hd : isDir "data" first = true
  · simp only [hd, if_true]; rfl
  · by_cases ht : isDir "text" first = true
    · simp only [hd, ht, if_true, Bool.false_eq_true, if_false]; rfl
    · simp only [hd, ht, Bool.false_eq_true, if_false]; rfl

include hg in
theorem segStep_ren (s : Seg) (e : Entry) :
    segStep (.ok (renSeg g s)) (renE g e) = renX g (renSeg g) (segStep (.ok s) e) := by
  have hd : (renSeg g s).dataExists = s.dataExists := rfl
  have ht : (renSeg g s).textExists = s.textExists := rfl
  simp only [segStep, isDir_renE, hd, ht]
  split
  · split
    · simp only [renX, renSeg, renE, idxOfLine_ren g hg, List.map_drop, List.map_take]
    · rfl
  · split
    · split
      · simp only [renX, renSeg, renE, idxOfLine_ren g hg, List.map_drop, List.map_take]
      · rfl
    · rfl

include hg in
theorem foldl_segStep_ren (l : List Entry) (s : Seg) :
    (l.map (renE g)).foldl segStep (.ok (renSeg g s)) = renX g (renSeg g) (l.foldl segStep (.ok s)) := by
  induction l generalizing s with
  | nil => rfl
  | cons e l ih =>
    simp only [List.map_cons, List.foldl_cons, segStep_ren g hg s e]
    cases segStep (.ok s) e with
    | ok s1 => exact ih s1
    | error x => simp only [renX, foldl_segStep_error]

include hg in
theorem segment_ren (toks : List Entry) :
    segment (toks.map (renE g)) = renX g (renPair g) (segment toks) := by
  cases toks with
  | nil => rfl
  | cons first rest =>
    rw [List.map_cons, segment_cons, segment_cons, seg0_ren, foldl_segStep_ren g hg]
    cases rest.foldl segStep (.ok (seg0 first rest)) with
    | ok s => rfl
    | error x => rfl

/-! ### the label pass -/

theorem addLabel_ren (ls : Labels) (n : String) (v : Int) (k : Nat) (line : String) :
    addLabel ls n v (g k) line = renX g id (addLabel ls n v k line) := by
  simp only [addLabel]
  split <;> rfl

include hg in
theorem processLabels_ren (es : List TEntry)
    (pending : List (Nat × String)) (ls : Labels) (addr : Int) :
    processLabels (es.map (renL g)) (pending.map (renL g)) ls addr
      = renX g id (processLabels es pending ls addr) := by
  induction es generalizing pending ls addr with
  | nil => rfl
  | cons e rest ih =>
    obtain ⟨k, line, it⟩ := e
    simp only [List.map_cons, renL]
    by_cases hl : isLabel it = true
    · obtain ⟨s, rfl⟩ := isLabel_str hl
      rw [processLabels_cons_label k line rest pending ls addr s hl,
        processLabels_cons_label (g k) line _ _ ls addr s hl, addLabel_ren]
      cases addLabel ls s addr k line with
      | error x => rfl
      | ok ls1 => exact ih pending ls1 addr
    · have hl' : isLabel it = false := by simpa using hl
      rw [processLabels_cons_other k line it rest pending ls addr hl',
        processLabels_cons_other (g k) line it _ _ ls addr hl', find_renL g hg, filter_renL g hg]
      cases pending.find? (fun p => p.1 == k) with
      | none => exact ih pending ls _
      | some q =>
        obtain ⟨k0, l⟩ := q
        simp only [Option.map_some, renL, addLabel_ren]
        cases addLabel ls l addr k line with
        | error x => rfl
        | ok ls1 => exact ih _ ls1 _

/-! ### pseudo-instruction expansion -/

theorem expandOne_ren (vars : Vars) (e : TEntry) :
    expandOne vars (renL g e) = renX g (List.map (renL g)) (expandOne vars e) := by
  obtain ⟨k, line, it⟩ := e
  cases h : expandOne vars (k, line, it) with
  | error x =>
    obtain ⟨rfl, h2⟩ := expandOne_error_inv vars k line it x h
    exact h2 (g k)
  | ok es =>
    obtain ⟨h1, h2⟩ := expandOne_relocate vars k (g k) line line it es h
    simp only [renL, h1, renX]
    congr 1
    apply List.map_congr_left
    intro e he
    obtain ⟨e1, e2⟩ := h2 e he
    rw [renL, e1, ← e2]

theorem expandAll_ren (vars : Vars) (es : List TEntry) :
    expandAll vars (es.map (renL g)) = renX g (List.map (renL g)) (expandAll vars es) := by
  induction es with
  | nil => rfl
  | cons e rest ih =>
    simp only [List.map_cons, expandAll, expandOne_ren, ih]
    cases expandOne vars e with
    | error x => rfl
    | ok a =>
      cases expandAll vars rest with
      | error x => rfl
      | ok b => simp only [renX, List.map_append]

/-! ### the instruction pass -/

theorem labelDisp_ren (ls : Labels) (l : String) (off addr : Int) (k : Nat) (line : String) :
    labelDisp ls l off addr (g k) line = renX g id (labelDisp ls l off addr k line) := by
  simp only [labelDisp]
  cases lookupLabel ls l with
  | none => rfl
  | some a => simp only []; split <;> rfl

theorem instantiate_ren (ls : Labels) (addr : Int) (k : Nat) (line : String) (pi : PInstr) :
    instantiate ls addr (g k) line pi = renX g id (instantiate ls addr k line pi) := by
  cases pi
  case rtype | utype | csr | csri | jalImm => simp only [instantiate]; split <;> rfl
  case rri mn a b imm | mem mn a b imm =>
    simp only [instantiate]
    cases Op.ofMnemonic mn with
    | none => rfl
    | some op =>
      simp only []
      cases op.ty <;> simp only [] <;> first | rfl | (split <;> rfl)
  case btypeLabel mn a b l off =>
    simp only [instantiate, labelDisp_ren]
    cases Op.ofMnemonic mn with
    | none => rfl
    | some op => simp only []; cases labelDisp ls l off addr k line <;> rfl
  case jalLabel rd l off =>
    simp only [instantiate, labelDisp_ren]
    cases labelDisp ls l off addr k line <;> rfl
  all_goals rfl

theorem except_map_renX {α : Type} (f : α → α) (r : Except AsmErr α) :
    Except.map f (renX g id r) = renX g id (Except.map f r) := by
  cases r <;> rfl

theorem buildInstrs_ren (ls : Labels) (es : List TEntry) (addr : Int) :
    buildInstrs ls (es.map (renL g)) addr = renX g id (buildInstrs ls es addr) := by
  induction es generalizing addr with
  | nil => rfl
  | cons e rest ih =>
    obtain ⟨k, line, it⟩ := e
    simp only [List.map_cons, renL]
    cases it
    case str s =>
      simp only [buildInstrs, ih]
      split
      · exact except_map_renX g _ _
      · split
        · exact except_map_renX g _ _
        · rfl
    case grp pi =>
      simp only [buildInstrs, instantiate_ren, ih]
      cases instantiate ls addr k line pi with
      | error x => rfl
      | ok ins => exact except_map_renX g _ _
    all_goals rfl

/-! ### the data pass and the whole of `load` -/

theorem writeData_ren (es : List Entry) (o : DataOut) (ho : o.err = none) :
    writeData (es.map (renE g)) o = renD g (writeData es o) := by
  induction es generalizing o with
  | nil =>
    simp only [List.map_nil, writeData, renD, ho, Option.map_none]
    cases o; simp_all
  | cons e rest ih =>
    obtain ⟨k, line, t⟩ := e
    simp only [List.map_cons, renE]
    rw [writeData_cons_eq, writeData_cons_eq]
    split
    · rfl
    · split
      · rfl
      · split
        · next hw =>
          -- a write error is a `.memAddr`, which carries no line number; the data pass puts `k` into its two parser
          -- errors and never compares line numbers (no in-line labels here), so `g` need not be injective
          obtain ⟨x, rfl, -⟩ := declWrite_err hw
          rfl
        · exact ih _ ho

theorem renOut_of_ok (r : Nat → Nat) (o : LoadOut) (hok : o.err = none) : renOut r o = o := by
  cases o
  simp only at hok
  simp only [renOut, hok, Option.map_none]

include hg in
/-- The data lines renumbered by any `f`, the text lines by an injective `g`: the result is the same up to the
    line number of the error, renumbered by `f` if the data pass fails, else by `g`. -/
theorem loadSeg_ren (f : Nat → Nat) (s0 : St) (data text' : List Entry) :
    loadSeg s0 (data.map (renE f)) (text'.map (renE g)) =
      renOut (if (writeData data { mem := s0.mem, vars := [], ctr := 16384, err := none }).err.isSome then f else g)
        (loadSeg s0 data text') := by
  have hw := writeData_ren f data { mem := s0.mem, vars := [], ctr := 16384, err := none } rfl
  simp only [loadSeg, hw, tentries_renum, pending_renum]
  generalize writeData data { mem := s0.mem, vars := [], ctr := 16384, err := none } = d
  cases hde : d.err with
  | some e => simp only [renD, hde, Option.map_some, renOut, Option.isSome_some, if_true]
  | none =>
    simp only [renD, hde, Option.map_none, expandAll_ren, Option.isSome_none, Bool.false_eq_true, if_false]
    cases expandAll d.vars (text'.map fun x => (x.1, x.2.1, x.2.2.item)) with
    | error e => rfl
    | ok expanded =>
      simp only [renX, processLabels_ren g hg]
      cases processLabels expanded (text'.filterMap fun x => x.2.2.lbl.map fun l => (x.1, l)) [] 0 with
      | error e => rfl
      | ok ls =>
        simp only [renX, id, buildInstrs_ren]
        cases buildInstrs ls expanded 0 with
        | error e => rfl
        | ok instrs =>
          simp only []
          split <;> rfl

include hg in
theorem load_ren (s : St) (t1 t2 : String)
    (h : sanitize t2 = (sanitize t1).map (renL g)) : load s t2 = renOut g (load s t1) := by
  rw [load_factors s t1, load_factors s t2, h, tokenize_ren]
  cases tokenize (sanitize t1) with
  | error e => rfl
  | ok toks =>
    simp only [renX, segment_ren g hg]
    cases segment toks with
    | error e => rfl
    | ok p =>
      obtain ⟨d, t⟩ := p
      simp only [renPair]
      rw [loadSeg_ren g hg g (resetSt s) d t, ite_self]

end

theorem loadSeg_renum (f g : Nat → Nat) (hg : ∀ a b, g a = g b → a = b) (s0 : St) (data text' : List Entry)
    (h : (loadSeg s0 data text').err = none) :
    loadSeg s0 (data.map (renE f)) (text'.map (renE g)) = loadSeg s0 data text' := by
  rw [loadSeg_ren g hg f s0 data text', renOut_of_ok _ _ h]

theorem load_renum (f g : Nat → Nat) (hg : ∀ a b, g a = g b → a = b) (s : St) (t₁ t₂ : String)
    (toks₁ toks₂ data text : List Entry)
    (h₁ : tokenize (sanitize t₁) = .ok toks₁) (hs₁ : segment toks₁ = .ok (data, text))
    (h₂ : tokenize (sanitize t₂) = .ok toks₂)
    (hs₂ : segment toks₂ = .ok (data.map (renE f), text.map (renE g)))
    (hok : (load s t₁).err = none) : load s t₂ = load s t₁ := by
  rw [load_of_segment s t₁ _ _ _ h₁ hs₁] at hok ⊢
  rw [load_of_segment s t₂ _ _ _ h₂ hs₂]
  exact loadSeg_renum f g hg (resetSt s) data text hok

end ArchSim.Lemmas.C04Spell
