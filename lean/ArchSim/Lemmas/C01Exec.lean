/-
Registers and pc under the abstraction `α`, and the refinement of the instructions that touch only registers and
the program counter, each from its equation of `behavior`.  `RegMemOK` is the part of `StOK` that `behavior`
preserves.
-/
import ArchSim.Lemmas.C01Defs
import ArchSim.Lemmas.C01Arith
import ArchSim.Lemmas.RvBehavior

namespace ArchSim.Lemmas.C01
open ArchSim ArchSim.Rv ArchSim.Spec.RvSpec ArchSim.Mem ArchSim.Cache

/-- `StOK` without the program-counter clause (after `behavior` the pc is `target - 4`). -/
structure RegMemOK (s : St) : Prop where
  flat : ∃ m, s.mem = .flat m ∧ m.cfg = riscvCfg ∧ C18.WF m
  regs_lt : ∀ r, s.regs r < 4294967296
  x0 : s.regs 0 = 0

theorem StOK.regMemOK {s : St} (h : StOK s) : RegMemOK s := ⟨h.flat, h.regs_lt, h.x0⟩

theorem RegMemOK.of_eq {s t : St} (h : RegMemOK s) (hm : t.mem = s.mem) (hr : t.regs = s.regs) :
    RegMemOK t where
  flat := by rw [hm]; exact h.flat
  regs_lt := by rw [hr]; exact h.regs_lt
  x0 := by rw [hr]; exact h.x0

theorem α_get (s : St) (h : StOK s) (r : Nat) (hr : r < 32) : (α s).get r = W (s.regs r) := by
  simp only [SpecSt.get, α, αRegs, Nat.mod_eq_of_lt hr]
  split
  · rename_i h0; subst h0; rw [h.x0]; rfl
  · simp only [Fin.ofNat, Nat.mod_eq_of_lt hr]

theorem α_setReg (s : St) (rd v : Nat) (hr : rd < 32) :
    α (s.setReg rd v) = (α s).set rd (W v) := by
  simp only [SpecSt.set, α, St.setReg, Nat.mod_eq_of_lt hr]
  split
  · rename_i h0; subst h0
    congr 1
    funext k
    simp [αRegs, Rv.setReg]
  · rename_i h0
    congr 1
    funext k
    simp only [αRegs, Rv.setReg]
    have : (k = Fin.ofNat 32 rd) ↔ (k.val = rd ∧ 0 < rd ∧ rd < 32) := by
      rw [Fin.ext_iff]; simp only [Fin.ofNat, Nat.mod_eq_of_lt hr]; omega
    by_cases hk : k = Fin.ofNat 32 rd
    · rw [if_pos hk, if_pos (this.mp hk)]
    · rw [if_neg hk, if_neg (fun h => hk (this.mpr h))]

theorem α_pc (s : St) (p : Int) : α { s with pc := p } = { α s with pc := BitVec.ofInt 32 p } := rfl

theorem execOne_wr (i : Instr) (s : St) (v : Nat)
    (h : behavior i s = { st := s.setReg i.rd v, fault := none }) (hrd : i.rd < 32) :
    αBeh (execOne i s) = some (.ok { (α s).set i.rd (W v) with pc := (α s).pc + 4 }) := by
  simp only [execOne, h, αBeh, αOut, α_pc, α_setReg _ _ _ hrd]
  rw [show (s.setReg i.rd v).pc = s.pc from rfl, pc_next]
  rfl

theorem execOne_lui (i : Instr) (s : St) (hi : InstrWF i) (hop : i.op = .lui) :
    αBeh (execOne i s) = some (exec i (α s)) := by
  rw [execOne_wr i s (wrapU (i.imm * 4096)) (by rw [behavior_u i s (by rw [hop]; rfl), if_pos hop]) hi.rd]
  simp only [exec, hop, immU_eq, W_wrapU]

theorem execOne_auipc (i : Instr) (s : St) (hi : InstrWF i) (hop : i.op = .auipc) :
    αBeh (execOne i s) = some (exec i (α s)) := by
  rw [execOne_wr i s (wrapU (s.pc + i.imm * 4096))
    (by rw [behavior_u i s (by rw [hop]; rfl), if_neg (by rw [hop]; decide)]) hi.rd]
  simp only [exec, hop, immU_eq, auipc_val]
  rfl

theorem execOne_jal (i : Instr) (s : St) (hi : InstrWF i) (hop : i.op = .jal) :
    αBeh (execOne i s) = some (exec i (α s)) := by
  have himm : -1048576 ≤ i.imm ∧ i.imm < 1048576 := by simpa only [ImmOK, hop, Op.ty] using hi.imm
  simp only [execOne, behavior_j i s (by rw [hop]; rfl), αBeh, αOut, exec, hop, immJ_eq i himm]
  rw [show ∀ (t : St) (p : Int) (q : Nat), α { t with pc := p, procs := q } =
      { α t with pc := BitVec.ofInt 32 p } from fun _ _ _ => rfl,
    α_setReg _ _ _ hi.rd, pc_rel, link_val]
  rfl

theorem execOne_jalr (i : Instr) (s : St) (hi : InstrWF i) (hs : StOK s) (hop : i.op = .jalr) :
    αBeh (execOne i s) = some (exec i (α s)) := by
  have himm : -2048 ≤ i.imm ∧ i.imm < 2048 := by simpa only [ImmOK, hop, Op.ty] using hi.imm
  simp only [execOne, behavior_jalr i s hop, αBeh, αOut, exec, hop, immI_eq i himm, α_get s hs _ hi.rs1]
  rw [α_pc, α_setReg _ _ _ hi.rd, jalr_pc _ _ himm, link_val]
  rfl

theorem execOne_b (i : Instr) (s : St) (hty : i.op.ty = .b) (himm : -4096 ≤ i.imm ∧ i.imm < 4096) :
    αBeh (execOne i s) = some (.ok { α s with pc :=
      (if (branchCond i.op (s.regs i.rs1) (s.regs i.rs2)) = true then (α s).pc + immB i else (α s).pc + 4) }) := by
  by_cases hc : branchCond i.op (s.regs i.rs1) (s.regs i.rs2) = true
  · have hb := behavior_b i s hty
    rw [if_pos hc] at hb
    simp only [execOne, hb, hc, if_true, αBeh, αOut, immB_eq i himm]
    rw [show ∀ (t : St) (p : Int) (q : Nat), α { t with pc := p, branches := q } =
      { α t with pc := BitVec.ofInt 32 p } from fun _ _ _ => rfl, pc_rel]
    rfl
  · have hb := behavior_b i s hty
    rw [if_neg hc] at hb
    simp only [execOne, hb, hc, αBeh, αOut, α_pc, pc_next]
    rfl

theorem storedImm_ok (op : Op) (raw : Int) : ImmOK op (storedImm op raw) := by
  cases hty : op.ty <;> simp only [ImmOK, storedImm, hty]
  case i | memI =>
    split
    · decide
    · split
      · decide
      · exact sextImm_range 12 raw
  case shiftI => omega
  case s => exact sextImm_range 12 raw
  case b => exact sextImm_range 13 raw
  case u => exact sextImm_range 20 raw
  case j => exact sextImm_range 21 raw

end ArchSim.Lemmas.C01
