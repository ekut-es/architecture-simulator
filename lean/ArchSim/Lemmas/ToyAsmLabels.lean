/-
TOY assembler: `processLabels` and `buildInstrs`, each through what one line adds (`declLabel`, `lineInstr`) and its
closed form by position (`LabelSpec`, `BuildSpec`): a label is bound to the number of instruction lines before it,
instruction line `j` becomes instruction number `instrCount (take j)` with its operand resolved.
-/
import ArchSim.Lemmas.ToyAsmData

namespace ArchSim.ToyAsm
open ArchSim ArchSim.PP ArchSim.Toy

/-- the label a tokenised line declares: a stand-alone label or an in-line label -/
def declaredLabel : TStmt → Option String
  | .label n => some n
  | .instr (some l) _ _ _ => some l
  | _ => none

theorem isVarDecl_noInstr (s : TStmt) (h : isVarDecl s = true) :
    declaredLabel s = none ∧ isInstr s = false := by
  cases s <;> simp [isVarDecl, declaredLabel, isInstr] at h ⊢

def instrInc (s : TStmt) : Nat := if isInstr s then 1 else 0

theorem instrCount_cons (e : Entry) (rest : List Entry) :
    instrCount (e :: rest) = instrInc e.2.2 + instrCount rest := rfl

/-- What a line adds to the label table: the label it declares, if any, bound to `pc`. -/
def declLabel (ls : Labels) (s : TStmt) (pc k : Nat) (line : String) : Except AsmErr Labels :=
  match declaredLabel s with
  | some n => addLabel ls n pc k line
  | none => .ok ls

theorem processLabels_cons (k : Nat) (line : String) (s : TStmt) (rest : List Entry) (ls : Labels)
    (pc : Nat) :
    processLabels ((k, line, s) :: rest) ls pc =
      match declLabel ls s pc k line with
      | .error e => .error e
      | .ok ls' => processLabels rest ls' (pc + instrInc s) := by
  cases s with
  | directive d => rfl
  | varDecl n v => rfl
  | label n => rfl
  | instr lbl mn a r => cases lbl <;> rfl

theorem declLabel_ok {ls ls1 : Labels} {s : TStmt} {pc k : Nat} {line : String}
    (h : declLabel ls s pc k line = .ok ls1) :
    (∀ n, declaredLabel s = some n → lookup ls n = none) ∧
    ∀ m, lookup ls1 m = if declaredLabel s = some m then some (pc : Int) else lookup ls m := by
  unfold declLabel at h
  cases hd : declaredLabel s with
  | none => rw [hd] at h; cases h; exact ⟨by simp, by simp⟩
  | some n =>
    rw [hd] at h
    obtain ⟨hnew, rfl⟩ := addLabel_ok h
    refine ⟨fun n' hn' => by cases hn'; exact hnew, fun m => ?_⟩
    rw [lookup_snoc hnew]
    by_cases hm : m = n
    · subst hm; simp
    · have : ¬ n = m := fun h => hm h.symm
      simp [hm, this]

/-- Closed form of a successful `processLabels`. -/
structure LabelSpec (toks : List Entry) (ls : Labels) (pc : Nat) (ls' : Labels) : Prop where
  keep : ∀ n x, lookup ls n = some x → lookup ls' n = some x
  decl : ∀ (j k : Nat) (line : String) (s : TStmt) (n : String),
           toks[j]? = some (k, line, s) → declaredLabel s = some n →
           lookup ls n = none ∧ lookup ls' n = some (((pc + instrCount (toks.take j) : Nat)) : Int)
  only : ∀ n x, lookup ls' n = some x →
           lookup ls n = some x ∨
           ∃ j k line s, toks[j]? = some (k, line, s) ∧ declaredLabel s = some n ∧
             x = (((pc + instrCount (toks.take j) : Nat)) : Int)

theorem processLabels_spec (toks : List Entry) (ls : Labels) (pc : Nat) (ls' : Labels)
    (h : processLabels toks ls pc = .ok ls') : LabelSpec toks ls pc ls' := by
  induction toks generalizing ls pc with
  | nil =>
    simp only [processLabels, Except.ok.injEq] at h
    subst h
    exact ⟨fun _ _ h => h, by simp, fun n x h => Or.inl h⟩
  | cons e rest ih =>
    obtain ⟨k, line, s⟩ := e
    rw [processLabels_cons] at h
    cases ha : declLabel ls s pc k line with
    | error e => rw [ha] at h; cases h
    | ok ls1 =>
      rw [ha] at h
      have IH := ih _ _ h
      obtain ⟨hnew, hlk⟩ := declLabel_ok ha
      -- positions in `rest` are one further in the whole list, and count the first line's instruction
      have shift : ∀ j, ((pc + instrInc s + instrCount (rest.take j) : Nat) : Int) =
          ((pc + instrCount (((k, line, s) :: rest).take (j + 1)) : Nat) : Int) := by
        intro j; simp only [List.take_succ_cons, instrCount_cons]; congr 1; omega
      refine ⟨?_, ?_, ?_⟩
      · intro n x hn
        apply IH.keep
        rw [hlk]
        split
        · rename_i hd; rw [hnew n hd] at hn; cases hn
        · exact hn
      · intro j k' line' s' n hj hn
        cases j with
        | zero =>
          simp only [List.getElem?_cons_zero, Option.some.injEq, Prod.mk.injEq] at hj
          obtain ⟨_, _, rfl⟩ := hj
          refine ⟨hnew n hn, ?_⟩
          rw [IH.keep n pc (by rw [hlk, if_pos hn])]
          simp [instrCount]
        | succ j =>
          simp only [List.getElem?_cons_succ] at hj
          obtain ⟨h1, h2⟩ := IH.decl j k' line' s' n hj hn
          rw [hlk] at h1
          split at h1
          · cases h1
          · exact ⟨h1, by rw [h2, shift]⟩
      · intro n x hn
        rcases IH.only n x hn with h1 | ⟨j, k', line', s', hj, hn', hx⟩
        · rw [hlk] at h1
          split at h1
          · rename_i hd
            simp only [Option.some.injEq] at h1
            exact Or.inr ⟨0, k, line, s, rfl, hd, by simp [instrCount, ← h1]⟩
          · exact Or.inl h1
        · exact Or.inr ⟨j + 1, k', line', s', by simpa using hj, hn', by rw [hx, shift]⟩

/-- The lines `processLabels` looks at: those that declare a label and the instructions. -/
def labelRelevant (e : Entry) : Bool := (declaredLabel e.2.2).isSome || isInstr e.2.2

theorem processLabels_filter (l : List Entry) (ls : Labels) (pc : Nat) :
    processLabels l ls pc = processLabels (l.filter labelRelevant) ls pc := by
  induction l generalizing ls pc with
  | nil => rfl
  | cons e l ih =>
    obtain ⟨k, line, s⟩ := e
    by_cases h : labelRelevant (k, line, s) = true
    · rw [List.filter_cons_of_pos h, processLabels_cons, processLabels_cons]
      cases declLabel ls s pc k line with
      | error e => rfl
      | ok ls1 => exact ih _ _
    · have hd : declaredLabel s = none := by
        cases hd : declaredLabel s with
        | none => rfl
        | some n => simp [labelRelevant, hd] at h
      have hi : isInstr s = false := by
        cases hi : isInstr s with
        | false => rfl
        | true => simp [labelRelevant, hi] at h
      rw [List.filter_cons_of_neg h, processLabels_cons]
      simp only [declLabel, hd, instrInc, hi]
      exact ih _ _

theorem processLabels_congr_filter {a b : List Entry}
    (h : a.filter labelRelevant = b.filter labelRelevant) (ls : Labels) (pc : Nat) :
    processLabels a ls pc = processLabels b ls pc := by
  rw [processLabels_filter a, h, ← processLabels_filter]

/-- The (unreduced) address operand of an instruction line under a label table; `none` when a
    referenced name is not in the table. -/
def operand (ls : Labels) (mn : String) (addr ref : Option String) : Option Int :=
  if opcodeOf mn ≤ 7 then
    match addr, ref with
    | some v, _ => some (valueToInt v : Int)
    | none, some l => lookup ls l
    | none, none => some 0
  else some 0

/-- What one line contributes to the instruction list: nothing (directive, label), one instruction
    object, or an error (a variable declaration in the text segment, a name not in the table). -/
def lineInstr (ls : Labels) (k : Nat) (line : String) : TStmt → Except AsmErr (Option TInstr)
  | .varDecl _ _ => .error (.parser "ParserDataSyntaxException" k line)
  | .instr _ mn addr ref =>
    match operand ls mn addr ref with
    | none => .error (.parser "ParserLabelException" k line)
    | some x => .ok (some { opcode := opcodeOf mn, addr := (x % 4096).toNat })
  | _ => .ok none

theorem buildInstrs_cons (k : Nat) (line : String) (s : TStmt) (rest : List Entry) (ls : Labels) :
    buildInstrs ((k, line, s) :: rest) ls =
      match lineInstr ls k line s with
      | .error e => .error e
      | .ok o =>
        match buildInstrs rest ls with
        | .error e => .error e
        | .ok is => .ok (o.toList ++ is) := by
  cases s with
  | directive d => simp only [buildInstrs, lineInstr]; cases buildInstrs rest ls <;> rfl
  | label n => simp only [buildInstrs, lineInstr]; cases buildInstrs rest ls <;> rfl
  | varDecl n v => rfl
  | instr lbl mn addr ref =>
    -- both sides make the same tests, nested differently: decide them all, then `rfl`
    simp only [buildInstrs, lineInstr, operand]
    by_cases hop : opcodeOf mn ≤ 7
    · simp only [hop, if_true]
      cases addr with
      | some v => cases buildInstrs rest ls <;> rfl
      | none =>
        cases ref with
        | none => cases buildInstrs rest ls <;> rfl
        | some l => cases hl : lookup ls l <;> simp only [hl] <;> cases buildInstrs rest ls <;> rfl
    · simp only [hop, if_false]
      cases buildInstrs rest ls <;> rfl

theorem buildInstrs_cons_ok {k : Nat} {line : String} {s : TStmt} {rest : List Entry} {ls : Labels}
    {is : List TInstr} (h : buildInstrs ((k, line, s) :: rest) ls = .ok is) :
    ∃ o is', lineInstr ls k line s = .ok o ∧ buildInstrs rest ls = .ok is' ∧ is = o.toList ++ is' := by
  rw [buildInstrs_cons] at h
  cases ho : lineInstr ls k line s with
  | error e => rw [ho] at h; cases h
  | ok o =>
    cases hb : buildInstrs rest ls with
    | error e => rw [ho, hb] at h; cases h
    | ok is' => rw [ho, hb] at h; cases h; exact ⟨o, is', rfl, rfl, rfl⟩

theorem opcodeOf_le (mn : String) : opcodeOf mn ≤ 12 := by
  unfold opcodeOf
  split <;> omega

theorem lineInstr_ok {ls : Labels} {k : Nat} {line : String} {s : TStmt} {o : Option TInstr}
    (h : lineInstr ls k line s = .ok o) :
    isVarDecl s = false ∧ o.toList.length = instrInc s ∧
    (∀ i ∈ o, i.opcode ≤ 12 ∧ i.addr < 4096) ∧
    ∀ lbl mn addr ref, s = .instr lbl mn addr ref →
      ∃ x, operand ls mn addr ref = some x ∧ o = some { opcode := opcodeOf mn, addr := (x % 4096).toNat } := by
  cases s with
  | directive d => cases h; exact ⟨rfl, rfl, by simp, by simp⟩
  | label n => cases h; exact ⟨rfl, rfl, by simp, by simp⟩
  | varDecl n v => cases h
  | instr lbl mn addr ref =>
    simp only [lineInstr] at h
    cases hx : operand ls mn addr ref with
    | none => rw [hx] at h; cases h
    | some x =>
      rw [hx] at h; cases h
      refine ⟨rfl, rfl, ?_, ?_⟩
      · intro i hi; cases hi; exact ⟨opcodeOf_le mn, by simp only; omega⟩
      · intro _ _ _ _ he; cases he; exact ⟨x, hx, rfl⟩

/-- Closed form of a successful `buildInstrs`. -/
structure BuildSpec (text : List Entry) (ls : Labels) (is : List TInstr) : Prop where
  noVar  : ∀ e ∈ text, isVarDecl e.2.2 = false
  length : is.length = instrCount text
  instr  : ∀ (j k : Nat) (line : String) (lbl : Option String) (mn : String) (addr ref : Option String),
             text[j]? = some (k, line, .instr lbl mn addr ref) →
             ∃ x, operand ls mn addr ref = some x ∧
               is[instrCount (text.take j)]? = some { opcode := opcodeOf mn, addr := (x % 4096).toNat }

theorem buildInstrs_spec (text : List Entry) (ls : Labels) (is : List TInstr)
    (h : buildInstrs text ls = .ok is) : BuildSpec text ls is := by
  induction text generalizing is with
  | nil =>
    simp only [buildInstrs, Except.ok.injEq] at h
    subst h
    exact ⟨by simp, rfl, by simp⟩
  | cons e rest ih =>
    obtain ⟨k, line, s⟩ := e
    obtain ⟨o, is', ho, hb, rfl⟩ := buildInstrs_cons_ok h
    obtain ⟨hv, hlen, _, hins⟩ := lineInstr_ok ho
    have IH := ih is' hb
    refine ⟨?_, ?_, ?_⟩
    · intro e he
      rcases List.mem_cons.mp he with rfl | he
      · exact hv
      · exact IH.noVar e he
    · rw [List.length_append, hlen, IH.length, instrCount_cons]
    · intro j k' line' lbl mn addr ref hj
      cases j with
      | zero =>
        simp only [List.getElem?_cons_zero, Option.some.injEq, Prod.mk.injEq] at hj
        obtain ⟨x, hx, rfl⟩ := hins lbl mn addr ref hj.2.2
        exact ⟨x, hx, rfl⟩
      | succ j =>
        simp only [List.getElem?_cons_succ] at hj
        obtain ⟨x, hx1, hx2⟩ := IH.instr j k' line' lbl mn addr ref hj
        refine ⟨x, hx1, ?_⟩
        rw [List.take_succ_cons, instrCount_cons, ← hlen, List.getElem?_append_right (by omega)]
        simpa using hx2

theorem buildInstrs_wf (text : List Entry) (ls : Labels) (is : List TInstr)
    (h : buildInstrs text ls = .ok is) : ∀ i ∈ is, i.opcode ≤ 12 ∧ i.addr < 4096 := by
  induction text generalizing is with
  | nil =>
    simp only [buildInstrs, Except.ok.injEq] at h
    subst h; simp
  | cons e rest ih =>
    obtain ⟨k, line, s⟩ := e
    obtain ⟨o, is', ho, hb, rfl⟩ := buildInstrs_cons_ok h
    intro i hi
    rcases List.mem_append.mp hi with hi | hi
    · exact (lineInstr_ok ho).2.2.1 i (by simpa using hi)
    · exact ih is' hb i hi

theorem buildInstrs_ok_of (text : List Entry) (ls : Labels)
    (hv : ∀ e ∈ text, isVarDecl e.2.2 = false)
    (hop : ∀ k line lbl mn addr ref, (k, line, TStmt.instr lbl mn addr ref) ∈ text →
      (operand ls mn addr ref).isSome) :
    ∃ is, buildInstrs text ls = .ok is := by
  induction text with
  | nil => exact ⟨[], rfl⟩
  | cons e rest ih =>
    obtain ⟨is, his⟩ := ih (fun e he => hv e (by simp [he]))
      (fun k line lbl mn addr ref hm => hop k line lbl mn addr ref (by simp [hm]))
    obtain ⟨k, line, s⟩ := e
    rw [buildInstrs_cons, his]
    cases s with
    | directive d => exact ⟨_, rfl⟩
    | label n => exact ⟨_, rfl⟩
    | varDecl n v => have := hv (k, line, .varDecl n v) (by simp); simp [isVarDecl] at this
    | instr lbl mn addr ref =>
      have := hop k line lbl mn addr ref (by simp)
      simp only [lineInstr]
      cases hx : operand ls mn addr ref with
      | none => rw [hx] at this; cases this
      | some x => exact ⟨_, rfl⟩

theorem buildInstrs_congr (text : List Entry) (ls ls' : Labels)
    (h : ∀ n, lookup ls n = lookup ls' n) : buildInstrs text ls = buildInstrs text ls' := by
  induction text with
  | nil => rfl
  | cons e rest ih =>
    obtain ⟨k, line, s⟩ := e
    have : lineInstr ls k line s = lineInstr ls' k line s := by
      cases s with
      | instr lbl mn addr ref =>
        have : operand ls mn addr ref = operand ls' mn addr ref := by
          simp only [operand]
          split
          · cases addr with
            | some v => rfl
            | none => cases ref with
              | none => rfl
              | some l => exact h l
          · rfl
        simp only [lineInstr, this]
      | _ => rfl
    rw [buildInstrs_cons, buildInstrs_cons, ih, this]

end ArchSim.ToyAsm
