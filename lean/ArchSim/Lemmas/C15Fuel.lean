/-
The three fuel-using scanners (`pMoreImms`, `pMoreValues`, `quotedBody`) never run out of
fuel: with fuel ≥ the remaining input length the result does not depend on extra fuel.
(Model-level content of "loading always terminates".)
-/
import ArchSim.Model.Asm
import ArchSim.Model.ToyAsm
import ArchSim.Lemmas.PPFacts

namespace ArchSim.Lemmas.C15
open ArchSim ArchSim.PP

theorem skipWs_length (i : Inp) : (skipWs i).length ≤ i.length := (List.dropWhile_sublist _).length_le

theorem stripPrefix_length {p i r : List Char} (h : stripPrefix p i = some r) :
    r.length + p.length = i.length := by
  rw [C14.stripPrefix_eq] at h
  split at h
  · next hp =>
    cases h
    have := (List.isPrefixOf_iff_prefix.mp hp).length_le
    rw [List.length_drop]; omega
  · cases h

theorem litAdj_length {s : String} {i r : Inp} {u : Unit} (h : litAdj s i = .ok u r) :
    r.length + s.toList.length = i.length := by
  unfold litAdj at h
  split at h
  · rename_i rest hr
    cases h
    exact stripPrefix_length hr
  · cases h

/-- `Literal` is the adjacent literal after the blanks. -/
theorem lit_length {s : String} {i r : Inp} {u : Unit} (h : lit s i = .ok u r) :
    r.length + s.toList.length ≤ i.length := by
  have := litAdj_length (i := skipWs i) h
  have := skipWs_length i
  omega

theorem wordAdj_length {a b : Char → Bool} {i r : Inp} {w : String} (h : wordAdj a b i = .ok w r) :
    r.length < i.length := by
  unfold wordAdj at h
  split at h
  · split at h
    · cases h
      rename_i c cs _
      have := (List.dropWhile_sublist b (l := cs)).length_le
      simp; omega
    · cases h
  · cases h

theorem fuel_add {β : Type} (g : Nat → β) (n : Nat) (h : ∀ m, n ≤ m → g (m + 1) = g m) (extra : Nat) :
    g (n + extra) = g n := by
  induction extra with
  | zero => rfl
  | succ k ih => rw [← Nat.add_assoc, h _ (Nat.le_add_right n k), ih]

theorem comma_length {i r : Inp} {u : Unit} (h : lit "," i = .ok u r) : r.length < i.length := by
  have := lit_length h
  have : (",".toList).length = 1 := by decide
  omega

theorem prefixed_word_length {pre : String} {p : Char → Bool} {j rest : Inp} {h : String}
    (hh : (litAdj pre j).bind (fun _ r => wordAdj p p r) = .ok h rest) : rest.length < j.length := by
  obtain ⟨u, r1, h1, h2⟩ := C14.bind_eq_ok.mp hh
  have := litAdj_length h1
  have := wordAdj_length h2
  omega

theorem pImmText_length {i rest : Inp} {t : String} (h : Asm.pImmText i = .ok t rest) :
    rest.length < i.length := by
  unfold Asm.pImmText at h
  dsimp only at h
  -- `j`: the input after the optional sign
  generalize hsj : (Prod.snd _ : Inp) = j at h
  have hjl : j.length ≤ (skipWs i).length := by
    rw [← hsj]; split
    · next r heq => rw [heq]; exact Nat.le_succ _
    · exact Nat.le_refl _
  have := skipWs_length i
  split at h
  · next hx => cases h; have := prefixed_word_length hx; omega
  · cases h
  · split at h
    · next hx => cases h; have := prefixed_word_length hx; omega
    · cases h
    · split at h
      · next hx => cases h; have := wordAdj_length hx; omega
      · have := wordAdj_length h; omega

theorem pImm_length {i rest : Inp} {v : Int} (h : Asm.pImm i = .ok v rest) : rest.length < i.length := by
  unfold Asm.pImm at h
  obtain ⟨t, r1, h1, h2⟩ := C14.bind_eq_ok.mp h
  have := pImmText_length h1
  split at h2
  · cases h2; exact this
  · cases h2

theorem pMoreImms_fuel (fuel : Nat) (i : Inp) (acc : List Int) (h : i.length ≤ fuel) :
    Asm.pMoreImms (fuel + 1) i acc = Asm.pMoreImms fuel i acc := by
  induction fuel generalizing i acc with
  | zero =>
    have : i = [] := List.eq_nil_of_length_eq_zero (by omega)
    subst this
    rfl
  | succ fuel ih =>
    rw [Asm.pMoreImms, Asm.pMoreImms]
    split
    · rename_i v rest hx
      obtain ⟨u, r1, h1, h2⟩ := C14.bind_eq_ok.mp hx
      have := comma_length h1
      have := pImm_length h2
      exact ih rest (v :: acc) (by omega)
    · rfl

theorem pValue_length {i rest : Inp} {v : String} (h : ToyAsm.pValue i = .ok v rest) :
    rest.length < i.length := by
  unfold ToyAsm.pValue at h
  simp only at h
  have hsk := skipWs_length i
  split at h
  · rename_i hx
    cases h
    have := prefixed_word_length hx; omega
  · cases h
  · split at h
    · rename_i hx
      split at h
      · cases h
        have := wordAdj_length hx; omega
      · cases h
    · have := wordAdj_length h; omega

theorem pMoreValues_fuel (fuel : Nat) (i : Inp) (acc : List String) (h : i.length ≤ fuel) :
    ToyAsm.pMoreValues (fuel + 1) i acc = ToyAsm.pMoreValues fuel i acc := by
  induction fuel generalizing i acc with
  | zero =>
    have : i = [] := List.eq_nil_of_length_eq_zero (by omega)
    subst this
    rfl
  | succ fuel ih =>
    rw [ToyAsm.pMoreValues, ToyAsm.pMoreValues]
    split
    · rename_i v rest hx
      obtain ⟨u, r1, h1, h2⟩ := C14.bind_eq_ok.mp hx
      have := comma_length h1
      have := pValue_length h2
      exact ih rest (v :: acc) (by omega)
    · rfl

theorem quotedBody_fuel (q : Char) (fuel : Nat) (i : Inp) (acc : List Char) (h : i.length ≤ fuel) :
    Asm.quotedBody q (fuel + 1) i acc = Asm.quotedBody q fuel i acc := by
  induction fuel generalizing i acc with
  | zero =>
    have : i = [] := List.eq_nil_of_length_eq_zero (by omega)
    subst this
    rfl
  | succ fuel ih =>
    match i, h with
    | [], _ => rw [Asm.quotedBody.eq_2, Asm.quotedBody.eq_2]
    | [c], _ =>
      rw [Asm.quotedBody.eq_4, Asm.quotedBody.eq_4]
      repeat' split
      all_goals first | rfl | exact ih _ _ (by simp)
    | c :: c2 :: cs2, h =>
      simp only [List.length_cons] at h
      rw [Asm.quotedBody.eq_3, Asm.quotedBody.eq_3]
      split
      · split
        · exact ih _ _ (by omega)
        · rfl
      · split
        · split
          · rfl
          · rename_i cs3 heq
            cases heq
            simp only
            split
            · rfl
            · exact ih _ _ (by have := (List.dropWhile_sublist isHexNum (l := cs2)).length_le; omega)
          · rename_i c3 cs3 _ heq
            cases heq
            exact ih _ _ (by omega)
        · split
          · rfl
          · exact ih _ _ (by simp; omega)

end ArchSim.Lemmas.C15
