/-
The instruction grammar as a table: each of the fifteen alternatives of `pInstrBody` is a mnemonic stage followed by
an operand parser, and on a mnemonic word in any letter case a row is entered iff the word is one of its symbols. The
reason is `sufOk`: where one mnemonic is a proper prefix of another (`add`/`addi`, `jal`/`jalr`, `csrrw`/`csrrwi`), what
is left of the word cannot start a register. `tailR … tailMv` are the operand parsers of `pRType … pMv`.
-/
import ArchSim.Lemmas.C04SpellCase

namespace ArchSim.Lemmas.C04Spell
open ArchSim ArchSim.PP ArchSim.Rv ArchSim.Asm ArchSim.Lemmas.C14

/-! ### what cannot start a register -/

def noReg (u : List Char) : Bool := abiSyms.all (fun t => !t.toList.isPrefixOf u) && (u.head? != some 'x')

theorem pReg_fail_var (u' u rest : List Char) (hv : CaseVar u' u) (hne : u ≠ []) (hn : noReg u = true)
    (ht : TokEnd rest) : pReg (u' ++ rest) = .fail := by
  simp only [noReg, Bool.and_eq_true, List.all_eq_true, Bool.not_eq_true', bne_iff_ne, ne_eq] at hn
  obtain ⟨hn1, hn2⟩ := hn
  obtain ⟨c', cs', rfl⟩ : ∃ c' cs', u' = c' :: cs' := by
    cases u' with
    | nil => exact absurd hv.of_nil hne
    | cons c' cs' => exact ⟨c', cs', rfl⟩
  obtain ⟨c, cs, rfl, hlc, hcl, hc'l, hv'⟩ := hv.cons
  have hws : isWs c' = false := (letter_facts c' hc'l).notWs
  have h1 : oneOf (abiNames.map (·.1)) (c' :: (cs' ++ rest)) = .fail := by
    unfold oneOf
    simp only [skipWs_cons_of_not_ws c' _ hws, oneOf_go_eq]
    rw [find_longestFirst_none]
    intro t ht'
    have htc := (abi_sym_table t ht').2.2
    cases hp : t.toList.isPrefixOf (c' :: (cs' ++ rest)) with
    | false => rfl
    | true =>
      exfalso
      have hp' : t.toList.isPrefixOf ((c' :: cs') ++ rest) = true := hp
      rw [isPrefixOf_append_class isLabelBody _ _ _ (fun c hc => (htc c hc).1) ht] at hp'
      have hpre := (List.isPrefixOf_iff_prefix.mp hp').map toLowerAscii
      rw [(List.map_congr_left fun c hc => (htc c hc).2).trans (List.map_id _), hv.1] at hpre
      have := hn1 t ht'
      rw [List.isPrefixOf_iff_prefix.mpr hpre] at this
      cases this
  have h2 : lit "x" (c' :: (cs' ++ rest)) = .fail := by
    have : c' ≠ 'x' := by
      rintro rfl
      apply hn2
      rw [← hlc]; rfl
    simp [lit, skipWs_cons_of_not_ws c' _ hws, stripPrefix, Ne.symm this]
  rw [List.cons_append]
  simp [pReg, h1, h2]

/-! ### the mnemonic words -/

/-- every word that is a mnemonic of the RISC-V grammar: the real ones and `la`, `li`, `mv`, `nop` -/
def mnWords : List String :=
  rrrMn ++ normalIMn ++ memIMn ++ bMn ++ sMn ++ uMn ++ csrMn ++ csriMn ++
    ["jal", "fence", "ecall", "ebreak", "nop", "li", "mv", "la"]

theorem kw_mem {m : String} (h : m ∈ ["jal", "fence", "ecall", "ebreak", "nop", "li", "mv", "la"]) : m ∈ mnWords :=
  List.mem_append_right _ h

/-- The symbols of `S` treat the word `w` well: a symbol that is a prefix of `w` is the whole word, or
    what it leaves of the word cannot start a register. (Whichever symbol a table drawn from `S` picks,
    the operand parser that follows then fails on the word and on its case variants alike.) -/
def sufOk (S : List String) (w : List Char) : Bool :=
  S.all fun s => !s.toList.isPrefixOf w || s.toList.length == w.length || noReg (w.drop s.toList.length)

theorem mnWords_low : ∀ m ∈ mnWords, (∀ c ∈ m.toList, isLow c = true) ∧ m.toList ≠ [] := by decide +kernel

/-- the keyword is no proper prefix of the word -/
def kwExact (kw : String) (w : List Char) : Bool := !kw.toList.isPrefixOf w || kw.toList.length == w.length

/-- the words that take no operands -/
def bareKws : List String := ["ecall", "ebreak", "nop"]

theorem bare_low : ∀ s ∈ bareKws, ∀ c ∈ s.toList, isLow c = true := by decide

/-- What the dispatch needs of a word: it is not empty, a mnemonic that is a proper prefix of it leaves nothing that
    starts a register, and no word without operands is a proper prefix of it. Every mnemonic word is such a word
    (`mnWords_ok`): where a mnemonic is a proper prefix of another (`add`/`addi`, `jal`/`jalr`, `csrrw`/`csrrwi`, …),
    what is left over is not the beginning of a register name. So is a word of which no mnemonic is a prefix. -/
def wordOk (w : List Char) : Bool := !w.isEmpty && sufOk mnWords w && bareKws.all (kwExact · w)

theorem mnWords_ok : ∀ m ∈ mnWords, wordOk m.toList = true := by decide +kernel

theorem wordOk_parts {w : List Char} (h : wordOk w = true) :
    w ≠ [] ∧ sufOk mnWords w = true ∧ ∀ s ∈ bareKws, kwExact s w = true := by
  simp only [wordOk, Bool.and_eq_true, Bool.not_eq_true', List.isEmpty_eq_false_iff, List.all_eq_true] at h
  exact ⟨h.1.1, h.1.2, h.2⟩

/-! ### a mnemonic stage on a mnemonic word -/

theorem find_longestFirst_self (L : List String) (m : String) (hm : m ∈ L) :
    (longestFirst L).find? (fun s => s.toList.isPrefixOf m.toList) = some m := by
  apply find_longestFirst_some L _ m hm (by simp)
  intro t _ hp
  rcases isPrefixOf_len _ _ (by simpa using hp) with h | h
  · left; rw [← String.length_toList, ← String.length_toList]; exact h
  · right; exact String.toList_inj.mp h

theorem noReg_of_sufOk {S : List String} {s m : String} (hs : s ∈ S) (hp : s.toList.isPrefixOf m.toList = true)
    (hok : sufOk S m.toList = true) (hsm : s ≠ m) :
    m.toList.drop s.toList.length ≠ [] ∧ noReg (m.toList.drop s.toList.length) = true := by
  have hlen : s.toList.length ≠ m.toList.length := fun h =>
    hsm (String.toList_inj.mp ((List.isPrefixOf_iff_prefix.mp hp).eq_of_length h))
  have := List.all_eq_true.mp hok s hs
  simp only [hp, Bool.not_true, Bool.false_or, Bool.or_eq_true, beq_iff_eq] at this
  refine ⟨fun h => hlen ?_, this.resolve_left hlen⟩
  have h1 := (List.isPrefixOf_iff_prefix.mp hp).length_le
  have h2 := List.drop_eq_nil_iff.mp h
  omega

section word
variable {α : Type} (S : List String) (m : String) (w' rest : List Char) (hv : CaseVar w' m.toList)
  (hne : m.toList ≠ []) (hok : sufOk S m.toList = true) (hr : WordSep rest)
include hv hne hok hr

omit hne in
theorem afterSym_word (s : String) (hs : s ∈ S) (hp : s.toList.isPrefixOf m.toList = true) (k : Inp → R α)
    (hk : ∀ r, pReg r = .fail → k r = .fail) :
    k (w'.drop s.toList.length ++ rest) = if s = m then k rest else .fail := by
  by_cases hsm : s = m
  · subst hsm
    rw [if_pos rfl, ← hv.length, List.drop_length, List.nil_append]
  · obtain ⟨hu, hn⟩ := noReg_of_sufOk hs hp hok hsm
    rw [if_neg hsm, hk _ (pReg_fail_var _ _ rest (hv.drop _) hu hn hr.tokEnd)]

theorem mnAlt_word (L : List String) (hLS : ∀ s ∈ L, s ∈ S) (hL : LowSyms L) (k : String → Inp → R α)
    (hk : ∀ s r, pReg r = .fail → k s r = .fail) :
    (oneOfCaseless L (w' ++ rest)).bind k = if m ∈ L then k m rest else .fail := by
  rw [oneOfCaseless_var L w' m.toList rest hL hv hne hr.mnSep]
  by_cases hm : m ∈ L
  · rw [find_longestFirst_self L m hm, if_pos hm, bind_ok, ← hv.length, List.drop_length, List.nil_append]
  · rw [if_neg hm]
    cases hf : (longestFirst L).find? (fun s => s.toList.isPrefixOf m.toList) with
    | none => rfl
    | some s =>
      have hsL : s ∈ L := mem_longestFirst.mp (List.mem_of_find?_eq_some hf)
      rw [bind_ok, afterSym_word S m w' rest hv hok hr s (hLS s hsL) (by simpa using List.find?_some hf)
        (k s) (hk s), if_neg (fun (h : s = m) => hm (h ▸ hsL))]

theorem kwAlt_word (kw : String) (hkS : kw ∈ S) (hkw : ∀ c ∈ kw.toList, isLow c = true) (k : Unit → Inp → R α)
    (hk : ∀ s r, pReg r = .fail → k s r = .fail) :
    (caselessLit kw (w' ++ rest)).bind k = if kw = m then k () rest else .fail := by
  rw [caselessLit_var kw w' m.toList rest hkw hv hne hr.mnSep]
  by_cases hp : kw.toList.isPrefixOf m.toList = true
  · rw [if_pos hp, bind_ok]
    exact afterSym_word S m w' rest hv hok hr kw hkS hp (k ()) (hk ())
  · rw [if_neg hp, if_neg (fun h => hp (by rw [h]; simp))]; rfl

end word

theorem kwBare_word (kw m : String) (hkw : ∀ c ∈ kw.toList, isLow c = true) (w' rest : List Char)
    (hv : CaseVar w' m.toList) (hne : m.toList ≠ []) (hok : kwExact kw m.toList = true) (hr : MnSep rest) :
    caselessLit kw (w' ++ rest) = if kw = m then .ok () rest else .fail := by
  rw [caselessLit_var kw w' m.toList rest hkw hv hne hr]
  by_cases hp : kw.toList.isPrefixOf m.toList = true
  · simp only [kwExact, hp, Bool.not_true, Bool.false_or, beq_iff_eq] at hok
    have hkm : kw = m := String.toList_inj.mp ((List.isPrefixOf_iff_prefix.mp hp).eq_of_length hok)
    rw [if_pos hp, if_pos hkm, hkm, ← hv.length, List.drop_length, List.nil_append]
  · rw [if_neg hp, if_neg (fun h => hp (by rw [h]; simp))]

/-! ### the table -/

/-- the mnemonic stage of an alternative -/
inductive Head where
  | tbl (L : List String)
  | kw (s : String)
  | bare (l : List String)

def Head.syms : Head → List String
  | .tbl L => L
  | .kw s => [s]
  | .bare l => l

/-- the canonical symbol found, and the rest -/
def stage : Head → Inp → R String
  | .tbl L, i => oneOfCaseless L i
  | .kw s, i => (caselessLit s i).map fun _ => s
  | .bare l, i => first (l.map fun s j => (caselessLit s j).map fun _ => s) i

/-- an operand parser: what follows the mnemonic stage of an alternative, given the symbol it found -/
abbrev Tail := String → Inp → R Item

def tailR : Tail := fun mn r0 =>
  ((pReg r0).bind fun rd r1 => (pComma r1).bind fun _ r2 => (pReg r2).bind fun rs1 r3 => (pComma r3).bind fun _ r4 =>
    (pReg r4).map fun rs2 => PInstr.rtype mn rd rs1 rs2).map .grp
def tailU : Tail := fun mn r0 =>
  ((pReg r0).bind fun rd r1 => (pComma r1).bind fun _ r2 => (pImm r2).map fun imm => PInstr.utype mn rd imm).map .grp
def tailB : Tail := fun mn r0 =>
  ((pReg r0).bind fun a r1 => (pComma r1).bind fun _ r2 => (pReg r2).bind fun b r3 => (pComma r3).bind fun _ r4 =>
    (pLabel r4).bind fun l r5 => (pOffset r5).map fun off => PInstr.btypeLabel mn a b l off).map .grp
def tailMem : Tail := fun mn r0 =>
  ((pReg r0).bind fun a r1 => (pComma r1).bind fun _ r2 => (pImm r2).bind fun imm r3 => (lit "(" r3).bind fun _ r4 =>
    (pReg r4).bind fun b r5 => (lit ")" r5).map fun _ => PInstr.mem mn a imm b).map .grp
def tailMemP : Tail := fun mn r0 =>
  ((pReg r0).bind fun a r1 => (pComma r1).bind fun _ r2 =>
    (pVariable r2).map fun (v, idx) => PInstr.memPseudo mn a v idx).map .grp
def tailSP : Tail := fun mn r0 =>
  ((pReg r0).bind fun a r1 => (pComma r1).bind fun _ r2 => (pVariable r2).bind fun (v, idx) r3 =>
    (pComma r3).bind fun _ r4 => (pReg r4).map fun b => PInstr.sPseudo mn a v idx b).map .grp
def tailCsr : Tail := fun mn r0 =>
  ((pReg r0).bind fun rd r1 => (pComma r1).bind fun _ r2 => (pImm r2).bind fun c r3 => (pComma r3).bind fun _ r4 =>
    (pReg r4).map fun rs1 => PInstr.csr mn rd c rs1).map .grp
def tailCsri : Tail := fun mn r0 =>
  ((pReg r0).bind fun rd r1 => (pComma r1).bind fun _ r2 => (pImm r2).bind fun c r3 => (pComma r3).bind fun _ r4 =>
    (pImm r4).map fun u => PInstr.csri mn rd c u).map .grp
def tailRRI : Tail := fun mn r0 =>
  ((pReg r0).bind fun a r1 => (pComma r1).bind fun _ r2 => (pReg r2).bind fun b r3 => (pComma r3).bind fun _ r4 =>
    (pImm r4).map fun imm => PInstr.rri mn a b imm).map .grp
def tailFence : Tail := fun _ r0 =>
  ((pReg r0).bind fun rd r1 => (pComma r1).bind fun _ r2 => (pReg r2).map fun rs1 => PInstr.fence rd rs1).map .grp
def tailJal : Tail := fun _ r0 =>
  ((pReg r0).bind fun rd r1 => (pComma r1).bind fun _ r2 =>
    orLongest [fun j => (pImm j).map (fun imm => PInstr.jalImm rd imm),
      fun j => (pLabel j).bind fun l r3 => (pOffset r3).map fun off => PInstr.jalLabel rd l off] r2).map .grp
def tailWord : Tail := fun s r => .ok (.str s) r
def tailLi : Tail := fun _ r0 =>
  ((pReg r0).bind fun rd r1 => (pComma r1).bind fun _ r2 => (pImm r2).map fun imm => PInstr.li rd imm).map .grp
def tailMv : Tail := fun _ r0 =>
  ((pReg r0).bind fun rd r1 => (pComma r1).bind fun _ r2 => (pReg r2).map fun rs => PInstr.mv rd rs).map .grp

/-- The fifteen alternatives of `pInstrBody`, in its order (`pRType`, `pUType`, `pBType`, `pMemory`, `pMemPseudo`,
    `pSPseudo`, `pCsr`, `pCsri`, `pRegRegImm`, `pFence`, `pJal`, `ecall`/`ebreak`, `nop`, `pLi`, `pMv`). The rows have
    names, so that which rows hold a given word is a list of names that can be evaluated. -/
inductive Row where
  | rrr | u | b | mem | memP | sp | csr | csri | rri | fence | jal | env | nop | li | mv
deriving DecidableEq

def Row.head : Row → Head
  | .rrr => .tbl rrrMn | .u => .tbl uMn | .b => .tbl bMn | .mem => .tbl (memIMn ++ sMn) | .memP => .tbl (memIMn ++ ["la"])
  | .sp => .tbl sMn | .csr => .tbl csrMn | .csri => .tbl csriMn | .rri => .tbl (normalIMn ++ memIMn ++ bMn ++ sMn)
  | .fence => .kw "fence" | .jal => .kw "jal" | .env => .bare ["ecall", "ebreak"] | .nop => .bare ["nop"]
  | .li => .kw "li" | .mv => .tbl ["mv"]

def Row.tail : Row → Tail
  | .rrr => tailR | .u => tailU | .b => tailB | .mem => tailMem | .memP => tailMemP | .sp => tailSP | .csr => tailCsr
  | .csri => tailCsri | .rri => tailRRI | .fence => tailFence | .jal => tailJal | .env => tailWord | .nop => tailWord
  | .li => tailLi | .mv => tailMv

def rows : List Row := [.rrr, .u, .b, .mem, .memP, .sp, .csr, .csri, .rri, .fence, .jal, .env, .nop, .li, .mv]

def runRow (i : Inp) (r : Row) : R Item := (stage r.head i).bind r.tail

theorem pInstrBody_rows (i : Inp) : pInstrBody i = pick (rows.map (runRow i)) := by
  rw [pInstrBody, orLongest_pickOf]
  simp only [rows, runRow, Row.head, Row.tail, stage, List.map_cons, List.map_nil]
  refine congrArg pick ?_
  simp only [List.cons.injEq, and_true]
  refine ⟨by rw [pRType, map_bind]; rfl, by rw [pUType, map_bind]; rfl, by rw [pBType, map_bind]; rfl,
    by rw [pMemory, map_bind]; rfl, by rw [pMemPseudo, map_bind]; rfl, by rw [pSPseudo, map_bind]; rfl,
    by rw [pCsr, map_bind]; rfl, by rw [pCsri, map_bind]; rfl, by rw [pRegRegImm, map_bind]; rfl,
    by rw [pFence, map_bind, bind_map]; rfl, by rw [pJal, map_bind, bind_map]; rfl, ?_, ?_,
    by rw [pLi, map_bind, bind_map]; rfl, by rw [pMv, map_bind]; rfl⟩
  · simp only [first]
    cases caselessLit "ecall" i <;> simp only [map_ok, map_fail, map_abort, bind_ok, bind_abort, tailWord]
    cases caselessLit "ebreak" i <;> rfl
  · simp only [first]
    cases caselessLit "nop" i <;> rfl

/-- an operand parser starts with a register; the words without operands carry `tailWord` -/
def RowOk (r : Row) : Prop :=
  match r.head with
  | .bare l => r.tail = tailWord ∧ ∀ s ∈ l, s ∈ bareKws
  | _ => ∀ s i, pReg i = .fail → r.tail s i = .fail

theorem rows_ok (r : Row) : RowOk r := by
  cases r
  case env => exact ⟨rfl, by decide⟩
  case nop => exact ⟨rfl, by decide⟩
  -- the other thirteen operand parsers start with `pReg`
  all_goals
    intro s i h
    simp only [Row.tail, tailR, tailU, tailB, tailMem, tailMemP, tailSP, tailCsr, tailCsri, tailRRI, tailFence, tailJal,
      tailLi, tailMv, h, bind_fail, map_fail]

theorem rows_sub (r : Row) : ∀ s ∈ r.head.syms, s ∈ mnWords := by
  cases r <;>
    simp +contextual only [Row.head, Head.syms, mnWords, List.mem_append, List.mem_cons, List.not_mem_nil, or_false,
      or_imp, true_or, or_true, implies_true, and_self]

/-! ### a line that does not start with a letter -/

section
variable (l : Inp) (c : Char) (cs : Inp) (hl : skipWs l = c :: cs) (hc : c.toNat < 128 ∧ isAlpha c = false)
include hl hc

theorem stage_fail_head (h : Head) (hs : ∀ s ∈ h.syms, (∀ d ∈ s.toList, isLow d = true) ∧ s.toList ≠ []) :
    stage h l = .fail := by
  -- the line is the EMPTY word followed by a separator, so C14Scan's lemmas on case variants decide every stage
  have hv : CaseVar [] [] := ⟨rfl, fun _ h => nomatch h⟩
  have hr : MnSep (c :: cs) := fun d hd => by
    simp only [List.head?_cons, Option.mem_def, Option.some.injEq] at hd; exact hd ▸ hc
  have lit : ∀ s ∈ h.syms, caselessLit s l = .fail := fun s hm => by
    have hk := caseless_aux_var s.toList [] [] (c :: cs) (hs s hm).1 hv hr
    rw [List.nil_append] at hk
    unfold caselessLit
    simp only [hl]
    exact if_neg fun hcond => (hs s hm).2 (by simpa using hk.mp hcond)
  cases h with
  | tbl L =>
    have hgo := oneOfCaseless_go_var (longestFirst L) [] [] (c :: cs)
      (fun s h => (hs s (mem_longestFirst.mp h)).1) hv hr
    rw [List.find?_eq_none.mpr fun s h => by simpa using (hs s (mem_longestFirst.mp h)).2] at hgo
    simp only [stage, oneOfCaseless, hl]
    exact hgo
  | kw s => simp only [stage, lit s (by simp [Head.syms]), map_fail]
  | bare k =>
    simp only [stage]
    induction k with
    | nil => rfl
    | cons s k ih =>
      simp only [List.map_cons, first, lit s (by simp [Head.syms]), map_fail]
      exact ih (fun t ht => hs t (List.mem_cons_of_mem _ ht)) fun t ht => lit t (List.mem_cons_of_mem _ ht)

theorem pInstrBody_fail_head : pInstrBody l = .fail := by
  rw [pInstrBody_rows, List.map_congr_left (g := fun _ => R.fail) fun r _ => by
    rw [runRow, stage_fail_head l c cs hl hc r.head fun s h => mnWords_low s (rows_sub r s h)]; rfl]
  rfl

end

/-! ### a row on a mnemonic word -/

/-- the companion of `pick_filter` (`C14Scan`): entries that are not selected fail, and failures take no part -/
theorem filter_notFail_sel {α β : Type} (l : List α) (p : α → Bool) (f g : α → R β)
    (h : ∀ x ∈ l, f x = if p x then g x else .fail) :
    (l.map f).filter notFail = ((l.filter p).map g).filter notFail := by
  induction l with
  | nil => rfl
  | cons a l ih =>
    have ih := ih fun x hx => h x (List.mem_cons_of_mem _ hx)
    rw [List.map_cons, h a List.mem_cons_self, List.filter_cons (p := p)]
    cases p a with
    | false => simpa [List.filter_cons, notFail] using ih
    | true => simp only [if_true, List.map_cons, List.filter_cons, ih]

section
variable (m : String) (hm : wordOk m.toList = true) (w' rest : List Char) (hv : CaseVar w' m.toList) (hr : WordSep rest)
include hm hv hr

theorem first_bare (l : List String) (hl : ∀ s ∈ l, s ∈ bareKws) :
    first (l.map fun s j => (caselessLit s j).map fun _ => s) (w' ++ rest) = if m ∈ l then .ok m rest else .fail := by
  induction l with
  | nil => rfl
  | cons s l ih =>
    obtain ⟨hne, -, hx⟩ := wordOk_parts hm
    simp only [List.map_cons, first, kwBare_word s m (bare_low s (hl s (by simp))) w' rest hv hne
      (hx s (hl s (by simp))) hr.mnSep, List.mem_cons]
    by_cases hsm : s = m
    · simp [hsm]
    · have : ¬ m = s := fun h => hsm h.symm
      simp only [hsm, this, if_false, map_fail, false_or]
      exact ih fun t ht => hl t (by simp [ht])

theorem row_word (r : Row) : runRow (w' ++ rest) r = if m ∈ r.head.syms then r.tail m rest else .fail := by
  obtain ⟨hne, hsuf, -⟩ := wordOk_parts hm
  have hok := rows_ok r
  have hs := rows_sub r
  have hl : ∀ s ∈ r.head.syms, ∀ c ∈ s.toList, isLow c = true := fun s h => (mnWords_low s (hs s h)).1
  unfold RowOk at hok
  unfold runRow
  generalize r.head = h at hok hs hl ⊢
  generalize r.tail = k at hok ⊢
  cases h with
  | tbl L => exact mnAlt_word mnWords m w' rest hv hne hsuf hr L hs hl k hok
  | kw s =>
    have := kwAlt_word mnWords m w' rest hv hne hsuf hr s (hs s (by simp [Head.syms]))
      (hl s (by simp [Head.syms])) (fun _ i => k s i) (fun _ => hok s)
    simp only [stage, bind_map, this, Head.syms, List.mem_singleton]
    by_cases hsm : s = m
    · simp [hsm]
    · have hms : ¬ m = s := fun h => hsm h.symm
      simp [hsm, hms]
  | bare l =>
    obtain ⟨rfl, hb⟩ := hok
    simp only [stage, first_bare m hm w' rest hv hr l hb, Head.syms]
    by_cases h : m ∈ l <;> simp only [h, if_true, if_false, bind_ok, bind_fail]

/-- Which rows have the word is a list of row names that a caller gets by evaluation (`mn_sel` for the printed
    mnemonics, `pseudo_sel` for the pseudo-instruction words). -/
theorem pInstrBody_word :
    pInstrBody (w' ++ rest) = pick (((rows.filter fun r => m ∈ r.head.syms).map Row.tail).map fun k => k m rest) := by
  rw [pInstrBody_rows, pick_filter, pick_filter (List.map ..), List.map_map,
    filter_notFail_sel rows (fun r => m ∈ r.head.syms) _ _ fun r _ => ?_]
  simp only [row_word m hm w' rest hv hr r, decide_eq_true_eq, Function.comp]

theorem pInstrBody_cv : pInstrBody (w' ++ rest) = pInstrBody (m.toList ++ rest) := by
  rw [pInstrBody_word m hm w' rest hv hr,
    pInstrBody_word m hm m.toList rest (CaseVar.refl hv.2) hr]

end

end ArchSim.Lemmas.C04Spell
