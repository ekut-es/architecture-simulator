/-
The start of a run, and that the hypotheses of the refinement theorems are satisfiable: an uncached
instruction memory that holds the program is coherent, `ProgOK` is decidable on a listed program,
and a freshly initialised pipeline abstracts to its architectural state with nothing pending.
-/
import ArchSim.Lemmas.C02Prog

namespace ArchSim.Pipe
open ArchSim ArchSim.Rv ArchSim.Lemmas.C02Split

theorem fetchAll_nocache (im : IMem) (hc : im.cache = none) : ∀ pcs, fetchAll im pcs = im
  | [] => rfl
  | pc :: pcs => by rw [fetchAll, (fetch_uncached_frame im pc hc).1]; exact fetchAll_nocache im hc pcs

theorem ICoh_nocache (im : IMem) (hc : im.cache = none) (hl : im.prog.length ≤ 4096) : ICoh im := by
  intro pcs pc i hi
  rw [fetchAll_nocache im hc pcs] at hi ⊢
  rw [IMem.fetch_uncached hc hi (by have := IMem.instrAt_lt hi; omega)]
  exact ⟨rfl, rfl⟩

theorem ProgOK_of_all (im : IMem) (h : ∀ i, i ∈ im.prog → InstrOK i) : ProgOK im := by
  intro pc i hi
  exact h i (IMem.instrAt_some hi).2.2.2.2

/-- Decidable form of `InstrOK`. -/
def instrOKb (i : Instr) : Bool := (i.op != .ecall || i.rd == 0) && (i.op != .srai || decide (0 ≤ i.imm))

theorem InstrOK_of_b (i : Instr) (h : instrOKb i = true) : InstrOK i := by
  unfold instrOKb at h
  simp only [Bool.and_eq_true, Bool.or_eq_true, bne_iff_ne, ne_eq, beq_iff_eq, decide_eq_true_eq] at h
  exact ⟨fun ho => h.1.resolve_left (fun hn => hn ho), fun ho => h.2.resolve_left (fun hn => hn ho)⟩

theorem ProgOK_of_allb (im : IMem) (h : im.prog.all instrOKb = true) : ProgOK im :=
  ProgOK_of_all im (fun i hi => InstrOK_of_b i (List.all_eq_true.1 h i hi))

instance (n : Nat) (p : PSt) : Decidable (runOK n p) := by unfold runOK; infer_instance

theorem abs_init (st : St) (hz : Bool) : abs (PSt.init st hz) = st :=
  abs_of_drained _ ⟨rfl, rfl, rfl, rfl, rfl⟩

theorem absLog_init (st : St) (hz : Bool) : absLog (PSt.init st hz) = [] :=
  absLog_of_drained _ ⟨rfl, rfl, rfl, rfl, rfl⟩

theorem absF_init (st : St) (hz : Bool) : absF (PSt.init st hz) = none := by
  unfold absF; rw [absC_empty _ rfl rfl rfl rfl rfl]; rfl

theorem rawFree_init (st : St) (hp : ProgOK st.imem) (hc : ICoh st.imem) (n : Nat)
    (hr : runOK n (PSt.init st true)) : ∀ m, m < n → RawFree (pipeRun m (PSt.init st true)) :=
  rawFree_run_of_hazard _ (PInv_init st true hp hc) rfl n hr

end ArchSim.Pipe
