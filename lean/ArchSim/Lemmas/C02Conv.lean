/-
Termination and the final state. If the sequential machine halts (done or stuck at a fault) after `k` steps,
the pipeline is done or has faulted within `5 * (k + 2)` cycles; at the first done cycle of a fault-free run
the physical state is the sequential state at its first done step. For the converses: the first cycle at which
a run is done or raises (`first_event`, by `exists_least`; `first_true_eq` is for the users that compare the
first done index of two runs, `C11ProgPipe` and `Props.C03Prog`), and the converse for a run that ends without
fault (`loop_completes`).
-/
import ArchSim.Lemmas.C02Init

namespace ArchSim.Pipe
open ArchSim ArchSim.Rv

/-- The bound: every 5 cycles retire an instruction (`instrs_run_ge`), so `5 * (kstar + 2)` cycles of
    a pipeline that is not done retire `kstar + 2`, but the at most `kstar + 1` sequential steps they
    amount to retire at most `kstar + 1`. -/
theorem terminates_raw (st : St) (hzf : Bool) (hp : ProgOK st.imem) (hc : ICoh st.imem)
    (hraw : ∀ n, runOK n (PSt.init st hzf) → ∀ m, m < n → RawFree (pipeRun m (PSt.init st hzf)))
    (kstar : Nat)
    (hh : singleDone (seqRun kstar st) = true ∨ (seqFault (seqRun kstar st)).isSome = true) :
    ∃ N, N ≤ 5 * (kstar + 2) ∧
      (¬ runOK N (PSt.init st hzf) ∨ isDone (pipeRun N (PSt.init st hzf)) = true) := by
  have hI := PInv_init st hzf hp hc
  have ha : abs (PSt.init st hzf) = st := abs_init st hzf
  by_cases hr : runOK (5 * (kstar + 2)) (PSt.init st hzf)
  · by_cases hd : ∃ m, m ≤ 5 * (kstar + 2) ∧ isDone (pipeRun m (PSt.init st hzf)) = true
    · obtain ⟨m, hm, hdm⟩ := hd
      exact ⟨m, hm, Or.inr hdm⟩
    · exfalso
      have hnd : ∀ m, m ≤ 5 * (kstar + 2) → isDone (pipeRun m (PSt.init st hzf)) = false := by
        intro m hm
        cases hq : isDone (pipeRun m (PSt.init st hzf)) with
        | false => rfl
        | true => exact absurd ⟨m, hm, hq⟩ hd
      have h1 := instrs_run_ge _ hI _ hr (fun m hm => hnd m (Nat.le_of_lt hm))
      have hk := (fetches_bound _ hI kstar (by rw [ha]; exact hh) _ hr (hraw _ hr)
        (fun m hm => hnd m (Nat.le_of_lt hm))).1
      have h2 := abs_instrs_ge (pipeRun (5 * (kstar + 2)) (PSt.init st hzf))
      rw [(refine_fetches _ hI _ hr (hraw _ hr)).1.1.instrs, ha] at h2
      have h3 := seqRun_instrs_le st hc (fetches (5 * (kstar + 2)) (PSt.init st hzf))
      have h4 : (PSt.init st hzf).st.instrs = st.instrs := rfl
      omega
  · exact ⟨_, Nat.le_refl _, Or.inl hr⟩

theorem terminates_init (st : St) (hp : ProgOK st.imem) (hc : ICoh st.imem) (kstar : Nat)
    (hh : singleDone (seqRun kstar st) = true ∨ (seqFault (seqRun kstar st)).isSome = true) :
    ∃ N, N ≤ 5 * (kstar + 2) ∧
      (¬ runOK N (PSt.init st true) ∨ isDone (pipeRun N (PSt.init st true)) = true) :=
  terminates_raw st true hp hc (rawFree_init st hp hc) kstar hh

theorem final_state_raw (st : St) (hzf : Bool) (hp : ProgOK st.imem) (hc : ICoh st.imem)
    (hx : st.exitCode = none) (n : Nat) (hr : runOK n (PSt.init st hzf))
    (hraw : ∀ m, m < n → RawFree (pipeRun m (PSt.init st hzf)))
    (hd : isDone (pipeRun n (PSt.init st hzf)) = true)
    (hprev : ∀ m, m < n → isDone (pipeRun m (PSt.init st hzf)) = false) :
    ∃ k, k ≤ n ∧ SimP (pipeRun n (PSt.init st hzf)).st (seqRun k st) ∧ singleDone (seqRun k st) = true ∧
      (∀ j, j < k → singleDone (seqRun j st) = false) ∧
      retireLog n (PSt.init st hzf) = seqTrace k st ∧
      (∀ j, j < k → seqFault (seqRun j st) = none) := by
  have hI := PInv_init st hzf hp hc
  obtain ⟨hsim, hlog, -, hF, hfirst⟩ := refine_fetches _ hI n hr hraw
  have hfirst := hfirst hprev
  have hdr := drained_at_first_done _ hI hx n hr hd hprev
  -- nothing is in flight, so no fault is predicted: the last sequential step did not fault either
  have hnf : ∀ j, j < fetches n (PSt.init st hzf) → seqFault (seqRun j (abs (PSt.init st hzf))) = none := by
    intro j hj
    rw [hF j hj, show absF (pipeRun n (PSt.init st hzf)) = none by unfold absF; rw [absC_of_drained _ hdr]; rfl]
    exact ite_self _
  rw [abs_of_drained _ hdr, abs_init] at hsim
  rw [abs_init] at hfirst hnf
  rw [absLog_of_drained _ hdr, abs_init, absLog_init] at hlog
  exact ⟨_, fetches_le _ n, hsim, by rw [← singleDone_congr hsim]; exact singleDone_of_isDone _ hd, hfirst,
    by simpa using hlog, hnf⟩

theorem final_state_init (st : St) (hp : ProgOK st.imem) (hc : ICoh st.imem) (hx : st.exitCode = none)
    (n : Nat) (hr : runOK n (PSt.init st true)) (hd : isDone (pipeRun n (PSt.init st true)) = true)
    (hprev : ∀ m, m < n → isDone (pipeRun m (PSt.init st true)) = false) :
    ∃ k, k ≤ n ∧ SimP (pipeRun n (PSt.init st true)).st (seqRun k st) ∧ singleDone (seqRun k st) = true ∧
      (∀ j, j < k → singleDone (seqRun j st) = false) ∧
      retireLog n (PSt.init st true) = seqTrace k st ∧
      (∀ j, j < k → seqFault (seqRun j st) = none) :=
  final_state_raw st true hp hc hx n hr (rawFree_init st hp hc n hr) hd hprev

theorem exists_least (P : Nat → Prop) : ∀ k0, P k0 → ∃ k, k ≤ k0 ∧ P k ∧ ∀ j, j < k → ¬ P j := by
  intro k0
  induction k0 using Nat.strongRecOn with
  | _ k0 ih =>
    intro h
    by_cases hex : ∃ j, j < k0 ∧ P j
    · obtain ⟨j, hj, hp⟩ := hex
      obtain ⟨k, hk, hpk, hmin⟩ := ih j hj hp
      exact ⟨k, by omega, hpk, hmin⟩
    · exact ⟨k0, Nat.le_refl _, h, fun j hj hp => hex ⟨j, hj, hp⟩⟩

/-- The first true index of `f` and that of `g` coincide when the two agree up to the latter. -/
theorem first_true_eq {f g : Nat → Bool} {a b : Nat} (ha : f a = true) (hb : g b = true)
    (ha' : ∀ j, j < a → f j = false) (hb' : ∀ j, j < b → g j = false) (hfg : ∀ j, j ≤ b → f j = g j) : a = b := by
  rcases Nat.lt_trichotomy a b with h | h | h
  · have := hb' a h; rw [← hfg a (Nat.le_of_lt h), ha] at this; cases this
  · exact h
  · have := ha' b h; rw [hfg b (Nat.le_refl b), hb] at this; cases this

theorem first_event (p : PSt) (N : Nat) (h : ¬ runOK N p ∨ isDone (pipeRun N p) = true) :
    ∃ n, runOK n p ∧ (∀ m, m < n → isDone (pipeRun m p) = false) ∧
      (n ≤ N ∧ isDone (pipeRun n p) = true ∨ n < N ∧ ∃ ft, (step (pipeRun n p)).fault = some ft) := by
  obtain ⟨n0, h0⟩ : ∃ n0, n0 ≤ N ∧ isDone (pipeRun n0 p) = true ∨
      n0 < N ∧ ∃ ft, (step (pipeRun n0 p)).fault = some ft := by
    rcases h with h | h
    · obtain ⟨n0, h0⟩ := Classical.not_forall.1 h
      obtain ⟨hn, hf⟩ := Classical.not_imp.1 h0
      cases hq : (step (pipeRun n0 p)).fault with
      | none => exact absurd hq hf
      | some ft => exact ⟨n0, .inr ⟨hn, ft, hq⟩⟩
    · exact ⟨N, .inl ⟨Nat.le_refl N, h⟩⟩
  -- the least of the cycles at which this holds
  obtain ⟨n, _, hn, hmin⟩ := exists_least (fun n => n ≤ N ∧ isDone (pipeRun n p) = true ∨
    n < N ∧ ∃ ft, (step (pipeRun n p)).fault = some ft) n0 h0
  refine ⟨n, fun m hm => ?_, fun m hm => ?_, hn⟩
  · cases hf : (step (pipeRun m p)).fault with
    | none => rfl
    | some ft => exact absurd (.inr ⟨by omega, ft, hf⟩) (hmin m hm)
  · cases hd : isDone (pipeRun m p) with
    | false => rfl
    | true => exact absurd (.inl ⟨by omega, hd⟩) (hmin m hm)

theorem seqRun_stuck (s : St) (k : Nat) (h : (seqFault (seqRun k s)).isSome = true) :
    ∀ j, k ≤ j → seqRun j s = seqRun k s
  | 0, hj => by rw [Nat.le_zero.1 hj]
  | j + 1, hj => by
    rcases Nat.lt_or_ge j k with hlt | hge
    · rw [show k = j + 1 by omega]
    · show seqStep (seqRun j s) = _
      rw [seqRun_stuck s k h j hge, seqStep_stuck _ h]

theorem seqRun_stuck_eq (s : St) (k k' : Nat) (h : (seqFault (seqRun k s)).isSome = true)
    (h' : (seqFault (seqRun k' s)).isSome = true) : seqRun k s = seqRun k' s := by
  rcases Nat.le_total k k' with hle | hle
  · exact (seqRun_stuck s k h k' hle).symm
  · exact seqRun_stuck s k' h' k hle

theorem no_fault_before_done (st : St) (hp : ProgOK st.imem) (hc : ICoh st.imem) (kstar : Nat)
    (hd : singleDone (seqRun kstar st) = true)
    (hnf : ∀ j, j < kstar → seqFault (seqRun j st) = none)
    (n : Nat) (hr : runOK n (PSt.init st true))
    (hnd : ∀ m, m < n → isDone (pipeRun m (PSt.init st true)) = false) :
    (step (pipeRun n (PSt.init st true))).fault = none := by
  cases hft : (step (pipeRun n (PSt.init st true))).fault with
  | none => rfl
  | some ft =>
    exfalso
    have hI := PInv_init st true hp hc
    have hraw := rawFree_init st hp hc n hr
    -- the fault is that of the last sequential step made, `k`; that step was not done, so `k < kstar`
    obtain ⟨k, hlast, -, -, hs, -⟩ := fault_agrees_run_raw _ hI (absF_init st true) n hr hraw ft hft
    obtain ⟨-, -, -, -, hfirst⟩ := refine_fetches _ hI n hr hraw
    have hfirst := hfirst hnd
    rw [abs_init] at hs hfirst
    rcases Nat.lt_or_ge k kstar with hlt | hge
    · rw [hnf k hlt] at hs; cases hs
    · rw [hfirst kstar (by omega)] at hd; cases hd

theorem loop_completes (st : St) (hp : ProgOK st.imem) (hc : ICoh st.imem) (kstar : Nat)
    (hd : singleDone (seqRun kstar st) = true)
    (hnf : ∀ j, j < kstar → seqFault (seqRun j st) = none) :
    ∃ n, n ≤ 5 * (kstar + 2) ∧ runOK n (PSt.init st true) ∧
      isDone (pipeRun n (PSt.init st true)) = true ∧
      ∀ m, m < n → isDone (pipeRun m (PSt.init st true)) = false := by
  obtain ⟨N, hN, hor⟩ := terminates_init st hp hc kstar (Or.inl hd)
  obtain ⟨n, hr, hprev, ⟨hn, hdn⟩ | ⟨_, ft, hft⟩⟩ := first_event _ N hor
  · exact ⟨n, by omega, hr, hdn, hprev⟩
  · rw [no_fault_before_done st hp hc kstar hd hnf n hr hprev] at hft; cases hft

end ArchSim.Pipe
