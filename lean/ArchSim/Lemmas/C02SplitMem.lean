/-
C02 (data path): the families that can fault — loads, stores, ecall — over any memory system satisfying `LoadOK` at the
load address and `WriteAlias` (the split path stores at the unwrapped sum, the memory takes it modulo 2^32), with the
instances for the flat and the cached memory.
-/
import ArchSim.Lemmas.C02SplitFamilies
import ArchSim.Lemmas.C18Read

namespace ArchSim.Lemmas.C02Split
open ArchSim ArchSim.Rv ArchSim.Pipe

/-- The Python int `memory_access` returns for a load of the raw value `v`. -/
def loadInt (op : Op) (v : Nat) : Int :=
  match op with
  | .lb => sextBits 8 v
  | .lh => sextBits 16 v
  | _ => (v : Int)

theorem wrapU_loadInt (op : Op) (v : Nat) (hv : v < 4294967296) : wrapU (loadInt op v) = loadExt op v := by
  by_cases h8 : op = .lb
  · rw [h8]; rfl
  by_cases h16 : op = .lh
  · rw [h16]; rfl
  -- every other op loads the raw value, a `UInt32` already
  have e1 : loadInt op v = v := by unfold loadInt; split <;> first | contradiction | rfl
  have e2 : loadExt op v = v := by unfold loadExt; split <;> first | contradiction | rfl
  rw [e1, e2, wrapU_natCast v hv]

/-- What a load needs from the memory system at its address `A`: a successful counted read returns a
    `UInt32`, and the uncounted re-read that single-cycle mode performs for the visualisation returns
    the same value and changes nothing (true of the flat memory, `loadOK_flat`; for a cached memory
    this is re-read neutrality, C09). -/
def LoadOK (ms : MemSys) (bits : Nat) (A : Int) : Prop :=
  ∀ v, (ms.read bits A true).res = .ok v →
    v < 4294967296 ∧
    (ms.read bits A true).mem.read bits A false =
      { mem := (ms.read bits A true).mem, res := .ok v, extra := 0 }

/-- What a store needs from the memory system: addresses are taken modulo 2^32. -/
def WriteAlias (ms : MemSys) : Prop :=
  ∀ (bits : Nat) (a k : Int) (v : Nat) (d : Bool),
    ms.write bits (a + k * 4294967296) v d = ms.write bits a v d

theorem memoryAccess_load_ok (i : Instr) (hty : i.op.ty = .memI) (a : Int) (w : Option Int) (ms : MemSys)
    (c : Bool) (v : Nat) (hr : (ms.read (accessBits i.op) a c).res = .ok v) :
    memoryAccess i (some a) w ms c =
      some { mem := (ms.read (accessBits i.op) a c).mem, extra := (ms.read (accessBits i.op) a c).extra,
             res := .ok (some (loadInt i.op v)) } := by
  unfold memoryAccess
  simp only [hty, hr]
  rfl

theorem memoryAccess_load_err (i : Instr) (hty : i.op.ty = .memI) (a : Int) (w : Option Int) (ms : MemSys)
    (c : Bool) (e : Cache.Err) (hr : (ms.read (accessBits i.op) a c).res = .error e) :
    memoryAccess i (some a) w ms c =
      some { mem := (ms.read (accessBits i.op) a c).mem, extra := (ms.read (accessBits i.op) a c).extra,
             res := .error e } := by
  unfold memoryAccess
  simp only [hty, hr]

theorem loadOK_flat (m : Mem.Mem) (bits : Nat) (hb : bits ≤ 32) (A : Int) : LoadOK (.flat m) bits A := by
  intro v hv
  rw [read_flat_eq_flatRead] at hv ⊢
  simp only at hv
  refine ⟨Nat.lt_of_lt_of_le (flatRead_lt m bits A v hv) (Nat.pow_le_pow_right (by decide) hb), ?_⟩
  rw [read_flat_eq_flatRead, hv]

/-- Where the re-read is neutral (`LoadOK`) the part of `singleStep` after the fetch treats a load like every other
    instruction (`singleTail_nonLoad`): it reports the fault of `behavior`, or advances the pc. -/
theorem singleTail_loadOK (i : Instr) (s : St)
    (h : i.op.ty = .memI → s.regs i.rs1 < 4294967296 ∧
      LoadOK s.mem (accessBits i.op) ((s.regs i.rs1 : Int) + i.imm)) :
    singleTail i s =
      match (behavior i s).fault with
      | some ft => { st := (behavior i s).st, fault := some (s.pc, ft) }
      | none => { st := { (behavior i s).st with pc := ((behavior i s).st.pc + 4) % 4294967296 },
                  fault := none } := by
  by_cases hty : i.op.ty = .memI
  · obtain ⟨hr1, hl⟩ := h hty
    cases hr : (s.mem.read (accessBits i.op) ((s.regs i.rs1 : Int) + i.imm) true).res with
    | error e => simp only [singleTail, behavior_memI i s hty, hr]
    | ok v =>
      have hre := (hl v hr).2
      -- the uncounted re-read, at `UInt32(regs[rs1]) + imm`
      have hma := memoryAccess_load_ok i hty ((s.regs i.rs1 : Int) + i.imm) none
        (s.mem.read (accessBits i.op) ((s.regs i.rs1 : Int) + i.imm) true).mem false v (by rw [hre])
      rw [hre] at hma
      simp [singleTail, behavior_memI i s hty, hty, hr, accessRegs, wrapU_natCast _ hr1, hma, St.setReg]
  · exact singleTail_nonLoad i s hty

theorem agree_load (i : Instr) (t : St) (a : Int) (hty : i.op.ty = .memI)
    (hregs : ∀ r, t.regs r < 4294967296)
    (hl : LoadOK t.mem (accessBits i.op) ((t.regs i.rs1 : Int) + i.imm))
    (h0 : 0 ≤ a) (h1 : a + 4 < 4294967296) :
    AgreesAt i t a := by
  unfold AgreesAt
  have he : i.op ≠ .ecall := ne_of_ty_ne (by rw [hty]; decide)
  have hwa := wrapU_natCast _ (hregs i.rs1)
  have halu : aluCompute i (aluIn1 (dAt i a t.regs)) (aluIn2 (dAt i a t.regs)) =
      some (none, some ((t.regs i.rs1 : Int) + i.imm)) := by
    simp only [dAt, aluCompute, aluIn1, aluIn2, ctlOf, accessRegs, hty, hwa, if_true]
  rw [singleTail_loadOK i (sAt t a) (fun _ => ⟨hregs i.rs1, hl⟩)]
  cases hr : (t.mem.read (accessBits i.op) ((t.regs i.rs1 : Int) + i.imm) true).res with
  | error e =>
    rw [completeIDEX_nonEcall (dAt i a t.regs) t none _ he halu, completeEXMEM_err (exBase (dAt i a t.regs) none _) t _ e
      (memoryAccess_load_err i hty _ (dAt i a t.regs).rr.d2 t.mem true e hr) rfl]
    simp [behavior_memI i _ hty, sAt, hr, AgreeAt, memSt, dAt, exBase]
  | ok v =>
    have hwb : wbRegs (memLatch (exBase (dAt i a t.regs) none (some ((t.regs i.rs1 : Int) + i.imm)))
        (some (loadInt i.op v))) t.regs = setReg t.regs i.rd (loadExt i.op v) := by
      simp only [wbRegs, wbData, memLatch, exBase, dAt, ctlOf, hty, writeReg, writeBack,
        wrapU_loadInt i.op v (hl v hr).1]
      rfl
    rw [completeIDEX_nonEcall (dAt i a t.regs) t none _ he halu, completeEXMEM_seq (exBase (dAt i a t.regs) none _) t _ _
      (memoryAccess_load_ok i hty _ (dAt i a t.regs).rr.d2 t.mem true v hr) rfl
      (by simp only [memFlush, exBase, dAt, ctlOf, hty]; rfl) rfl rfl, hwb]
    refine AgreeAt.seq ?_ ?_ ?_ ?_ <;> simp [behavior_memI i _ hty, sAt, hr, memSt, St.setReg]
    omega

/-- C18's wrap alias: a store at `a + k * 2^32` is the store at `a` (same memory afterwards, same
    error). -/
theorem mem_write_alias (m : Mem.Mem) (hov : m.cfg.overflow = true) (hab : m.cfg.addrBits = 32)
    (bits : Nat) (a k : Int) (v : Nat) :
    Mem.write m bits (a + k * 4294967296) v = Mem.write m bits a v := by
  have h := ArchSim.Lemmas.C18.writeNFrom_alias m hov a k (Mem.cellsOf m.cfg bits) 0 v
  rw [hab] at h
  have h32 : ((2 : Int) ^ 32) = 4294967296 := by decide
  rw [h32] at h
  simp only [Mem.write, Mem.writeN, h]

theorem writeAlias_flat (m : Mem.Mem) (hov : m.cfg.overflow = true) (hab : m.cfg.addrBits = 32) :
    WriteAlias (.flat m) :=
  fun bits a k v d => by simp only [MemSys.write, mem_write_alias m hov hab]

theorem store_val (n k : Nat) : (((n % 2 ^ k : Nat) : Int) % (2 : Int) ^ k).toNat = n % 2 ^ k := by
  have h : ((2 : Int) ^ k) = ((2 ^ k : Nat) : Int) := by simp
  have hlt : ((n % 2 ^ k : Nat) : Int) < ((2 ^ k : Nat) : Int) :=
    Int.ofNat_lt.mpr (Nat.mod_lt _ (Nat.two_pow_pos k))
  rw [h, Int.emod_eq_of_lt (Int.natCast_nonneg _) hlt, Int.toNat_natCast]

theorem memoryAccess_store (i : Instr) (hty : i.op.ty = .s) (a w : Int) (ms : MemSys) :
    memoryAccess i (some a) (some w) ms true =
      some { mem := (ms.write (accessBits i.op) a ((w % (2 : Int) ^ accessBits i.op).toNat) false).mem,
             extra := (ms.write (accessBits i.op) a ((w % (2 : Int) ^ accessBits i.op).toNat) false).extra,
             res := match (ms.write (accessBits i.op) a ((w % (2 : Int) ^ accessBits i.op).toNat) false).res with
               | .error e => .error e
               | .ok _ => .ok none } := by
  unfold memoryAccess
  simp only [hty, Bool.not_true]
  rfl

theorem agree_store (i : Instr) (t : St) (a : Int) (hty : i.op.ty = .s) (hwal : WriteAlias t.mem)
    (h0 : 0 ≤ a) (h1 : a + 4 < 4294967296) :
    AgreesAt i t a := by
  unfold AgreesAt
  have he : i.op ≠ .ecall := ne_of_ty_ne (by rw [hty]; decide)
  have hm1 : i.op.ty ≠ .memI := by rw [hty]; decide
  obtain ⟨k, hk⟩ := store_alias (t.regs i.rs1) i.imm
  have halu : aluCompute i (aluIn1 (dAt i a t.regs)) (aluIn2 (dAt i a t.regs)) =
      some (none, some ((t.regs i.rs1 : Int) + i.imm)) := by
    simp only [dAt, aluCompute, aluIn1, aluIn2, ctlOf, accessRegs, hty, if_true]
  have hd2 : (dAt i a t.regs).rr.d2 = some ((t.regs i.rs2 % 2 ^ accessBits i.op : Nat) : Int) := by
    simp only [dAt, accessRegs, hty]
  -- the store of the split path, at the unwrapped sum, is the store `behavior()` performs at its wrap
  have hma := memoryAccess_store i hty ((t.regs i.rs1 : Int) + i.imm)
    ((t.regs i.rs2 % 2 ^ accessBits i.op : Nat) : Int) t.mem
  have hw : t.mem.write (accessBits i.op) ((t.regs i.rs1 : Int) + i.imm)
        ((((t.regs i.rs2 % 2 ^ accessBits i.op : Nat) : Int) % (2 : Int) ^ accessBits i.op).toNat) false =
      t.mem.write (accessBits i.op) ((t.regs i.rs1 + wrapU i.imm) % 4294967296 : Nat)
        (t.regs i.rs2 % 2 ^ accessBits i.op) false := by
    rw [store_val, hk, hwal]
  rw [hw, ← hd2] at hma
  have hbeh : ∀ W, W = t.mem.write (accessBits i.op) ((t.regs i.rs1 + wrapU i.imm) % 4294967296 : Nat)
        (t.regs i.rs2 % 2 ^ accessBits i.op) false →
      behavior i (sAt t a) = match W.res with
        | .error e => { st := { sAt t a with mem := W.mem, cycles := t.cycles + W.extra }, fault := some (.mem e) }
        | .ok _ => { st := { sAt t a with mem := W.mem, cycles := t.cycles + W.extra }, fault := none } := by
    rintro _ rfl
    rw [behavior_s i _ hty]; rfl
  generalize hW : t.mem.write (accessBits i.op) ((t.regs i.rs1 + wrapU i.imm) % 4294967296 : Nat)
    (t.regs i.rs2 % 2 ^ accessBits i.op) false = W at hma
  rw [singleTail_nonLoad i _ hm1, hbeh W hW.symm, completeIDEX_nonEcall (dAt i a t.regs) t none _ he halu]
  cases hr : W.res with
  | error e =>
    rw [completeEXMEM_err (exBase (dAt i a t.regs) none _) t _ e hma (by simp only [hr])]
    simp only []
    refine ⟨rfl, fun h => ?_, fun _ => rfl⟩
    cases h
  | ok x =>
    have hwb : wbRegs (memLatch (exBase (dAt i a t.regs) none (some ((t.regs i.rs1 : Int) + i.imm))) none) t.regs =
        t.regs := by
      simp only [wbRegs, memLatch, exBase, dAt, writeBack, hty]; rfl
    rw [completeEXMEM_seq (exBase (dAt i a t.regs) none _) t _ none hma (by simp only [hr])
      (by simp only [memFlush, exBase, dAt, ctlOf, hty]; rfl) rfl rfl, hwb]
    exact AgreeAt.seq rfl rfl rfl (pc4_wrap a h0 h1)

/-! ### `WriteAlias` for a cached data memory over a wrapping lower memory -/

section
open ArchSim.Cache

theorem wrap32_alias (a k : Int) : wrap32 (a + k * 4294967296) = wrap32 a := by
  unfold wrap32; rw [Int.add_mul_emod_self_right]

theorem decode_alias (ib bb : Nat) (a k : Int) : decode ib bb (a + k * 4294967296) = decode ib bb a := by
  simp only [decode, wrap32_alias]

theorem writeWT_alias {σ : Type} (P : PolicyOps σ) (s : DSys σ) (hov : s.mem.cfg.overflow = true)
    (hab : s.mem.cfg.addrBits = 32) (bits : Nat) (a k : Int) (v : Nat) :
    s.writeWT P bits (a + k * 4294967296) v = s.writeWT P bits a v := by
  simp only [DSys.writeWT, decode_alias]
  cases readBlock P s.sets (decode s.geo.idxBits s.geo.blkBits a) with
  | error e => rfl
  | ok r =>
    obtain ⟨sets1, cached⟩ := r
    cases cached with
    | none =>
      simp only []
      cases laneErr bits (decode s.geo.idxBits s.geo.blkBits a) with
      | some e => rfl
      | none => simp only [mem_write_alias s.mem hov hab]
    | some block =>
      simp only []
      cases intoBlock bits (decode s.geo.idxBits s.geo.blkBits a) block v with
      | error e => rfl
      | ok block' =>
        simp only []
        cases writeBlock P sets1 (decode s.geo.idxBits s.geo.blkBits a) block' with
        | error e => rfl
        | ok r2 => simp only [mem_write_alias s.mem hov hab]

theorem writeAlias_cached (l : Bool) (ds : DSys Repl.Pol) (hov : ds.mem.cfg.overflow = true)
    (hab : ds.mem.cfg.addrBits = 32) : WriteAlias (.cached l ds) := by
  intro bits a k v d
  simp only [MemSys.write, DSys.write, DSys.writeDirect, DSys.writeWB, decode_alias,
    writeWT_alias _ ds hov hab, mem_write_alias ds.mem hov hab]
end

/-- ecall: EX runs `process_ecall` (nothing is in flight); output appended in EX; an exit code travels
    to WB, which sets `exit_code`, and the flush target is `pc + 4`; invalid codes and print-string
    memory errors raise in EX with the fault `behavior()` raises; WB writes `UInt32(0)` to register 0. -/
theorem agree_ecall (i : Instr) (t : St) (a : Int) (hop : i.op = .ecall) (hrd : i.rd = 0)
    (h0 : 0 ≤ a) (h1 : a + 4 < 4294967296) :
    AgreesAt i t a := by
  unfold AgreesAt
  have hty : i.op.ty = .i := by rw [hop]; rfl
  have hj : i.op ≠ .jalr := by rw [hop]; decide
  have hm1 : i.op.ty ≠ .memI := by rw [hty]; decide
  have hm2 : i.op.ty ≠ .s := by rw [hty]; decide
  -- WB writes `UInt32(0)` to register 0
  have hwb : wbRegs (memLatch (exBase (dAt i a t.regs) none (some 0)) none) t.regs = t.regs := by
    simp only [wbRegs, wbData, memLatch, exBase, dAt, ctlOf, hty, hj, if_false, writeReg, writeBack, hrd]
    exact setReg_write_zero _ _
  -- `behavior()` runs the service on a state with the same registers and memory
  rw [singleTail_nonLoad i _ hm1, behavior_ecall i _ hop, processEcall_congr (sAt t a) t rfl rfl]
  simp only [completeIDEX, exStage_ecall_run t (dAt i a t.regs) none none hop (ecallMustWait_none _), ecallRun]
  cases processEcall t with
  | mk m r =>
    cases r with
    | out str =>
      simp only []
      rw [completeEXMEM_seq (exBase (dAt i a t.regs) none (some 0)) _ _ none
        (memoryAccess_other _ hm1 hm2 _ _ _ _) rfl
        (by simp only [memFlush, exBase, dAt, ctlOf, hop, reduceCtorEq, if_false]; rfl) rfl rfl,
        hwb]
      exact AgreeAt.seq rfl rfl rfl (pc4_wrap a h0 h1)
    | exit c =>
      simp only []
      rw [completeEXMEM_ok
        { exBase (dAt i a t.regs) none (some 0) with exitCode := some c, flush := some (dAt i a t.regs).pc4 }
        _ _ none (memoryAccess_other _ hm1 hm2 _ _ _ _) rfl]
      refine AgreeAt.jump rfl rfl ?_
      simp [sAt, memSt, dAt, hrd, setReg_write_zero, hty, hj, show i.op ≠ .jal by rw [hop]; decide, applyTarget, wbSt, wbRegs,
        wbData, memLatch, memCount,
        memFlush, exBase, ctlOf, writeReg, writeBack, wbLatch, firstFlush]
    | err e => simp only []; refine ⟨rfl, fun h => ?_, fun _ => rfl⟩; cases h
    | invalid c => simp only []; refine ⟨rfl, fun h => ?_, fun _ => rfl⟩; cases h

end ArchSim.Lemmas.C02Split
