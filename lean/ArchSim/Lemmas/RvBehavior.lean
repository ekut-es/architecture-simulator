/-
`Rv.behavior` as equations, one per instruction type (type `i` by mnemonic): every fact about one family of
instructions starts from its equation.  Then what `behavior` leaves alone for every instruction and state, and what an
instruction that is neither a load, a store nor an `ecall` does not even read.
-/
import ArchSim.Lemmas.RvBits

namespace ArchSim.Rv

/-! ### `behavior`, instruction type by instruction type: the right side is the arm of the model's `match` -/

theorem behavior_r (i : Instr) (s : St) (hty : i.op.ty = .r) :
    behavior i s = { st := s.setReg i.rd (aluRR i.op (s.regs i.rs1) (s.regs i.rs2)), fault := none } := by
  simp only [behavior, hty]

theorem behavior_shiftI (i : Instr) (s : St) (hty : i.op.ty = .shiftI) :
    behavior i s = { st := s.setReg i.rd (aluRI i.op (s.regs i.rs1) i.imm), fault := none } := by
  simp only [behavior, hty]

theorem behavior_memI (i : Instr) (s : St) (hty : i.op.ty = .memI) :
    behavior i s =
      (let o := s.mem.read (accessBits i.op) ((s.regs i.rs1 : Int) + i.imm) true
       let s1 : St := { s with mem := o.mem, cycles := s.cycles + o.extra }
       match o.res with
       | .error e => { st := s1, fault := some (.mem e) }
       | .ok v => { st := s1.setReg i.rd (loadExt i.op v), fault := none }) := by
  simp only [behavior, hty]
  rfl

theorem behavior_s (i : Instr) (s : St) (hty : i.op.ty = .s) :
    behavior i s =
      (let addr : Int := ((s.regs i.rs1 + wrapU i.imm) % 4294967296 : Nat)
       let o := s.mem.write (accessBits i.op) addr (s.regs i.rs2 % 2 ^ accessBits i.op) false
       let s1 : St := { s with mem := o.mem, cycles := s.cycles + o.extra }
       match o.res with
       | .error e => { st := s1, fault := some (.mem e) }
       | .ok _ => { st := s1, fault := none }) := by
  simp only [behavior, hty]
  rfl

theorem behavior_b (i : Instr) (s : St) (hty : i.op.ty = .b) :
    behavior i s =
      if branchCond i.op (s.regs i.rs1) (s.regs i.rs2) then
        { st := { s with pc := s.pc + (i.imm - 4), branches := s.branches + 1 }, fault := none }
      else { st := s, fault := none } := by
  simp only [behavior, hty]

theorem behavior_u (i : Instr) (s : St) (hty : i.op.ty = .u) :
    behavior i s =
      if i.op = .lui then { st := s.setReg i.rd (wrapU (i.imm * 4096)), fault := none }
      else { st := s.setReg i.rd (wrapU (s.pc + i.imm * 4096)), fault := none } := by
  simp only [behavior, hty]

theorem behavior_j (i : Instr) (s : St) (hty : i.op.ty = .j) :
    behavior i s =
      { st := { s.setReg i.rd (wrapU (s.pc + 4)) with pc := s.pc + (i.imm - 4), procs := s.procs + 1 },
        fault := none } := by
  simp only [behavior, hty]
  rfl

theorem behavior_jalr (i : Instr) (s : St) (hop : i.op = .jalr) :
    behavior i s =
      (let t := wrapU (toS (s.regs i.rs1) + sextBits 16 (wrapU i.imm))
       { st := { s.setReg i.rd (wrapU (s.pc + 4)) with pc := ((t - t % 2 : Nat) : Int) - 4 }, fault := none }) := by
  simp only [behavior, hop, Op.ty, if_true]

theorem behavior_ecall (i : Instr) (s : St) (hop : i.op = .ecall) :
    behavior i s = match processEcall s with
      | (m, .out str) => { st := { s with mem := m, output := s.output ++ str }, fault := none }
      | (m, .exit c) => { st := { s with mem := m, exitCode := some c }, fault := none }
      | (m, .err e) => { st := { s with mem := m }, fault := some (.mem e) }
      | (m, .invalid c) => { st := { s with mem := m }, fault := some (.ecallCode c) } := by
  simp only [behavior, hop, Op.ty]
  rfl

theorem behavior_ebreak (i : Instr) (s : St) (hop : i.op = .ebreak) :
    behavior i s = { st := s, fault := some .notImplemented } := by
  simp only [behavior, hop, Op.ty]
  rfl

theorem behavior_i (i : Instr) (s : St) (hty : i.op.ty = .i) (h1 : i.op ≠ .jalr) (h2 : i.op ≠ .ecall)
    (h3 : i.op ≠ .ebreak) :
    behavior i s = { st := s.setReg i.rd (aluRI i.op (s.regs i.rs1) i.imm), fault := none } := by
  simp only [behavior, hty, h1, h2, h3, if_false]

theorem behavior_fence (i : Instr) (s : St) (hty : i.op.ty = .fence) :
    behavior i s = { st := s, fault := some .notImplemented } := by
  simp only [behavior, hty]

theorem behavior_csr (i : Instr) (s : St) (hty : i.op.ty = .csr ∨ i.op.ty = .csri) :
    behavior i s = { st := s, fault := some .unmodelled } := by
  rcases hty with hty | hty <;> simp only [behavior, hty]

/-! ### facts about `behavior` that hold for every state (any memory system, any instruction) -/

theorem behavior_frame (i : Instr) (s : St) :
    (behavior i s).st.imem = s.imem ∧ (behavior i s).st.regs 0 = s.regs 0 ∧
      (∀ f, (behavior i s).fault = some f →
        (behavior i s).st = { s with mem := (behavior i s).st.mem, cycles := (behavior i s).st.cycles }) ∧
      (i.op ≠ .ecall → (behavior i s).st.exitCode = s.exitCode) ∧
      (behavior i s).st.instrs = s.instrs := by
  unfold behavior
  simp only []
  repeat' split
  all_goals refine ⟨rfl, ?_, fun f h => ?_, fun h => ?_, rfl⟩
  all_goals first | rfl | cases h | exact absurd ‹i.op = Op.ecall› h | simp only [St.setReg, setReg_read_zero]

theorem behavior_imem (i : Instr) (s : St) : (behavior i s).st.imem = s.imem := (behavior_frame i s).1

theorem behavior_regs0 (i : Instr) (s : St) : (behavior i s).st.regs 0 = s.regs 0 := (behavior_frame i s).2.1

theorem behavior_fault_st {i : Instr} {s : St} {f : Fault} (h : (behavior i s).fault = some f) :
    (behavior i s).st = { s with mem := (behavior i s).st.mem, cycles := (behavior i s).st.cycles } :=
  (behavior_frame i s).2.2.1 f h

theorem behavior_exitCode {i : Instr} (s : St) (h : i.op ≠ .ecall) : (behavior i s).st.exitCode = s.exitCode :=
  (behavior_frame i s).2.2.2.1 h

theorem behavior_instrs (i : Instr) (s : St) : (behavior i s).st.instrs = s.instrs := (behavior_frame i s).2.2.2.2

theorem behavior_memI_pc (i : Instr) (s : St) (hty : i.op.ty = .memI) : (behavior i s).st.pc = s.pc := by
  rw [behavior_memI i s hty]
  dsimp only
  split <;> rfl

theorem behavior_load_mem (i : Instr) (s : St) (hty : i.op.ty = .memI) :
    (behavior i s).st.mem = (s.mem.read (accessBits i.op) ((s.regs i.rs1 : Int) + i.imm) true).mem := by
  rw [behavior_memI i s hty]
  dsimp only
  split <;> rfl

theorem behavior_nonmem (i : Instr) (s : St) (mf : MemSys) (c st fl : Nat)
    (h1 : i.op.ty ≠ .memI) (h2 : i.op.ty ≠ .s) (h3 : i.op ≠ .ecall) :
    behavior i { s with mem := mf, cycles := c, stalls := st, flushes := fl } =
      { st := { (behavior i s).st with mem := mf, cycles := c, stalls := st, flushes := fl },
        fault := (behavior i s).fault } := by
  cases hty : i.op.ty
  case memI => exact absurd hty h1
  case s => exact absurd hty h2
  case r => simp only [behavior_r i _ hty]; rfl
  case shiftI => simp only [behavior_shiftI i _ hty]; rfl
  case b => simp only [behavior_b i _ hty]; split <;> rfl
  case u => simp only [behavior_u i _ hty]; split <;> rfl
  case j => simp only [behavior_j i _ hty]; rfl
  case fence => simp only [behavior_fence i _ hty]
  case csr => simp only [behavior_csr i _ (.inl hty)]
  case csri => simp only [behavior_csr i _ (.inr hty)]
  case i =>
    by_cases hj : i.op = .jalr
    · simp only [behavior_jalr i _ hj]; rfl
    by_cases hb : i.op = .ebreak
    · simp only [behavior_ebreak i _ hb]
    · simp only [behavior_i i _ hty hj h3 hb]; rfl

theorem behavior_nonmem_mem (i : Instr) (s : St)
    (h1 : i.op.ty ≠ .memI) (h2 : i.op.ty ≠ .s) (h3 : i.op ≠ .ecall) : (behavior i s).st.mem = s.mem :=
  congrArg (·.st.mem) (behavior_nonmem i s s.mem s.cycles s.stalls s.flushes h1 h2 h3)

end ArchSim.Rv
