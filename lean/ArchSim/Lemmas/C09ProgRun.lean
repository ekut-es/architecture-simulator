/-
C09 at program level, steps and runs on a cached data memory.  `StepHyp` is an invariant of single-cycle states that
every fault-free step keeps; on such states one step of the sequential reference machine of the pipeline proof IS the
single-cycle step, so fault-free runs coincide and the five-stage pipeline ends with the data memory system
single-cycle mode leaves.  The access counter counts one per executed load or store; the display re-read is not counted.
-/
import ArchSim.Lemmas.C09ProgStep
import ArchSim.Lemmas.C11ProgPipe
import ArchSim.Lemmas.SeqSingle

namespace ArchSim.Lemmas.C09Prog
open ArchSim ArchSim.Cache ArchSim.Rv ArchSim.Repl ArchSim.Pipe
open ArchSim.Spec.TagCache (Accepted)
open ArchSim.Spec.CacheAbs (widthOK)
open ArchSim.Lemmas.C02Split ArchSim.Lemmas.C11 ArchSim.Lemmas.C11Prog

/-- Every instruction of the program is a well-formed supported instruction object (a predicate on
    the instruction memory; the length bound of `C03Prog.ProgWF` is the field `fits` of `StepHyp`). -/
def ProgWF (im : IMem) : Prop := ∀ i, i ∈ im.prog → i.WF

/-- An invariant of the STATE (not a hypothesis about one step): no instruction cache, a program that fits
    and is well formed, `RunInv`.  Every fault-free single-cycle step keeps it (`singleStep_hyp`). -/
structure StepHyp (s : St) : Prop where
  nocache : s.imem.cache = none
  fits : s.imem.prog.length ≤ 4096
  wf : ProgWF s.imem
  inv : RunInv s

theorem StepHyp.icoh {s : St} (h : StepHyp s) : ICoh s.imem := ICoh_nocache _ h.nocache h.fits

theorem memOK_of_runinv (i : Instr) (s : St) (h : RunInv s) : MemOK i s := by
  obtain ⟨l, ds, hm, hok⟩ := h.mem
  exact memOK_of_dok hok i s hm

theorem step_agree (s : St) (h : StepHyp s) : AgreeStep s :=
  agreeStep_of_memOK s h.nocache h.fits h.wf h.inv.regs (fun i _ => memOK_of_runinv i s h.inv)

theorem singleStep_hyp (s : St) (h : StepHyp s) (hf : (singleStep s).fault = none) :
    StepHyp (singleStep s).st := by
  have him := singleStep_imem_nocache s h.nocache
  refine ⟨by rw [him]; exact h.nocache, by rw [him]; exact h.fits, by rw [him]; exact h.wf, ?_⟩
  cases hi : s.imem.instrAt s.pc with
  | none => rw [singleStep_nofetch s hi]; exact h.inv.of_eq rfl rfl
  | some i =>
    have hs := h.icoh.fetchSound
    rw [singleStep_fetched s hi (hs _ _ hi).1] at hf ⊢
    exact singleTail_runinv i _ (h.inv.of_eq rfl rfl) hf

/-- The first `n` single-cycle steps from `s` do not fault. -/
def SingleOK (n : Nat) (s : St) : Prop := ∀ j, j < n → (singleStep (singleRun j s)).fault = none

theorem StepHyp_run (s : St) (h : StepHyp s) : ∀ n, SingleOK n s → StepHyp (singleRun n s)
  | 0, _ => h
  | n + 1, hok => by
    rw [singleRun_succ']
    exact singleStep_hyp _ (StepHyp_run s h n (fun j hj => hok j (Nat.lt_succ_of_lt hj)))
      (hok n (Nat.lt_succ_self n))

theorem seq_is_single (s : St) (h : StepHyp s) (n : Nat) (hn : ∀ j, j < n → seqFault (seqRun j s) = none) :
    (∀ j, j ≤ n → seqRun j s = singleRun j s) ∧ SingleOK n s := by
  obtain ⟨e, f⟩ := seqRun_follows singleRun (fun _ => rfl) (fun n s => singleRun_succ' n s) s n
    (fun j _ hj => step_agree _ (StepHyp_run s h j hj)) (fun j hj => .inl (hn j hj))
  exact ⟨e, fun j hj => (f j hj).1⟩

/-- `s`: a state without instruction cache satisfying `StepHyp`; `tp`, `ts`: the initial
    states of the five-stage and of a single-cycle run, each equal to `s` up to the instruction
    memory system (any coherent one) and the cycle counter. A fault-free five-stage run to
    completion ends, up to `SimP`, in the state single-cycle mode reaches after `k` fault-free
    steps, `k` being the step at which the single-cycle loop stops; `k` does not depend on `ts`. -/
theorem modes_agree {s tp : St} (h : StepHyp s) (hx : s.exitCode = none)
    (hep : EqC s tp) (hpp : s.imem.prog = tp.imem.prog) (hcp : ICoh tp.imem)
    (n : Nat) (hr : runOK n (PSt.init tp true)) (hd : isDone (pipeRun n (PSt.init tp true)) = true)
    (hprev : ∀ m, m < n → isDone (pipeRun m (PSt.init tp true)) = false) :
    ∃ k, k ≤ n ∧ retireLog n (PSt.init tp true) = seqTrace k s ∧
      ∀ ts, EqC s ts → s.imem.prog = ts.imem.prog → ICoh ts.imem →
        SimP (pipeRun n (PSt.init tp true)).st (singleRun k ts) ∧ SingleOK k ts ∧
        singleDone (singleRun k ts) = true ∧ ∀ j, j < k → singleDone (singleRun j ts) = false := by
  have hc := h.icoh
  have hxp : tp.exitCode = none := by rw [← hep.exitCode]; exact hx
  obtain ⟨k, hk, hsim, hdone, hnd, hlog, hnf⟩ :=
    final_state_init tp (ProgOK_congr hpp (progOK_of_wf h.wf)) hcp hxp n hr hd hprev
  have hsp := simP_of_eqC hep hpp
  have hrun := seqRun_simP hsp hc hcp
  have hdone' : singleDone (seqRun k s) = true := by rw [singleDone_congr (hrun k)]; exact hdone
  have hnd' : ∀ j, j < k → singleDone (seqRun j s) = false := by
    intro j hj; rw [singleDone_congr (hrun j)]; exact hnd j hj
  obtain ⟨hseq, hok⟩ := seq_is_single s h k (fun j hj => (seqFault_run_congr hsp hc hcp j).trans (hnf j hj))
  refine ⟨k, hk, by rw [hlog, seqTrace_congr hsp hc hcp k], fun ts hes hps hcs => ?_⟩
  have hsr := fun j => singleRun_eqC j hes hps hc hcs
  refine ⟨?_, fun j hj => ?_, ?_, fun j hj => ?_⟩
  · refine hsim.trans ((hrun k).symm.trans ?_)
    rw [hseq k (Nat.le_refl k)]
    exact simP_of_eqC (hsr k).1 (hsr k).2
  · rw [← (singleStep_eqC (hsr j).1 (hsr j).2 (ICoh_singleRun j s hc).fetchSound
      (ICoh_singleRun j ts hcs).fetchSound).1]
    exact hok j hj
  · rw [← singleDone_eqC (hsr k).1 (hsr k).2, ← hseq k (Nat.le_refl k)]; exact hdone'
  · rw [← singleDone_eqC (hsr j).1 (hsr j).2, ← hseq j (Nat.le_of_lt hj)]; exact hnd' j hj

/-! ### What the access counter counts -/

theorem singleTail_dAcc (i : Instr) (s : St) (h : RunInv s) :
    (isMemOp i = true → (singleTail i s).fault = none →
      dAcc (singleTail i s).st.mem = dAcc s.mem + 1) ∧
    (isMemOp i = false → dAcc (singleTail i s).st.mem = dAcc s.mem) := by
  obtain ⟨h1, h2, _⟩ := singleTail_facts i s h
  rw [h2]
  exact ⟨fun hm hf => (behavior_dAcc i s h).1 hm (h1.1 hf), (behavior_dAcc i s h).2⟩

theorem singleTail_accepted (i : Instr) (s : St) (h : RunInv s) :
    (i.op.ty = .memI → Accepted (accessBits i.op) ((s.regs i.rs1 : Int) + i.imm) →
      (singleTail i s).fault = none) ∧
    (i.op.ty = .s → Accepted (accessBits i.op) (storeAddr i s) → (singleTail i s).fault = none) := by
  obtain ⟨h1, _, _⟩ := singleTail_facts i s h
  refine ⟨fun hty hacc => h1.2 ?_, fun hty hacc => h1.2 ?_⟩
  · obtain ⟨v, hv⟩ := read_accepted_ok h.mem hacc true
    simp only [behavior_memI i s hty, hv]
  · have hv := write_accepted_ok h.mem hacc
      (v := s.regs i.rs2 % 2 ^ accessBits i.op) (Nat.mod_lt _ (Nat.two_pow_pos _))
    unfold storeAddr at hv
    simp only [behavior_s i s hty, hv]

def memOpAt (s : St) : Nat :=
  match s.imem.instrAt s.pc with
  | some i => if isMemOp i then 1 else 0
  | none => 0

theorem singleStep_dAcc (s : St) (h : RunInv s) (hs : FetchSound s.imem)
    (hf : (singleStep s).fault = none) :
    dAcc (singleStep s).st.mem = dAcc s.mem + memOpAt s := by
  unfold memOpAt
  cases hi : s.imem.instrAt s.pc with
  | none => rw [singleStep_nofetch s hi]; rfl
  | some i =>
    rw [singleStep_fetched s hi (hs _ _ hi).1] at hf ⊢
    have h2 : RunInv
        ({ s with cycles := s.cycles + 1 + (s.imem.fetch s.pc).extra,
                  instrs := s.instrs + 1, imem := (s.imem.fetch s.pc).imem } : St) :=
      h.of_eq rfl rfl
    obtain ⟨a, b⟩ := singleTail_dAcc i _ h2
    simp only []
    cases hm : isMemOp i with
    | true => exact a hm hf
    | false => exact b hm

/-- Number of loads and stores among the first `n` instructions executed from `s`. -/
def memOps : Nat → St → Nat
  | 0, _ => 0
  | n + 1, s => memOps n s + memOpAt (singleRun n s)

end ArchSim.Lemmas.C09Prog
