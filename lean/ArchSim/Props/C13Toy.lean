/-
C13 (TOY part) — lifecycle of a `ToySimulation`: done is stable, `run` equals stepping until
done, `step()` returns false exactly when the simulation is done afterwards, an empty program is
done immediately, and a load into a not-started simulation equals a load into a fresh one.

The vocabulary of the statements (`Inv`, `stepT`, `stepRet`, `loads`) is defined in
`ArchSim/Lemmas/ToyStep.lean`.
-/
import ArchSim.Lemmas.ToyStep

namespace ArchSim.Props.C13Toy
open ArchSim ArchSim.Toy

/-- Once done, every API call (`step`, both half-cycles, `single_step`) returns normally with the
    whole simulation state unchanged (so it stays done), any sequence of calls leaves it
    unchanged, and `run()` with any fuel leaves it unchanged. `Inv` is the sequencing invariant: it
    holds of a new simulation, after a load at an instruction boundary and after each call
    (`C20.inv_initial`, `C20.call_classified`), not after a load in the middle of an instruction (the
    empty program loaded there is done, and `step()` raises); `run` needs no invariant. -/
theorem done_stable (t : TSim) (hd : isDone t = true) :
    (Inv t → ∀ c, call t c = ⟨t, false⟩) ∧
    (Inv t → ∀ cs, calls t cs = t) ∧
    (∀ n, run n t = t) := by
  refine ⟨fun h => call_done h hd, ?_, run_done hd⟩
  intro h cs
  induction cs with
  | nil => rfl
  | cons c cs ih => simp only [calls, call_done h hd c]; exact ih

/-- Non-vacuity: the demo program `demoInc` is done after three steps, in a state satisfying `Inv`. -/
example : isDone (run 3 demoInc) = true ∧ Inv (run 3 demoInc) := by decide

/-- `step()` returns `not is_done()` evaluated after the step (`stepRet`): it returns false
    exactly when the simulation is done afterwards; and at an instruction boundary it never
    raises. -/
theorem step_result (t : TSim) :
    (stepRet t = false ↔ isDone (stepCall t).t = true) ∧
    (t.nextCycle = 1 → (stepCall t).err = false) := by
  refine ⟨by simp [stepRet], fun h1 => by rw [stepCall_boundary h1]⟩

/-- Both return values occur: the first step of `demoInc` returns true, the third false. -/
example : stepRet demoInc = true ∧ stepRet (run 2 demoInc) = false := by decide

/-- `run()` is `step()` repeated until done. With fuel `n`: `run n t` equals `step` iterated `k`
    times, where no state before the `k`-th is done and — unless the fuel ran out (`k = n`) — the
    `k`-th is done; at an instruction boundary this is the same as `step` iterated `n` times
    (steps after done being no-ops); and the result does not depend on the fuel once it is done. -/
theorem run_eq_iterate (t : TSim) (n : Nat) :
    (∃ k, k ≤ n ∧ run n t = iter stepT k t ∧ (∀ j, j < k → isDone (iter stepT j t) = false) ∧
      (k < n → isDone (iter stepT k t) = true)) ∧
    (t.nextCycle = 1 → run n t = iter stepT n t) ∧
    (isDone (run n t) = true → ∀ m, n ≤ m → run m t = run n t) :=
  ⟨run_iter n t, fun h1 => run_eq_iter_all h1 n, fun hd _ hm => run_fuel hd hm⟩

/-- Non-vacuity: fuel 3 suffices for `demoInc`, fuel 2 does not. -/
example : isDone (run 3 demoInc) = true ∧ isDone (run 2 demoInc) = false ∧ demoInc.nextCycle = 1 := by decide

/-- A program with no instructions is done immediately (whatever data it declares, whatever the
    simulation object it is loaded into). -/
theorem empty_done (t : TSim) (data : List (Nat × Nat)) : isDone (loadImage t [] data) = true := by
  unfold loadImage; rfl

/-- Loading depends only on `next_cycle` and `has_started` of the simulation object: into any
    simulation at a boundary that has not started — whatever its architectural state, in
    particular after any sequence `earlier` of loads into a new simulation — `load_program` gives
    exactly the state it gives on a new simulation; and loads never change `next_cycle` or
    `has_started`. -/
theorem reload_fresh (instrs : List TInstr) (data : List (Nat × Nat)) :
    (∀ t : TSim, t.nextCycle = 1 → t.started = false → loadImage t instrs data = loadImage {} instrs data) ∧
    (∀ earlier, loadImage (loads {} earlier) instrs data = loadImage {} instrs data) ∧
    (∀ t earlier, (loads t earlier).nextCycle = t.nextCycle ∧ (loads t earlier).started = t.started) := by
  refine ⟨fun t h1 hs => loadImage_fresh h1 hs instrs data, ?_, fun t e => loads_keep t e⟩
  intro earlier
  have := loads_keep {} earlier
  exact loadImage_fresh this.1 this.2 instrs data

/-- Non-vacuity / sharpness: after the simulation has started, a reload is *not* a fresh load
    (`has_started` stays set). -/
example : (loadImage (run 1 demoInc) [] []).started = true ∧ (loadImage {} [] []).started = false := by
  decide

end ArchSim.Props.C13Toy
