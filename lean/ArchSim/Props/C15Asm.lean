/-
C15 (run-time failures), end to end: for EVERY source text — accepted or not, any instruction — every run-time fault the
model reports for the loaded program, in single-cycle (`singleStep`) and in five-stage mode (`Pipe.step`; the exception
the code raises there for an `ebreak` is not modelled), carries the address of an instruction of the LOADED PROGRAM
and exactly that instruction; and the kind of the fault fits the instruction. The hypotheses `FetchOK`, `ImemOK`,
`PipeOK` of the C15 fault-typing statements are discharged by the loader (`load_imemOK`, `load_pipeOK`, `simLoad_ok`);
nothing is assumed about program or state. The only side condition is on the CONFIGURATION: `ICacheOK s` — the
instruction cache of `s`, if it has one, has an associativity that suits its policy (what the Python constructor
asserts; trivially true without instruction cache, e.g. in the power-on state).

Helper lemmas: `ArchSim/Lemmas/E2E2Fault.lean`.
`singleRun k st` (`Lemmas/C02Compose.lean`): `k` single-cycle steps.  `pipeRun n p` (`Spec/PipeSeq.lean`): `n`
five-stage cycles, `(Pipe.step ·).p` iterated whether or not a cycle raises.  `Sim.load` / `Sim.step` / `Sim.stepS`:
`RiscvSimulation.load_program` / `step` / the simulation after a `step()` call, raised or not.
-/
import ArchSim.Props.C15
import ArchSim.Props.C04Asm
import ArchSim.Lemmas.E2E2Fault
import ArchSim.Lemmas.E2E2Ex

namespace ArchSim.Props.C15Asm
open ArchSim ArchSim.Rv ArchSim.Asm ArchSim.Pipe ArchSim.Lemmas.E2E ArchSim.Lemmas.E2E2

/-- Single-cycle mode. Load ANY text into ANY state `s` with an admissible instruction cache (or none; any data
    memory system). If, after ANY number `k` of single-cycle steps, the next step reports the fault `(a, f)`, then
    `a` is the pc of that step; the LOADED program stores an instruction `i` at `a` — `a` is a non-negative multiple
    of 4, `i` is entry `a / 4` of the stored list; and the kind of the fault fits `i`: not-implemented only for
    `ebreak` / `fence`, unmodelled only for CSR instructions, an invalid ecall code only for `ecall` (the code being
    `a7`, not one of the nine service codes), a memory error only for loads, stores and the print-string ecall. -/
theorem assembled_fault_single (s : St) (text : String) (hc : ICacheOK s) (k : Nat) (a : Int) (f : Fault)
    (hf : (singleStep (singleRun k (load s text).st)).fault = some (a, f)) :
    a = (singleRun k (load s text).st).pc ∧
    ∃ i, (load s text).st.imem.instrAt a = some i ∧ 0 ≤ a ∧ a % 4 = 0 ∧
      (load s text).st.imem.prog[(a / 4).toNat]? = some i ∧ i ∈ (load s text).st.imem.prog ∧
      match f with
      | .notImplemented => i.op = .ebreak ∨ i.op = .fence
      | .unmodelled => i.op.ty = .csr ∨ i.op.ty = .csri
      | .ecallCode c => i.op = .ecall ∧ c = (singleRun k (load s text).st).regs 17 ∧
          c ∉ [1, 2, 4, 11, 34, 35, 36, 10, 93]
      | .mem _ => i.op.ty = .memI ∨ i.op.ty = .s ∨
          (i.op = .ecall ∧ (singleRun k (load s text).st).regs 17 = 4) := by
  have him := singleRun_imemOK (ArchSim.Lemmas.C15.load_imemOK s text hc) k
  have hprog := singleRun_prog (load s text).st k
  obtain ⟨hpc, i, hi⟩ := ArchSim.Props.C15.single_fault_at_pc _ a f hf
  have hi' : (load s text).st.imem.instrAt a = some i := by rw [← Rv.instrAt_congr hprog a]; exact hi
  obtain ⟨h0, h4, _, hget, hmem⟩ := IMem.instrAt_some hi'
  refine ⟨hpc, i, hi', h0, h4, hget, hmem, ?_⟩
  have hk := ArchSim.Props.C15.runtime_error_kind_single _ a f i (ArchSim.Lemmas.C15.fetchOK him.1 him.2)
    (by rw [← hpc]; exact hi) hf
  cases f <;> exact hk

/-- Five-stage mode. Load ANY text into ANY state `s` with an admissible instruction cache (or none) and start the
    empty pipeline (hazard detection on or off). If, after ANY number `n` of cycles (faulting or not), the next
    cycle of `Pipe.step` raises the fault `ft`, then the LOADED program stores exactly the reported instruction
    `ft.instr` at the reported address `ft.addr` (entry `ft.addr / 4` of the stored list), and the fault is a
    memory-system error or, for an `ecall`, an invalid service code. (`Pipe.step` raises nothing for an `ebreak`;
    the code does in five-stage mode, and that exception is not modelled.) -/
theorem assembled_fault_five (s : St) (text : String) (hc : ICacheOK s) (hz : Bool) (n : Nat) (ft : PFault)
    (hf : (Pipe.step (pipeRun n (PSt.init (load s text).st hz))).fault = some ft) :
    (load s text).st.imem.instrAt ft.addr = some ft.instr ∧ 0 ≤ ft.addr ∧ ft.addr % 4 = 0 ∧
    (load s text).st.imem.prog[(ft.addr / 4).toNat]? = some ft.instr ∧
    ft.instr ∈ (load s text).st.imem.prog ∧
    ((∃ e, ft.fault = .mem e) ∨ (∃ c, ft.fault = .ecallCode c ∧ ft.instr.op = .ecall)) := by
  have hok := pipeRun_ok n _ (load_pipeOK s text hc hz)
  have hi := ArchSim.Props.C15.runtime_error_instr_at_addr_five_inv _ hok ft hf
  rw [Rv.instrAt_congr (pipeRun_init_prog (load s text).st hz n)] at hi
  obtain ⟨h0, h4, _, hget, hmem⟩ := IMem.instrAt_some hi
  refine ⟨hi, h0, h4, hget, hmem, ?_⟩
  rcases ArchSim.Props.C15.runtime_error_typed_five _ ft hf with ⟨d, _, _, _, _, hk⟩ | ⟨e, _, _, _, _, _, e', he'⟩
  · exact hk
  · exact .inl ⟨e', he'⟩

/-- The simulation API, both modes. Let `sim` be a `RiscvSimulation` (single-stage or five-stage) whose pipeline
    registers are empty — a new simulation, or one that has only been loaded into — with an admissible instruction
    cache (or none). After `load_program(text)` for ANY text and ANY number `k` of `step()` calls (raising or not), if
    the next `step()` raises an `InstructionExecutionException (a, oi, f)`, then it carries an instruction
    (`oi = some i`) and the program stored by THAT load has exactly `i` at address `a`. -/
theorem assembled_sim_fault (sim : Sim.RSim) (text : String) (hc : ICacheOK sim.p.st)
    (he : sim.p.l0 = none ∧ sim.p.l1 = none ∧ sim.p.l2 = none ∧ sim.p.l3 = none ∧ sim.p.l4 = none ∧
      sim.p.stalled = none)
    (k : Nat) (a : Int) (oi : Option Instr) (f : Fault)
    (hf : (Sim.step (iter Sim.stepS k (Sim.load sim text).1)).fault = some (a, oi, f)) :
    ∃ i, oi = some i ∧ (load sim.p.st text).st.imem.instrAt a = some i ∧ 0 ≤ a ∧ a % 4 = 0 ∧
      (load sim.p.st text).st.imem.prog[(a / 4).toNat]? = some i ∧ i ∈ (load sim.p.st text).st.imem.prog := by
  have hok := simIter_ok (simLoad_ok sim text hc he) k
  obtain ⟨i, ho, hi⟩ := sim_fault_instr hok hf
  rw [Rv.instrAt_congr hok.prog] at hi
  obtain ⟨h0, h4, _, hget, hmem⟩ := IMem.instrAt_some hi
  exact ⟨i, ho, hi, h0, h4, hget, hmem⟩

/-! ### non-vacuity (the text `faultText` of `Lemmas/E2E2Ex.lean`: its second instruction loads from address 0, below
the data range) -/

section
open ArchSim.Lemmas.E2E2.Ex

example : faultText = "addi x2, x0, 1\nlw x1, 0(x0)" := faultText_eq

/-- Hypothesis `ICacheOK` for the power-on state, and for a state with an instruction cache. -/
example : ICacheOK freshSt ∧ ICacheOK cacheSt := ⟨icacheOK_none rfl, cacheSt_icacheOK⟩

/-- Hypothesis of `assembled_fault_single`: after one step the next single-cycle step faults at address 4 … -/
example : (singleStep (singleRun 1 (load freshSt faultText).st)).fault = some (4, .mem (.addr 0)) := by
  rw [load_faultText_st]; decide

/-- … and the conclusion, evaluated: the loaded program stores the `lw` at address 4 = entry 1. -/
example : (load freshSt faultText).st.imem.instrAt 4 = some { op := .lw, rd := 1, rs1 := 0, imm := 0 } := by
  rw [load_faultText_st]; decide

/-- Hypothesis of `assembled_fault_five`: after 4 cycles the next cycle raises for the `lw` in MEM. -/
example : (Pipe.step (pipeRun 4 (PSt.init (load freshSt faultText).st true))).fault =
    some ⟨4, { op := .lw, rd := 1, rs1 := 0, imm := 0 }, .mem (.addr 0)⟩ := by
  rw [load_faultText_st]; decide

/-- Hypothesis `hf` of `assembled_sim_fault` for a new five-stage simulation (whose registers are empty: `PSt.init`,
    by `rfl`): the fifth `step()` after the load raises with address 4 and the `lw`. -/
example : (Sim.step (iter Sim.stepS 4 (Sim.load { five := true, p := PSt.init freshSt true } faultText).1)).fault =
    some (4, some { op := .lw, rd := 1, rs1 := 0, imm := 0 }, .mem (.addr 0)) := by
  rw [Sim.load_init, load_faultText_st]; decide

end

end ArchSim.Props.C15Asm
