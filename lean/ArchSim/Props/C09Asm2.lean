/-
C09 (program-level clause), end to end: reload with a used data cache. `C09Prog.dok_init` is stated for a freshly
built cache system (`DSys.init`: counters 0). `load_program` applies `DSys.reset` to the data cache it finds: new empty
sets, cleared lower memory, but the hit / access counters and the last-hit flag are KEPT. So after a run and a reload
the counters are not zero. This file states `dok_init` for `preload (ds.reset …) h` for ANY cache system `ds` of an
admissible geometry — any contents, any counters — and concludes that loading a second program into a simulation whose
data cache was used by a first one gives a state satisfying `StepHyp`, with the counters continuing from the old
values and `accesses_count_memops` holding relative to them.

Why this is possible: neither C09's accounting invariant `Inv` nor C03's `CInv` nor C12's `TRep` mentions `hits`,
`accesses` or `lastHit`, and the run-level statements of C09Prog are RELATIVE to the start counters. The absolute form
`C09Asm.assembled_accesses_count_memops` (`dAcc sc.mem = 0`) is the case of a freshly built cache.

`Reloadable l ds` (`Lemmas/E2ECacheInit.lean`): admissible geometry, associativity that suits the policy `l`, RISC-V
lower memory — nothing about contents or counters.
-/
import ArchSim.Props.C09Asm
import ArchSim.Lemmas.E2ECacheInit
import ArchSim.Lemmas.E2E2ReloadEx

namespace ArchSim.Props.C09Asm2
open ArchSim ArchSim.Rv ArchSim.Asm ArchSim.Cache ArchSim.Pipe ArchSim.Lemmas.E2E ArchSim.Lemmas.E2E2
open ArchSim.Lemmas.C09Prog ArchSim.Lemmas.C11Prog

/-- `dok_init` for a used cache. For ANY data-cache system `ds` with an admissible geometry, a suitable associativity and a
    RISC-V lower memory — whatever its sets, lower-memory contents, hit counter, access counter and last-hit flag —
    the system `load_program` leaves (`ds.reset` followed by any `.data` preload `h`) satisfies the data-cache
    invariant `DOK`; its counters are those of `ds`. -/
theorem dok_reset_preload (l : Bool) (ds : DSys Repl.Pol) (hr : Reloadable l ds) (h : List Spec.ByteStore.Op) :
    DOK l (Spec.CacheAbs.preload (ds.reset (polOps l)) h) ∧
    (Spec.CacheAbs.preload (ds.reset (polOps l)) h).hits = ds.hits ∧
    (Spec.CacheAbs.preload (ds.reset (polOps l)) h).accesses = ds.accesses ∧
    (Spec.CacheAbs.preload (ds.reset (polOps l)) h).lastHit = ds.lastHit := by
  refine ⟨dok_reload l ds hr h, ?_, ?_, ?_⟩ <;> rw [preload_reset_fields _ ds hr.cfg h]

/-- `dok_init` is the instance `ds = DSys.init …`: a freshly built system is reloadable, and resetting it changes
    nothing. -/
theorem fresh_is_reloadable (l wt : Bool) (g : Geo) (penalty : Nat) (hg : Spec.CacheAbs.GeoOK g)
    (ha : ArchSim.Lemmas.C09.AssocOK l g.assoc) :
    Reloadable l (DSys.init (polOps l) wt g penalty (Mem.Mem.empty Mem.riscvCfg)) ∧
    (DSys.init (polOps l) wt g penalty (Mem.Mem.empty Mem.riscvCfg)).reset (polOps l) =
      DSys.init (polOps l) wt g penalty (Mem.Mem.empty Mem.riscvCfg) :=
  ⟨reloadable_init l wt g hg ha penalty, rfl⟩

/-- Every state satisfying `StepHyp` — in particular every state of a fault-free single-cycle run of a loaded program
    (`C09Prog.single_step_keeps_hyp`) — has a reloadable data cache. -/
theorem used_cache_is_reloadable (s : St) (h : StepHyp s) :
    ∃ l ds, s.mem = .cached l ds ∧ Reloadable l ds :=
  stepHyp_reloadable h

/-- Let `s1` be ANY state whose data memory is a reloadable cache system `ds` (any contents
    and counters: e.g. the state a first program left), without instruction cache, with 32-bit register values. Load
    ANY accepted text without CSR / fence / ebreak into it. Then the loaded state `sc` satisfies C09Prog's `StepHyp`,
    and its three data-cache counters are exactly those of `ds`: `load` neither counts its direct `.data` writes nor
    clears the counters. -/
theorem reloaded_state_step_hyp (s1 : St) (l : Bool) (ds : DSys Repl.Pol) (hm : s1.mem = .cached l ds)
    (hr : Reloadable l ds) (hic : s1.imem.cache = none) (hregs : ∀ r, s1.regs r < 4294967296) (text : String)
    (sc : St) (hsc : sc = (load s1 text).st)
    (h : (load s1 text).err = none) (hsup : AllSupported (load s1 text).st.imem.prog) :
    StepHyp sc ∧ dAcc sc.mem = ds.accesses ∧ dHits sc.mem = ds.hits ∧ dLastHit sc.mem = ds.lastHit := by
  obtain ⟨h1, h2, h3⟩ := load_counters s1 text
  rw [hsc, h1, h2, h3, hm]
  exact ⟨load_reload_stepHyp s1 l ds hm hr hic hregs text hsup, rfl, rfl, rfl⟩

/-- Each load / store is counted once, relative to the old counters. Same setting: after `n` fault-free single-cycle steps
    of the reloaded program the access counter is the access counter `ds` had BEFORE the reload plus the number of
    loads and stores among the `n` instructions executed. -/
theorem reloaded_accesses_count_memops (s1 : St) (l : Bool) (ds : DSys Repl.Pol) (hm : s1.mem = .cached l ds)
    (hr : Reloadable l ds) (hic : s1.imem.cache = none) (hregs : ∀ r, s1.regs r < 4294967296) (text : String)
    (sc : St) (hsc : sc = (load s1 text).st)
    (h : (load s1 text).err = none) (hsup : AllSupported (load s1 text).st.imem.prog)
    (n : Nat) (hok : SingleOK n sc) :
    dAcc (ArchSim.Lemmas.C11.singleRun n sc).mem = ds.accesses + memOps n sc := by
  obtain ⟨hH, h0, _⟩ := reloaded_state_step_hyp s1 l ds hm hr hic hregs text sc hsc h hsup
  rw [ArchSim.Props.C09Prog.accesses_count_memops sc hH n hok, h0]

/-- The two modes still agree after a reload. Same setting, `s1` not exited: if the five-stage loop on the reloaded
    program stops after `n` cycles without a fault, single-cycle mode from the same reloaded state is done after
    `k ≤ n` fault-free steps with the SAME data memory system, and both access counters equal the old counter plus the
    number of loads and stores executed. -/
theorem reloaded_dcache_counters_equal_modes (s1 : St) (l : Bool) (ds : DSys Repl.Pol)
    (hm : s1.mem = .cached l ds) (hr : Reloadable l ds) (hic : s1.imem.cache = none)
    (hregs : ∀ r, s1.regs r < 4294967296) (hx : s1.exitCode = none) (text : String)
    (sc : St) (hsc : sc = (load s1 text).st)
    (h : (load s1 text).err = none) (hsup : AllSupported (load s1 text).st.imem.prog)
    (n : Nat) (hrun : runOK n (PSt.init sc true)) (hd : isDone (pipeRun n (PSt.init sc true)) = true)
    (hprev : ∀ m, m < n → isDone (pipeRun m (PSt.init sc true)) = false) :
    ∃ k, k ≤ n ∧ SingleOK k sc ∧ singleDone (ArchSim.Lemmas.C11.singleRun k sc) = true ∧
      (pipeRun n (PSt.init sc true)).st.mem = (ArchSim.Lemmas.C11.singleRun k sc).mem ∧
      dAcc (pipeRun n (PSt.init sc true)).st.mem = ds.accesses + memOps k sc ∧
      dAcc (ArchSim.Lemmas.C11.singleRun k sc).mem = ds.accesses + memOps k sc := by
  obtain ⟨hH, h0, _⟩ := reloaded_state_step_hyp s1 l ds hm hr hic hregs text sc hsc h hsup
  have hx' : sc.exitCode = none := by rw [hsc, load_exitCode]; exact hx
  obtain ⟨k, hk, hok, hdone, _, hmem, _⟩ :=
    ArchSim.Props.C09Prog.dcache_counters_equal_modes sc hH hx' n hrun hd hprev
  have hc := ArchSim.Props.C09Prog.accesses_count_memops sc hH k hok
  rw [h0] at hc
  exact ⟨k, hk, hok, hdone, hmem, by rw [hmem]; exact hc, hc⟩

/-- A second program after a first one. Start from a state `s0` satisfying `StOK` without instruction cache, equipped
    with a freshly built data cache of any admissible configuration. Load an accepted supported text `text1` (state
    `sc1`), run `k` fault-free single-cycle steps (state `s1`: the cache now holds blocks, the counters are `memOps k
    sc1` and some number of hits), then load an accepted supported text `text2` into `s1` (state `sc2`). Then `sc2`
    again satisfies `StepHyp`; its access counter starts at the number of loads / stores the FIRST program executed;
    and after `n` fault-free steps of the second program it is that number plus the loads / stores of the second. -/
theorem second_program_after_first (s0 : St) (hs : ArchSim.Lemmas.C01.StOK s0) (hic : s0.imem.cache = none)
    (l wt : Bool) (g : Geo) (hg : Spec.CacheAbs.GeoOK g) (ha : ArchSim.Lemmas.C09.AssocOK l g.assoc) (penalty : Nat)
    (text1 text2 : String) (sc1 s1 sc2 : St) (hsc1 : sc1 = (load (withCache s0 l wt g penalty) text1).st)
    (h1 : (load s0 text1).err = none) (hsup1 : AllSupported (load s0 text1).st.imem.prog)
    (k : Nat) (hok1 : SingleOK k sc1) (hs1 : s1 = ArchSim.Lemmas.C11.singleRun k sc1)
    (hsc2 : sc2 = (load s1 text2).st)
    (h2 : (load s1 text2).err = none) (hsup2 : AllSupported (load s1 text2).st.imem.prog) :
    StepHyp sc2 ∧ dAcc sc2.mem = memOps k sc1 ∧ dHits sc2.mem = dHits s1.mem ∧
    dLastHit sc2.mem = dLastHit s1.mem ∧
    ∀ n, SingleOK n sc2 → dAcc (ArchSim.Lemmas.C11.singleRun n sc2).mem = memOps k sc1 + memOps n sc2 := by
  have hH1 : StepHyp sc1 := by rw [hsc1]; exact load_stepHyp s0 hs hic l wt g hg ha penalty text1 hsup1
  have hHs : StepHyp s1 := by rw [hs1]; exact StepHyp_run sc1 hH1 k hok1
  have hacc : dAcc s1.mem = memOps k sc1 := by
    rw [hs1]
    exact (ArchSim.Props.C09Asm.assembled_accesses_count_memops s0 hs hic l wt g hg ha penalty text1 sc1 hsc1
      h1 hsup1 k hok1).2
  obtain ⟨l', ds, hm, hr⟩ := stepHyp_reloadable hHs
  have hacc' : ds.accesses = memOps k sc1 := by rw [← hacc, hm]; rfl
  obtain ⟨hH2, a1, a2, a3⟩ :=
    reloaded_state_step_hyp s1 l' ds hm hr hHs.nocache hHs.inv.regs text2 sc2 hsc2 h2 hsup2
  refine ⟨hH2, by rw [a1, hacc'], by rw [a2, hm]; rfl, by rw [a3, hm]; rfl, fun n hok => ?_⟩
  rw [reloaded_accesses_count_memops s1 l' ds hm hr hHs.nocache hHs.inv.regs text2 sc2 hsc2 h2 hsup2 n hok, hacc']

/-! ### non-vacuity (first program: `asmText` of `Lemmas/E2EEx.lean` loaded with the one-word write-back LRU cache `geo1`,
run for two steps — its `lw` has missed; second program: `reText`, whose instruction at the pc reached, 8, is a load) -/

section
open ArchSim.Lemmas.E2E.Ex ArchSim.Lemmas.E2E2.Ex ArchSim.Lemmas.C03Prog.Ex

example : reText = "addi x0, x0, 0\naddi x0, x0, 0\nlw x1, 0(x5)" := reText_eq

/-- Hypotheses of `second_program_after_first` for the example: admissible configuration, both texts load and are
    supported, the first two steps of the first program are fault-free. -/
example : ArchSim.Lemmas.C01.StOK freshSt ∧ freshSt.imem.cache = none ∧ Spec.CacheAbs.GeoOK geo1 ∧
    ArchSim.Lemmas.C09.AssocOK true geo1.assoc ∧
    (load freshSt asmText).err = none ∧ AllSupported (load freshSt asmText).st.imem.prog ∧
    SingleOK 2 (load (withCache freshSt true false geo1 10) asmText).st ∧
    usedSt = ArchSim.Lemmas.C11.singleRun 2 (load (withCache freshSt true false geo1 10) asmText).st ∧
    (load usedSt reText).err = none ∧ AllSupported (load usedSt reText).st.imem.prog := by
  refine ⟨freshSt_ok, rfl, geo1_ok, assoc1_ok, load_asmText.1, asmText_supported, ?_, ?_, (load_reText _).1, ?_⟩
  · rw [load_asmText_cached]; unfold SingleOK; decide
  · rw [load_asmText_cached]; rfl
  · rw [(load_reText _).2]; decide

/-- The used state is not fresh: one access, pc 8, x5 = 0x4000; the first program counted one load / store. -/
example : dAcc usedSt.mem = 1 ∧ usedSt.pc = 8 ∧ usedSt.regs 5 = 16384 ∧ memOps 2 asmStC = 1 := by decide

/-- The conclusion evaluated: after the reload the access counter is still 1; one step of the second program (its
    `lw` at pc 8) makes it 2 = 1 + 1; the load MISSES (no hit is counted) and reads 0, not the 7 the first program
    had cached at that address — `reset` cleared sets and lower memory. -/
example : dAcc (load usedSt reText).st.mem = 1 ∧
    SingleOK 1 (load usedSt reText).st ∧ memOps 1 (load usedSt reText).st = 1 ∧
    dAcc (ArchSim.Lemmas.C11.singleRun 1 (load usedSt reText).st).mem = 2 ∧
    dHits (ArchSim.Lemmas.C11.singleRun 1 (load usedSt reText).st).mem = 0 ∧
    (ArchSim.Lemmas.C11.singleRun 1 (load usedSt reText).st).regs 1 = 0 ∧
    (ArchSim.Lemmas.C11.singleRun 2 asmStC).regs 10 = 7 := by
  rw [load_reText_used]; unfold SingleOK; decide

/-- Hypotheses of `reloaded_dcache_counters_equal_modes` for the example: the used cache is reloadable, `usedSt` has no
    instruction cache, 32-bit registers and has not exited; the five-stage loop on the reloaded program runs 5
    fault-free cycles and is done exactly then, with access counter 2 = 1 (old) + 1 (the second program's `lw`). -/
example : (∃ l ds, usedSt.mem = .cached l ds ∧ Reloadable l ds) ∧ usedSt.imem.cache = none ∧
    (∀ r, usedSt.regs r < 4294967296) ∧ usedSt.exitCode = none ∧
    runOK 5 (PSt.init (load usedSt reText).st true) ∧
    isDone (pipeRun 5 (PSt.init (load usedSt reText).st true)) = true ∧
    (∀ m, m < 5 → isDone (pipeRun m (PSt.init (load usedSt reText).st true)) = false) ∧
    dAcc (pipeRun 5 (PSt.init (load usedSt reText).st true)).st.mem = 2 := by
  refine ⟨stepHyp_reloadable usedSt_stepHyp, usedSt_stepHyp.nocache, usedSt_stepHyp.inv.regs, by decide, ?_⟩
  rw [load_reText_used]; decide

end

end ArchSim.Props.C09Asm2
