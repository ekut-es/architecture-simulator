/-
C02, the REPORTED counters — the counter lines of `get_performance_metrics_str()` as modelled by `SimViews.metricsLines`
(`Model/SimViews.lean`; the driver renders them and the check compares them with the real text before the final snapshot of a case).

`C02Main.pipe_equals_single_cycle` proves that the two modes end with equal retired-instruction, taken-branch and
procedure-call COUNTERS.  A user reads them in the metrics text.  The theorems here say that every counter line is its
label followed by decimal digits that read back as the counter (independent digit reader, `Spec/Digits.lean`), and — composed
with the main theorem — that a five-stage run and the single-cycle run of the same program DISPLAY the same three lines.
`LineShows` (below) is the predicate of the statements; the digits are read back with
`Lemmas.C17.ofDigits_natStr` (`Lemmas/C17Digits.lean`).
-/
import ArchSim.Lemmas.SimViews
import ArchSim.Props.C02Main

namespace ArchSim.Props.C02Views
open ArchSim ArchSim.Rv ArchSim.Pipe ArchSim.SimViews ArchSim.Spec.Digits ArchSim.Lemmas.SimViews

/-- A metrics line: the label, decimal digits that denote `v`, and the given trailer. -/
def LineShows (line label : String) (v : Nat) (trailer : String) : Prop :=
  ∃ ds : List Char, line = label ++ String.ofList ds ++ trailer ∧ ofDigits 10 ds = some v

/-- The six counter lines, in the order they are printed, each denoting its counter of the state. -/
theorem metrics_report (s : St) :
    ∃ l1 l2 l3 l4 l5 l6, metricsLines s = [l1, l2, l3, l4, l5, l6] ∧
      LineShows l1 "instructions: " s.instrs " " ∧ LineShows l2 "branches: " s.branches "" ∧
      LineShows l3 "procedures: " s.procs "" ∧ LineShows l4 "cycles: " s.cycles "" ∧
      LineShows l5 "stalls: " s.stalls "" ∧ LineShows l6 "flushes: " s.flushes "" := by
  have d := fun n => ArchSim.Lemmas.C17.ofDigits_natStr 10 (by decide) (by decide) n
  exact ⟨_, _, _, _, _, _, rfl, ⟨_, rfl, d _⟩, ⟨_, by simp, d _⟩, ⟨_, by simp, d _⟩, ⟨_, by simp, d _⟩,
    ⟨_, by simp, d _⟩, ⟨_, by simp, d _⟩⟩

/-- The first three lines depend on the three architectural counters only. -/
theorem counter_lines_eq (s t : St) (h1 : s.instrs = t.instrs) (h2 : s.branches = t.branches) (h3 : s.procs = t.procs) :
    (metricsLines s).take 3 = (metricsLines t).take 3 := by
  simp [metricsLines, h1, h2, h3]

/-- DISPLAYED equivalence (C02).  Under the hypotheses of `pipe_equals_single_cycle`: when the five-stage loop with hazard
    detection stops after `n` cycles without a fault, the single-cycle loop stops after some `k ≤ n` steps and the metrics
    text of the two final states shows the same `instructions`, `branches` and `procedures` lines. -/
theorem displayed_counters_equal (prog : List Instr) (hP : ProgWF prog) (st : St)
    (hS : SOK prog st) (hx : st.exitCode = none) (n : Nat)
    (hr : runOK n (PSt.init st true))
    (hd : isDone (pipeRun n (PSt.init st true)) = true)
    (hprev : ∀ m, m < n → isDone (pipeRun m (PSt.init st true)) = false) :
    ∃ k, k ≤ n ∧ singleDone (singleRun k st) = true ∧
      (metricsLines (pipeRun n (PSt.init st true)).st).take 3 =
      (metricsLines (singleRun k st)).take 3 := by
  obtain ⟨k, hk, _, h2, _, _, _, _, h7, h8, h9, _⟩ :=
    ArchSim.Props.C02Main.pipe_equals_single_cycle prog hP st hS hx n hr hd hprev
  exact ⟨k, hk, h2, counter_lines_eq _ _ h7 h8 h9⟩

/-! ### non-vacuity -/
example : metricsLines { Asm.freshSt with instrs := 4, branches := 1, procs := 1, cycles := 14, stalls := 1, flushes := 2 } =
    ["instructions: 4 ", "branches: 1", "procedures: 1", "cycles: 14", "stalls: 1", "flushes: 2"] := by decide +kernel

end ArchSim.Props.C02Views
