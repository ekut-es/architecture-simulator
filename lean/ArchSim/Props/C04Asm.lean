/-
C04 (assembler), end-to-end obligations: every program the ASSEMBLER builds satisfies the hypotheses of the
execution theorems (C01 refinement, C02 pipeline equivalence, C03Prog / C09Prog / C11Prog cache theorems).

Helper lemmas: `Lemmas/E2EInstr` (the built objects), `Lemmas/E2EState` (the loaded state; `AllSupported`),
`Lemmas/E2ESource` (`SourceSupported`), `Lemmas/E2ECacheInit` (`withCache`, `load_cacheRel`, `load_stepHyp`),
`Lemmas/E2EEx` (the example text).

Vocabulary
 * `load s text`      : `RiscvSimulation.load_program(text)` on the architectural state `s` (`Model/Asm.lean`);
 * `AllSupported prog`: `∀ i ∈ prog, i.op.supported = true` — no CSR instruction, `fence` or `ebreak` (decidable);
 * `SourceSupported text`: the source-level form — no line of `text` (after comment stripping) is tokenized with the
   mnemonic `ebreak`, `fence`, `csrrw`, `csrrs`, `csrrc`, `csrrwi`, `csrrsi` or `csrrci`;
 * `Pipe.ProgWF`, `C03Prog.ProgWF`, `C09Prog.ProgWF`, `C01.ProgOK`: the well-formed-program hypotheses of C02Main,
   C03Prog, C09Prog / C11Prog and C01 (at most 4096 instructions, each `Instr.WF`: supported operation, register
   numbers below 32, stored immediate in its constructor's range, `ecall` as built);
 * `C01.StOK s`       : flat RISC-V data memory with byte cells, 32-bit registers, `x0 = 0`, 32-bit pc;
 * `Pipe.SOK prog s`  : uncached instruction memory holding `prog`, and `StOK s`;
 * `freshSt`          : the power-on state;
 * `withCache s l wt g penalty`: `s` with a freshly built data cache (LRU if `l` else PLRU, write-through if `wt`
   else write-back, geometry `g`, miss penalty) over the empty RISC-V memory instead of its data memory;
 * `C03Prog.CacheRel sc sf`, `C09Prog.StepHyp sc`: the start-state hypotheses of C03Prog and C09Prog / C11Prog.
-/
import ArchSim.Lemmas.E2EEx
import ArchSim.Props.C14
import ArchSim.Lemmas.C03ProgEx

namespace ArchSim.Props.C04Asm
open ArchSim ArchSim.Rv ArchSim.Asm ArchSim.Lemmas.E2E

/-- Well-formed program. For EVERY source text and every simulator state: if `load` succeeds and no
    instruction of the stored program is a CSR instruction, `fence` or `ebreak`, then the stored program is
    well formed in each of the forms the execution theorems ask for: at most 4096 instructions, every one with
    register numbers below 32, a stored immediate in the range of its format, and `ecall` as its constructor
    builds it. (Nothing is assumed about labels, offsets, pseudo-instructions, data or immediates in the source:
    out-of-range immediates are wrapped by the constructors, register names come from the grammar.) -/
theorem loaded_program_wf (s : St) (text : String) (h : (load s text).err = none)
    (hs : AllSupported (load s text).st.imem.prog) :
    Pipe.ProgWF (load s text).st.imem.prog ∧
    ArchSim.Lemmas.C03Prog.ProgWF (load s text).st.imem.prog ∧
    ArchSim.Lemmas.C09Prog.ProgWF (load s text).st.imem ∧
    ArchSim.Lemmas.C01.ProgOK (load s text).st.imem.prog :=
  have hp := load_progWF_pipe s text hs
  ⟨hp, ⟨hp.len, hp.wf⟩, hp.wf, hp.toC01⟩

/-- Source-level version. If `load` succeeds and no line of the source text uses the mnemonic `ebreak`,
    `fence` or one of the six CSR mnemonics (`SourceSupported`), then every operation of the stored program is
    in the supported set — pseudo-instruction expansion only introduces `lui`, `addi` and the load / store of the
    pseudo-instruction itself — and hence the stored program is well formed. -/
theorem loaded_program_wf_source (s : St) (text : String) (h : (load s text).err = none)
    (hsrc : SourceSupported text) :
    AllSupported (load s text).st.imem.prog ∧
    Pipe.ProgWF (load s text).st.imem.prog ∧
    ArchSim.Lemmas.C03Prog.ProgWF (load s text).st.imem.prog ∧
    ArchSim.Lemmas.C09Prog.ProgWF (load s text).st.imem ∧
    ArchSim.Lemmas.C01.ProgOK (load s text).st.imem.prog :=
  have hs := load_supported_of_source s text h hsrc
  ⟨hs, loaded_program_wf s text h hs⟩

/-- Without the side condition: EVERY instruction of EVERY successfully loaded program — CSR forms, `fence`
    and `ebreak` included — has register numbers below 32 and a stored immediate in the range of its format,
    and the program has at most 4096 instructions. So the only thing `Instr.WF` asks beyond what the assembler
    guarantees is membership in the supported set. -/
theorem loaded_program_fields (s : St) (text : String) (h : (load s text).err = none) :
    (load s text).st.imem.prog.length ≤ 4096 ∧
    ∀ i ∈ (load s text).st.imem.prog, i.rd < 32 ∧ i.rs1 < 32 ∧ i.rs2 < 32 ∧ immRange i.op i.imm ∧
      (i.op = .ecall → i.rd = 0 ∧ i.rs1 = 0 ∧ i.imm = 0) := by
  exact ⟨load_prog_le s text, load_objs s text⟩

/-- The weaker program hypothesis of the pipeline CONTROL refinement (`Pipe.ProgOK`, used by `Props/C02.lean` and
    C11Prog: `ecall` has `rd = 0`, the stored shift amount of `srai` is not negative) holds for EVERY successfully
    loaded program, whatever instruction cache the state has — no side condition. -/
theorem loaded_program_pipe_ok (s : St) (text : String) (h : (load s text).err = none) :
    Pipe.ProgOK (load s text).st.imem :=
  load_pipeProgOK s text

/-- Well-formed start state, flat data memory. Loading ANY source text (successfully or not) into a state
    that satisfies C01's state invariant `StOK` and has no instruction cache gives a state that satisfies `StOK`
    again and C02's `SOK` for the stored program (uncached instruction memory holding exactly that program);
    registers, pc, exit code and console output are untouched; and the data memory afterwards is the flat
    memory of a write history `h` — the `.data` preload — i.e. exactly the form `Spec.ByteStore.run riscvCfg h`
    for which C03Prog `rel_init` and C09Prog `dok_init` are stated. -/
theorem loaded_state_ok (s : St) (text : String) (hs : ArchSim.Lemmas.C01.StOK s) (hc : s.imem.cache = none) :
    ArchSim.Lemmas.C01.StOK (load s text).st ∧
    Pipe.SOK (load s text).st.imem.prog (load s text).st ∧
    (load s text).st.imem = { prog := (load s text).st.imem.prog, cache := none } ∧
    (load s text).st.regs = s.regs ∧ (load s text).st.pc = s.pc ∧
    (load s text).st.exitCode = s.exitCode ∧ (load s text).st.output = s.output ∧
    ∃ h : List Spec.ByteStore.Op, (load s text).st.mem = .flat (Spec.ByteStore.run Mem.riscvCfg h) := by
  obtain ⟨m, hm, hcfg, _⟩ := hs.flat
  obtain ⟨h1, h2, h3, h4, _⟩ := load_frame s text
  exact ⟨load_stOK s text hs, load_sok s text hs hc, load_imem s text hc, h1, h2, h4, h3,
    load_mem_flat s text m hm hcfg⟩

/-- The power-on state satisfies the hypotheses of `loaded_state_ok`, and it has not exited. -/
theorem power_on_state_ok :
    ArchSim.Lemmas.C01.StOK freshSt ∧ freshSt.imem.cache = none ∧ freshSt.exitCode = none ∧ freshSt.pc = 0 :=
  ⟨freshSt_ok, rfl, rfl, rfl⟩

/-- Well-formed start state, with a data cache. Let `s` satisfy `StOK` and have no instruction cache, and let
    `withCache s l wt g penalty` be `s` with a freshly built data cache of ANY admissible geometry (`GeoOK`),
    LRU or PLRU (`AssocOK`), write-back or write-through, any miss penalty. Loading ANY text into both:
    (1) reports the same error and stores the same program; (2) there is ONE write history `h` — the `.data`
    preload: `writeData` only performs direct writes, which bypass the cache — such that the flat load leaves
    the memory `run riscvCfg h` and the cached load leaves the initial cache system after `preload … h`, every
    other field of the two states being equal; (3) hence the two loaded states are related by C03Prog's
    `CacheRel` (`load_cacheRel`); (4) if the load succeeds and the program is in the supported set, the
    cached state satisfies C09Prog's `StepHyp` (`load_stepHyp`). -/
theorem loaded_state_ok_cached (s : St) (hs : ArchSim.Lemmas.C01.StOK s) (hic : s.imem.cache = none)
    (l wt : Bool) (g : Cache.Geo) (hg : Spec.CacheAbs.GeoOK g) (ha : ArchSim.Lemmas.C09.AssocOK l g.assoc)
    (penalty : Nat) (text : String) :
    (load (withCache s l wt g penalty) text).err = (load s text).err ∧
    (load (withCache s l wt g penalty) text).st.imem = (load s text).st.imem ∧
    (∃ h : List Spec.ByteStore.Op, (load s text).st.mem = .flat (Spec.ByteStore.run Mem.riscvCfg h) ∧
      (load (withCache s l wt g penalty) text).st = { (load s text).st with
        mem := .cached l (Spec.CacheAbs.preload
          (Cache.DSys.init (Cache.polOps l) wt g penalty (Mem.Mem.empty Mem.riscvCfg)) h) }) ∧
    ArchSim.Lemmas.C03Prog.CacheRel (load (withCache s l wt g penalty) text).st (load s text).st ∧
    ((load s text).err = none → AllSupported (load s text).st.imem.prog →
      ArchSim.Lemmas.C09Prog.StepHyp (load (withCache s l wt g penalty) text).st) := by
  obtain ⟨m, hm, hc, _⟩ := hs.flat
  obtain ⟨he, h, h1, h2⟩ := load_withCache s m hm hc l wt g penalty text
  exact ⟨he, by rw [h2], ⟨h, h1, h2⟩, load_cacheRel s m hm hc l wt g hg ha penalty text,
    fun _ hsup => load_stepHyp s hs hic l wt g hg ha penalty text hsup⟩

/-- The side condition of `loaded_program_wf` is NECESSARY and is the only gap: the one-line text `ebreak` is
    accepted by the assembler, and the stored program is not `ProgWF` (the execution theorems exclude `ebreak`,
    `fence` and the CSR instructions: single-cycle mode raises "not implemented" for them). -/
theorem supported_condition_necessary :
    ∃ text, (load freshSt text).err = none ∧ ¬ AllSupported (load freshSt text).st.imem.prog ∧
      ¬ Pipe.ProgWF (load freshSt text).st.imem.prog := by
  have h := ArchSim.Props.C14.listing_fixpoint freshSt [{ op := .ebreak, imm := 1 }] (by decide) (by decide)
  refine ⟨_, h.1, ?_, ?_⟩
  · rw [h.2]; decide
  · rw [h.2]; intro hw; exact absurd (hw.wf _ List.mem_cons_self) (by decide)

/-! ### non-vacuity -/

section
open ArchSim.Lemmas.E2E.Ex

/-- The example source text: a `.data` variable, a trailing comment, indentation, the pseudo-instruction `li`, a
    branch to a label, an in-line label declaration. -/
example : asmText =
    ".data\nx: .word 7   # the variable\n.text\n  lui t0, 4\n  lw a0, 0(t0)\n  li a7, 93\n" ++
    "  beq zero, zero, end\n  li a0, 0\nend: ecall\n" := rfl

/-- Hypotheses of `loaded_program_wf` for the example text in the power-on state: it loads (shown line by line
    through the general spelling theorems of C04Spell, `Lemmas/E2EEx.lean`), and its program — `li` expanded to
    `addi`, the label resolved to the displacement 8 — is in the supported set. -/
example : (load freshSt asmText).err = none ∧ AllSupported (load freshSt asmText).st.imem.prog ∧
    (load freshSt asmText).st.imem.prog =
      [{ op := .lui, rd := 5, imm := 4 }, { op := .lw, rd := 10, rs1 := 5, imm := 0 },
       { op := .addi, rd := 17, rs1 := 0, imm := 93 }, { op := .beq, rs1 := 0, rs2 := 0, imm := 8 },
       { op := .addi, rd := 10, rs1 := 0, imm := 0 }, { op := .ecall }] :=
  ⟨load_asmText.1, asmText_supported, load_asmText.2⟩

/-- Hypothesis of `loaded_program_wf_source` for the example text: none of its nine lines uses an unsupported
    mnemonic. -/
example : SourceSupported asmText := asmText_source

/-- The conclusion of `loaded_state_ok` made concrete for the example: the data memory after the load is the flat
    memory of the one-write history `write_word(0x4000, 7)`. -/
example : (load freshSt asmText).st.mem = .flat (Spec.ByteStore.run Mem.riscvCfg [.write 32 16384 7]) := by
  rw [load_asmText_st]; rfl

/-- Hypotheses of `loaded_state_ok_cached`: an admissible cache configuration (one set, one way, one word; LRU). -/
example : Spec.CacheAbs.GeoOK ArchSim.Lemmas.C03Prog.Ex.geo1 ∧
    ArchSim.Lemmas.C09.AssocOK true ArchSim.Lemmas.C03Prog.Ex.geo1.assoc :=
  ⟨ArchSim.Lemmas.C03Prog.Ex.geo1_ok, ArchSim.Lemmas.C03Prog.Ex.assoc1_ok⟩

end

end ArchSim.Props.C04Asm
