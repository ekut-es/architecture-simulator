/-
C07, end to end: the cycle-count / schedule theorems of `Props/C07.lean` for the program the ASSEMBLER stores for a
source text, loaded into the power-on state or into any state that has not started. The hypotheses of C07 about
the program (`PlainInstr`, at most 4096 instructions), about the start state (`LineStart`, flat data memory, no
instruction cache) and about the instruction memory (fetch returns the stored instruction) are discharged by the
loader; what remains are hypotheses about the RUN (this cycle raises no fault) and decidable conditions on the stored
program (`PlainOps`, `HazardFree`). `PlainOps`, `ICacheOK` are defined in `Lemmas/E2E2Load.lean`, `IsFlat`, `penaltySum`
in `Lemmas/E2E2Pipe.lean`.

Vocabulary
 * `load s text`: `RiscvSimulation.load_program(text)` on the architectural state `s`; `freshSt`: power-on state;
 * `PSt.init st hz`: the empty five-stage pipeline over `st`, hazard detection `hz`; `pipeRun n p`: `n` cycles;
   `runOK n p`: none of the first `n` cycles raises (both `Spec/PipeSeq.lean`);
 * `fetchExtra p` / `memExtra p`: the extra cycles of this cycle's instruction fetch / of the MEM stage's data access
   (`Lemmas/C07Finish.lean`); `penaltySum n p`: their sum over the first `n` cycles from `p`;
 * `ICacheOK s`: the instruction cache of `s`, if any, has an associativity that suits its policy (decidable; what the
   Python constructor asserts); `IsFlat ms`: `ms` is a flat memory (no data cache);
 * `PlainOps prog`: every operation is register / immediate arithmetic, a shift, `lui` or `auipc` (decidable);
   `HazardFree prog`: no instruction reads a non-x0 register written by one of the two before it (decidable);
 * `erase`, `outcomes`, `skRun` (`Lemmas/C07SkelStep.lean`), `Skeleton.step` (`Spec/Skeleton.lean`): the data-free
   schedule skeleton.
-/
import ArchSim.Props.C07
import ArchSim.Props.C04Asm
import ArchSim.Lemmas.E2E2Ex

namespace ArchSim.Props.C07Asm
open ArchSim ArchSim.Rv ArchSim.Asm ArchSim.Pipe ArchSim.Lemmas.C07 ArchSim.Lemmas.C02Split ArchSim.Spec
open ArchSim.Lemmas.E2E ArchSim.Lemmas.E2E2

/-! ### the cycle counter -/

/-- Cycle increment, any configuration. Load ANY text into ANY state `s` — any data memory system (flat, or a data
    cache of any configuration), any instruction cache — and run the five-stage pipeline (hazard detection on or
    off). Every cycle that raises no fault adds exactly one, plus the extra cycles of that cycle's instruction
    fetch, plus the extra cycles of the MEM stage's data access; hence after `n` fault-free cycles the counter is
    the counter before the load plus `n` plus the sum of these penalties. -/
theorem assembled_cycle_count (s : St) (text : String) (hz : Bool) (n : Nat)
    (hr : runOK n (PSt.init (load s text).st hz)) :
    (pipeRun n (PSt.init (load s text).st hz)).st.cycles =
      s.cycles + n + penaltySum n (PSt.init (load s text).st hz) ∧
    ((step (pipeRun n (PSt.init (load s text).st hz))).fault = none →
      (pipeRun (n + 1) (PSt.init (load s text).st hz)).st.cycles =
        (pipeRun n (PSt.init (load s text).st hz)).st.cycles + 1 +
          fetchExtra (pipeRun n (PSt.init (load s text).st hz)) +
          memExtra (pipeRun n (PSt.init (load s text).st hz))) := by
  rw [← load_cycles s text]
  -- as a variable: unification through `PSt.init` would unfold the loader
  generalize (load s text).st = st at hr ⊢
  exact ⟨pipeRun_cycles n _ hr, fun hf => ArchSim.Props.C07.cycle_increment _ hf⟩

/-- Without caches, one cycle per step. Load ANY text (accepted or not) into a state `s` with a flat RISC-V data memory
    (`StOK`) and no instruction cache — e.g. the power-on state. Then after EVERY number `n` of five-stage steps,
    faulting or not, exactly `n` cycles were counted; the data memory is still flat and there is still no
    instruction cache (the hypotheses of `C07.cycle_increment_no_cache` hold in every reached state). -/
theorem assembled_cycles_no_cache (s : St) (text : String) (hs : ArchSim.Lemmas.C01.StOK s)
    (hc : s.imem.cache = none) (hz : Bool) (n : Nat) :
    (pipeRun n (PSt.init (load s text).st hz)).st.cycles = s.cycles + n ∧
    IsFlat (pipeRun n (PSt.init (load s text).st hz)).st.mem ∧
    (pipeRun n (PSt.init (load s text).st hz)).st.imem = (load s text).st.imem ∧
    (pipeRun n (PSt.init (load s text).st hz)).st.imem.cache = none := by
  have hf : IsFlat (load s text).st.mem := load_isFlat s text hs
  have hn : (load s text).st.imem.cache = none := load_nocache s text hc
  rw [← load_cycles s text]
  generalize (load s text).st = st at hf hn ⊢
  have hi := pipeRun_imem_nocache n (PSt.init st hz) hn
  exact ⟨pipeRun_cycles_plain n (PSt.init st hz) hf hn, pipeRun_isFlat n (PSt.init st hz) hf, hi, hi.symm ▸ hn⟩

/-- Single-cycle mode. (1) For ANY text, state and `n`: a single-cycle step adds one plus the fetch extra plus the
    extra of the instruction's counted data access (no hypothesis). (2) Without caches — `s` satisfies `StOK`, has
    no instruction cache, the text is accepted and contains no CSR instruction, `fence` or `ebreak` — after EVERY
    number `n` of single-cycle steps exactly `n` cycles were counted. -/
theorem assembled_single_cycle_count (s : St) (text : String) (n : Nat) :
    (singleStep (singleRun n (load s text).st)).st.cycles =
      (singleRun n (load s text).st).cycles + 1 + singleExtra (singleRun n (load s text).st) ∧
    (ArchSim.Lemmas.C01.StOK s → s.imem.cache = none → (load s text).err = none →
      AllSupported (load s text).st.imem.prog → (singleRun n (load s text).st).cycles = s.cycles + n) := by
  refine ⟨ArchSim.Props.C07.single_cycle_increment _, fun hs hc h hsup => ?_⟩
  have hP := load_progWF_pipe s text hsup
  have hS := load_sok s text hs hc
  rw [← load_cycles s text]
  generalize (load s text).st = st at hP hS ⊢
  exact singleRun_cycles_plain _ hP _ hS n

/-! ### independent straight-line code takes n + 4 cycles -/

/-- Load an accepted text into a state `s` at pc 0 that has not exited and has no instruction
    cache (e.g. the power-on state) — any data memory system, any register contents. If every operation of the
    stored program is plain (`PlainOps`) and no instruction reads a non-x0 register written by one of the two before
    it (`HazardFree`), then, with hazard detection on or off: no cycle ever raises; after `k` cycles exactly
    `min n (k - 4)` instructions have retired (instruction `m` retires in cycle `m + 5`) and `k` cycles were
    counted; the pipeline is done after exactly `n + 4` cycles and, for `n ≥ 1`, not before (`n` = number of
    stored instructions). `PlainInstr`, the length bound and `LineStart` of `Props/C07.lean` are not assumed: the loader
    gives them (`load_plain`, `load_prog_le`, `load_lineStart`). -/
theorem assembled_straight_line_n_plus_4 (s : St) (text : String) (hpc : s.pc = 0) (hx : s.exitCode = none)
    (hc : s.imem.cache = none) (h : (load s text).err = none) (hz : Bool) (prog : List Instr)
    (hprog : prog = (load s text).st.imem.prog) (hplain : PlainOps prog) (hfree : HazardFree prog) :
    (∀ k, (step (pipeRun k (PSt.init (load s text).st hz))).fault = none) ∧
    (∀ k, (pipeRun k (PSt.init (load s text).st hz)).st.instrs = s.instrs + min prog.length (k - 4) ∧
          (pipeRun k (PSt.init (load s text).st hz)).st.cycles = s.cycles + k ∧
          (pipeRun k (PSt.init (load s text).st hz)).stalled = none) ∧
    isDone (pipeRun (prog.length + 4) (PSt.init (load s text).st hz)) = true ∧
    (0 < prog.length → ∀ k, k < prog.length + 4 → isDone (pipeRun k (PSt.init (load s text).st hz)) = false) := by
  -- `rw`, not `subst`: `subst` evaluates the loader to see whether the right-hand side is a variable
  rw [hprog] at hplain hfree ⊢
  have hp := load_plain s text hplain
  have hl := load_prog_le s text
  have hs := load_lineStart s text hpc hx hc hz
  rw [← load_instrs s text, ← load_cycles s text]
  generalize (load s text).st = st at hplain hfree hp hl hs ⊢
  obtain ⟨h1, h2, h3, _, _, h6⟩ := ArchSim.Props.C07.straight_line_n_plus_4 _ hp hfree hl _ hs
  have hi : (PSt.init st hz).st.instrs = st.instrs := rfl
  have hcy : (PSt.init st hz).st.cycles = st.cycles := rfl
  simp only [← pipeRun_eq_iter, hi, hcy] at h1 h2 h3 h6
  exact ⟨h1, h2, h3, h6⟩

/-! ### the loaded program on the data-free schedule skeleton -/

/-- Load ANY text into ANY state `s` whose instruction cache (if any) is admissible
    (`ICacheOK`; any data memory system), and run the five-stage pipeline for `k` fault-free cycles. Then
    (1) the skeleton of the pipeline state is the skeleton run on the outcomes of the cycles (`skRun`), started from
        the empty skeleton at the pc of `s`;
    (2) in EVERY reached state (fault-free or not) the two fetch outcomes fed to the skeleton are functions of the
        LOADED PROGRAM and the pc: IF delivers exactly the instruction the loaded program stores at the pc, with or
        without instruction cache — so the only data-dependent inputs of the schedule are EX's exit decision and
        MEM's redirect decision;
    (3) `is_done()` is a function of the skeleton and of whether the loaded program has an instruction at the pc. -/
theorem assembled_pipe_run_skeleton (s : St) (text : String) (hc : ICacheOK s) (hz : Bool) (k : Nat)
    (hr : runOK k (PSt.init (load s text).st hz)) :
    erase (pipeRun k (PSt.init (load s text).st hz)) = skRun (PSt.init (load s text).st hz) k ∧
    erase (PSt.init (load s text).st hz) =
      { pc := s.pc, hazard := hz, exited := s.exitCode.isSome, instrs := s.instrs, stalls := s.stalls,
        flushes := s.flushes, s0 := none, s1 := none, s2 := none, s3 := none, stalled := none } ∧
    (∀ j, (outcomes (pipeRun j (PSt.init (load s text).st hz))).fetched =
            (load s text).st.imem.instrAt (pipeRun j (PSt.init (load s text).st hz)).st.pc ∧
          (outcomes (pipeRun j (PSt.init (load s text).st hz))).hasInstr =
            ((load s text).st.imem.instrAt (pipeRun j (PSt.init (load s text).st hz)).st.pc).isSome) ∧
    Pipe.isDone (pipeRun k (PSt.init (load s text).st hz)) =
      Skeleton.isDone (erase (pipeRun k (PSt.init (load s text).st hz)))
        ((load s text).st.imem.instrAt (pipeRun k (PSt.init (load s text).st hz)).st.pc).isSome := by
  have hok := load_pipeOK s text hc hz
  obtain ⟨_, f2, _, f4, _, f6, _, _, f9, f10, _⟩ := load_frame s text
  rw [← f2, ← f4, ← f6, ← f9, ← f10]
  generalize (load s text).st = st at hr hok ⊢
  have hat : ∀ j a, (pipeRun j (PSt.init st hz)).st.imem.instrAt a = st.imem.instrAt a :=
    fun j a => Rv.instrAt_congr (pipeRun_prog _ j) a
  refine ⟨?_, rfl, fun j => ?_, ?_⟩
  · rw [pipeRun_eq_iter]
    exact ArchSim.Props.C07.pipe_run_skeleton _ k (fun j hj => by
      have := hr j hj; rw [pipeRun_eq_iter] at this; exact this)
  · obtain ⟨h1, h2⟩ := outcomes_fetch _ (pipeRun_ok j _ hok)
    rw [h1, h2, hat]
    exact ⟨rfl, rfl⟩
  · rw [ArchSim.Props.C07.is_done_skeleton, hat]

/-! ### the closed forms on loaded programs

The closed forms of `Props/C07.lean` (`interlock_condition`, `interlock_two_bubbles`, `redirect_three_slots`,
`redirect_targets`, `ecall_drain`) carry NO hypothesis on the program or on the well-formedness of the state: they
hold for every pipeline state, reachable or not, so they apply verbatim to every state reached from a loaded program.
The one closed form that refers to the instruction memory is `fetch_at_pc`; its end-to-end version follows. -/

/-- Every slot holds an instruction of the loaded program. Load ANY text into ANY state with an admissible
    instruction cache (or none) and run the five-stage pipeline for ANY number `n` of cycles (faulting or not,
    detection on or off). Then (1) each of the five pipeline registers that is not empty holds, for its address
    `x.addr`, exactly the instruction the loaded program stores there; (2) if the pipeline is not stalled, the latch
    IF produces in the next cycle carries the current pc and the instruction the loaded program stores at the pc
    (`C07.fetch_at_pc`, end to end: after a redirect the next fetch is the program's instruction at the target). -/
theorem assembled_slots_hold_program (s : St) (text : String) (hc : ICacheOK s) (hz : Bool) (n : Nat) (x : Latch) :
    ((pipeRun n (PSt.init (load s text).st hz)).l0 = some x ∨ (pipeRun n (PSt.init (load s text).st hz)).l1 = some x ∨
      (pipeRun n (PSt.init (load s text).st hz)).l2 = some x ∨ (pipeRun n (PSt.init (load s text).st hz)).l3 = some x ∨
      (pipeRun n (PSt.init (load s text).st hz)).l4 = some x →
        (load s text).st.imem.instrAt x.addr = some x.instr) ∧
    ((pipeRun n (PSt.init (load s text).st hz)).stalled = none →
      nIF (pipeRun n (PSt.init (load s text).st hz)) = some x →
        x.addr = (pipeRun n (PSt.init (load s text).st hz)).st.pc ∧
        (load s text).st.imem.instrAt (pipeRun n (PSt.init (load s text).st hz)).st.pc = some x.instr) := by
  have hok0 := load_pipeOK s text hc hz
  generalize (load s text).st = st at hok0 ⊢
  have hok := pipeRun_ok n _ hok0
  have hat : ∀ a, (pipeRun n (PSt.init st hz)).st.imem.instrAt a = st.imem.instrAt a :=
    fun a => Rv.instrAt_congr (pipeRun_prog _ n) a
  refine ⟨fun h => ?_, fun hs hx => ?_⟩
  · rw [← hat]
    rcases h with h | h | h | h | h
    · exact hok.l0 x h
    · exact hok.l1 x h
    · exact hok.l2 x h
    · exact hok.l3 x h
    · exact hok.l4 x h
  · have ha := ArchSim.Props.C07.fetch_at_pc _ hs x hx
    refine ⟨ha, ?_⟩
    rw [← hat, ← ha]
    have hl := (ArchSim.Lemmas.C15.ifStage_ok (s := tick (pipeRun n (PSt.init st hz)).st) hok.imem).2
    unfold nIF at hx
    rw [hs] at hx
    exact hl x hx

/-! ### non-vacuity -/

section
open ArchSim.Lemmas.E2E2.Ex

/-- The example texts (listings; `Lemmas/E2E2Ex.lean`): three plain independent instructions, and a text with a
    load. Both load into any state; the stored programs are `lineProg` / `memProg`. -/
example : lineText = "addi x1, x0, 5\nslli x2, x0, 3\nlui x3, 1" ∧
    memText = "lui x5, 4\nlw x1, 0(x5)\naddi x2, x0, 1" := ⟨lineText_eq, memText_eq⟩

/-- Hypotheses of `assembled_straight_line_n_plus_4` for `lineText` in the power-on state. -/
example : freshSt.pc = 0 ∧ freshSt.exitCode = none ∧ freshSt.imem.cache = none ∧
    (load freshSt lineText).err = none ∧ PlainOps (load freshSt lineText).st.imem.prog ∧
    HazardFree (load freshSt lineText).st.imem.prog := by
  refine ⟨rfl, rfl, rfl, (load_lineText freshSt).1, ?_, ?_⟩ <;> rw [(load_lineText freshSt).2] <;> decide

/-- Direct evaluation agrees with n + 4: 3 instructions, done after exactly 7 cycles, 7 cycles counted. -/
example : isDone (pipeRun 7 (PSt.init (load freshSt lineText).st true)) = true ∧
    isDone (pipeRun 6 (PSt.init (load freshSt lineText).st true)) = false ∧
    (pipeRun 7 (PSt.init (load freshSt lineText).st true)).st.cycles = 7 ∧
    (pipeRun 7 (PSt.init (load freshSt lineText).st true)).st.instrs = 3 ∧
    (pipeRun 7 (PSt.init (load freshSt lineText).st true)).st.regs 3 = 4096 := by
  rw [load_lineText_st]; decide

/-- Hypotheses of `assembled_cycles_no_cache` / `assembled_single_cycle_count` (2) for the power-on state. -/
example : ArchSim.Lemmas.C01.StOK freshSt ∧ freshSt.imem.cache = none ∧ (load freshSt memText).err = none ∧
    AllSupported (load freshSt memText).st.imem.prog :=
  ⟨freshSt_ok, rfl, (load_memText freshSt).1, by rw [(load_memText freshSt).2]; decide⟩

/-- Hypotheses of `assembled_cycle_count`, `assembled_pipe_run_skeleton`, `assembled_slots_hold_program` with BOTH
    caches: `cacheSt` has an admissible instruction cache, and the five-stage run of `memText` loaded into it is
    fault-free for 9 cycles (3 instructions + 4 + the two bubbles of the `lui` → `lw` interlock) and done exactly
    then. -/
example : ICacheOK cacheSt ∧ runOK 9 (PSt.init (load cacheSt memText).st true) ∧
    isDone (pipeRun 9 (PSt.init (load cacheSt memText).st true)) = true ∧
    isDone (pipeRun 8 (PSt.init (load cacheSt memText).st true)) = false := by
  refine ⟨cacheSt_icacheOK, ?_⟩
  rw [load_memText_cache]; decide

/-- The cycle equation on that run: two instruction-cache misses (blocks of two words: +10 each) and the data-cache
    miss of the `lw` (+7, in cycle 7): 9 cycles + 27 penalty cycles = 36. -/
example : penaltySum 9 (PSt.init (load cacheSt memText).st true) = 27 ∧
    (pipeRun 9 (PSt.init (load cacheSt memText).st true)).st.cycles = 36 ∧
    fetchExtra (pipeRun 0 (PSt.init (load cacheSt memText).st true)) = 10 ∧
    fetchExtra (pipeRun 2 (PSt.init (load cacheSt memText).st true)) = 10 ∧
    memExtra (pipeRun 6 (PSt.init (load cacheSt memText).st true)) = 7 := by
  rw [load_memText_cache]; decide

end

end ArchSim.Props.C07Asm
