/-
C12, the DATA-CACHE TABLE the simulator shows — `RiscvSimulation.get_data_cache_entries()` as modelled by
`CacheViews.dataCacheTable` (`Model/CacheViews.lean`; the driver renders it; C09's check compares the rendered table with
the real getter after every snapshot, C12's check judges the real getter on the real cache objects).

`C12.lean` / `C12Prog.lean` speak about the logical contents, the backing store and the memory table.  The theorems here
say what the CACHE table shows in every state that satisfies the representation invariant (i.e. after any history,
`C03.history_refines`): one row per set with its index text, one block row per way; an invalid way is blank (empty
cells, a tag of spaces); a valid way lists, for every word `j` of the block, the address `base + 4j` as 8 hex digits and
a decimal text that reads back as a number whose four low bytes are the LOGICAL bytes at that address (this fixes the
number modulo 2^32; that it is below 2^32 is not part of the statement) — the cache table is always current; under
write-through the number is exactly the word the backing store (hence the memory table) holds.
-/
import ArchSim.Lemmas.SimViews
import ArchSim.Lemmas.CacheViews
import ArchSim.Lemmas.C17ViewsRows
import ArchSim.Props.C12

namespace ArchSim.Props.C12Views
open ArchSim ArchSim.Cache ArchSim.Mem ArchSim.Spec.CacheAbs ArchSim.Spec.Digits ArchSim.CacheViews
open ArchSim.Lemmas.C03 ArchSim.Lemmas.C12 ArchSim.Lemmas.SimViews ArchSim.Lemmas.C17Views ArchSim.Lemmas.CacheViews

variable {WFp : Repl.Pol → Prop}

/-- Shape of the table: one row per set, in set order; row `k` carries the index text `0x` + hex digits that read
    back as `k`, one block row per way, and the replacement status of the set's policy. -/
theorem table_shape {α : Type} (g : Geo) (showVal : α → String) (sets : List (CSet Repl.Pol α)) :
    (cacheTable g showVal sets).length = sets.length ∧
    ∀ (k : Nat) (cs : CSet Repl.Pol α), sets[k]? = some cs →
      ∃ row ds, (cacheTable g showVal sets)[k]? = some row ∧
        row.index.toList = '0' :: 'x' :: ds ∧ ofDigits 16 ds = some k ∧
        row.blocks = cs.ways.map (blockRow g showVal) ∧ row.status = statusOf cs.pol := by
  refine ⟨by simp [cacheTable], fun k cs hk => ?_⟩
  refine ⟨setRow g showVal k cs, (Views.upHex ((g.idxBits + 3) / 4) k).toList, ?_, ?_, (upHex_spec _ k).1, rfl, rfl⟩
  · simp [cacheTable, List.getElem?_mapIdx, hk]
  · simp [setRow, toHexStr]

/-- An invalid way is shown blank: valid bit `0`, one pair of empty strings per word of a block, and a tag of
    30 spaces (the tag width of the default address a never-written block carries). -/
theorem invalid_way_blank {α : Type} (g : Geo) (showVal : α → String) (w : Way α) (h : w.valid = false) :
    (blockRow g showVal w).valid = "0" ∧
    (blockRow g showVal w).cells = List.replicate (2 ^ g.blkBits) ("", "") ∧
    (blockRow g showVal w).tag.toList = List.replicate 30 ' ' := by
  rw [blockRow_invalid g showVal w h]
  exact ⟨rfl, rfl, by simp⟩

/-- A valid way of a data cache that satisfies the representation invariant: valid and dirty bit are shown as `1`
    (every block write marks the block dirty), the tag text is `0x` + hex digits that read back as the tag, and cell
    `j` shows the address `base + 4j` as exactly 8 hex digits and a decimal text that reads back as a number `v` whose
    byte lanes 0–3 are the logical bytes at `base + 4j .. base + 4j + 3` — the current contents of the memory as the
    program sees it.  This fixes `v` modulo 2^32; `v < 2^32` is not stated (`write_through_cell_is_backing` gives `v`
    exactly, under write-through). -/
theorem valid_way_current {s : DSys Repl.Pol} (hs : CInvS WFp s) {k i : Nat} {cs : CSet Repl.Pol Nat} {w : Way Nat}
    (hk : s.sets[k]? = some cs) (hi : cs.ways[i]? = some w) (hv : w.valid = true) :
    (blockRow s.geo showWord w).valid = "1" ∧ (blockRow s.geo showWord w).dirty = "1" ∧
    (∃ ds, (blockRow s.geo showWord w).tag.toList = '0' :: 'x' :: ds ∧ ofDigits 16 ds = some w.tag) ∧
    (blockRow s.geo showWord w).cells.length = 2 ^ s.geo.blkBits ∧
    ∀ j, j < 2 ^ s.geo.blkBits → ∃ cell v, (blockRow s.geo showWord w).cells[j]? = some cell ∧
      ofDigits 16 cell.1.toList = some (w.base + 4 * j) ∧ cell.1.toList.length = 8 ∧
      ofDigits 10 cell.2.toList = some v ∧
      ∀ l, l < 4 → logical s ((w.base + 4 * j + l : Nat) : Int) = byteOf v l := by
  have hok := (hs.sets.set k cs hk).ways i w hi
  have hlen := hok.len hv
  have hd : w.dirty = true := by rw [hok.dirty, hv]
  have hrow := blockRow_valid s.geo showWord w hv
  refine ⟨by rw [hrow], by rw [hrow]; simp [hd, bitStr], ?_, by rw [hrow]; simp [hlen], ?_⟩
  · refine ⟨(Views.upHex ((tagBits s.geo + 3) / 4) w.tag).toList, ?_, (upHex_spec _ _).1⟩
    rw [hrow]; simp [toHexStr]
  · intro j hj
    have hjl : j < w.vals.length := by rw [hlen]; exact hj
    have hhi := hok.hi hv
    rw [pow_blk] at hhi
    refine ⟨_, w.vals[j], blockRow_valid_cell s.geo showWord w hv j hjl, ?_, ?_, dec_spec _, ?_⟩
    · have : w.base + j * 4 = w.base + 4 * j := by omega
      simp only [toHexStr, this]
      exact (upHex_spec 8 _).1
    · simp only [toHexStr]
      exact (upHex_spec 8 _).2.2 (by decide) (by
        have : (16 : Nat) ^ 8 = 4294967296 := by decide
        omega)
    · intro l hl
      rw [logical_of_way hs hk hi hv j l hj hl, wordAt_eq_getElem _ _ hjl]

/-- Under write-through the word a valid cell shows is also the word the backing store holds at that address — the
    cache table and the memory table agree on every resident block. -/
theorem write_through_cell_is_backing {s : DSys Repl.Pol} (hs : CInv WFp s) (hwt : s.wt = true) {k i : Nat}
    {cs : CSet Repl.Pol Nat} {w : Way Nat} (hk : s.sets[k]? = some cs) (hi : cs.ways[i]? = some w)
    (hv : w.valid = true) (j : Nat) (hj : j < 2 ^ s.geo.blkBits) :
    ∃ cell v, (blockRow s.geo showWord w).cells[j]? = some cell ∧ ofDigits 10 cell.2.toList = some v ∧
      Mem.read s.mem 32 (((w.base + 4 * j : Nat) : Int)) = some (.ok v) := by
  have hok := (hs.sets.set k cs hk).ways i w hi
  have hlen := hok.len hv
  have hjl : j < w.vals.length := by rw [hlen]; exact hj
  refine ⟨_, w.vals[j], blockRow_valid_cell s.geo showWord w hv j hjl, dec_spec _, ?_⟩
  · rw [resident_backed hs hwt hk hi hv j hj, wordAt_eq_getElem _ _ hjl]

/-- The two defining equations of `dataCacheTable` (the model of `get_data_cache_entries()`), restated: without a data
    cache `None`; with one, the table of its sets. -/
theorem dataCacheTable_cases (m : Rv.MemSys) :
    (∀ mem, m = .flat mem → dataCacheTable m = none) ∧
    (∀ l s, m = .cached l s → dataCacheTable m = some (cacheTable s.geo showWord s.sets)) :=
  ⟨fun _ h => by subst h; rfl, fun _ _ h => by subst h; rfl⟩

/-! ### non-vacuity -/

-- one valid way of a two-word block at 0x4008 holding 7 and 300
example : blockRow ⟨1, 1, 1⟩ showWord { valid := true, dirty := true, tag := 1024, base := 16392, vals := [7, 300] } =
    { valid := "1", dirty := "1", cells := [("00004008", "7"), ("0000400C", "300")], tag := "0x0000400" } := by decide +kernel
example : (blockRow ⟨1, 1, 1⟩ showWord (Way.empty : Way Nat)).cells = [("", ""), ("", "")] := by decide

end ArchSim.Props.C12Views
