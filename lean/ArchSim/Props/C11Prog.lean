/-
C11, program-level clause — "with any instruction-cache configuration every fetch returns the same
instruction as the uncached instruction memory, so program results are unchanged in both pipeline
modes".

`EqC s t` (`Lemmas/C11ProgSingle.lean`): the states agree on registers, pc, data memory system,
output, exit code, instruction / branch / procedure / stall / flush counters — on everything except
the instruction memory system and the cycle counter (miss penalties).
`Pipe.ICoh`, `Pipe.ProgOK`, `Pipe.SimP`: `Lemmas/C02Abs.lean`; `pipeRun`, `runOK`, `retireLog`, `seqRun`:
`Spec/PipeSeq.lean`; `IInv`: `Lemmas/C11.lean`; `singleRun` is `C11.singleRun` (`Lemmas/C11Step.lean`).
Size hypotheses: the uncached instruction memory rejects addresses `≥ 16384`, so the comparison
with it needs `prog.length ≤ 4096`; the cache decodes `UInt32(pc)`, so coherence of the cached
system alone needs `prog.length ≤ 2^30`.
-/
import ArchSim.Lemmas.C11ProgPipe
import ArchSim.Props.C11
import ArchSim.Props.C02

namespace ArchSim.Props.C11Prog
open ArchSim ArchSim.Cache ArchSim.Rv ArchSim.Pipe ArchSim.Lemmas.C09 ArchSim.Lemmas.C11
open ArchSim.Lemmas.C11Prog

/-- Instruction coherence for EVERY instruction-cache configuration: if the cache of `im`
    satisfies `IInv` (true of the initial / reset cache for every program, `C11.inv_init`, and kept by
    every fetch), then after any sequence of fetches — correct-path or wrong-path — a fetch at an
    occupied address returns the instruction stored there and keeps the program. This is the
    hypothesis `ICoh` of the pipeline control refinement (C02). -/
theorem ICoh_icache {im : IMem} {c : ICache} (hc : im.cache = some c) (hinv : IInv im c)
    (hl : im.prog.length ≤ 1073741824) : ICoh im :=
  icoh_icache hc hinv hl

/-- `C02.final_state` with an instruction cache of any configuration: when the five-stage loop
    stops after `n` fault-free cycles, registers, data memory system, output, exit code, retired /
    branch / procedure counts and pc are those of the sequential machine at the first step `k` where
    it is done, and the retired addresses are the addresses it executed. -/
theorem final_state_icache (st : St) {c : ICache} (hc : st.imem.cache = some c) (hinv : IInv st.imem c)
    (hl : st.imem.prog.length ≤ 1073741824) (hp : ProgOK st.imem) (hx : st.exitCode = none)
    (n : Nat) (hr : runOK n (PSt.init st true)) (hd : isDone (pipeRun n (PSt.init st true)) = true)
    (hprev : ∀ m, m < n → isDone (pipeRun m (PSt.init st true)) = false) :
    ∃ k, k ≤ n ∧ SimP (pipeRun n (PSt.init st true)).st (seqRun k st) ∧ singleDone (seqRun k st) = true ∧
      (∀ j, j < k → singleDone (seqRun j st) = false) ∧
      retireLog n (PSt.init st true) = seqTrace k st ∧
      (∀ j, j < k → seqFault (seqRun j st) = none) :=
  ArchSim.Props.C02.final_state st hp (ICoh_icache hc hinv hl) hx n hr hd hprev

/-- One single-cycle step, instruction cache off (`s`) versus on (`t`, any configuration, any
    cache state satisfying `IInv`): the same fault (or none); afterwards the states again agree on
    everything except the instruction-cache state and the cycle counter; the uncached side still
    has no cache and the cached side still satisfies the invariant. -/
theorem icache_single_step_equal {s t : St} {c : ICache} (h : EqC s t) (hp : s.imem.prog = t.imem.prog)
    (hs : s.imem.cache = none) (hl : s.imem.prog.length ≤ 4096)
    (ht : t.imem.cache = some c) (hinv : IInv t.imem c) :
    (singleStep s).fault = (singleStep t).fault ∧ EqC (singleStep s).st (singleStep t).st ∧
      (singleStep s).st.imem.prog = (singleStep t).st.imem.prog ∧
      (singleStep s).st.imem.cache = none ∧
      ∃ c', (singleStep t).st.imem.cache = some c' ∧ IInv (singleStep t).st.imem c' := by
  have hl' : t.imem.prog.length ≤ 1073741824 := by rw [← hp]; omega
  obtain ⟨h1, h2, h3⟩ := singleStep_eqC h hp (ICoh_nocache _ hs hl).fetchSound
    (ICoh_icache ht hinv hl').fetchSound
  obtain ⟨c', hc', hinv', _⟩ := singleStep_fetch_count ht hinv
  exact ⟨h1, h2, h3, by rw [Lemmas.C02Split.singleStep_imem_nocache s hs]; exact hs, c', hc', hinv'⟩

/-- Any number `n` of single-cycle steps, instruction cache off versus on: registers, data
    memory system (data-cache state and counters included), output, exit code, pc, instruction /
    branch / procedure counters are equal, `is_done()` agrees, and the next step raises the same
    fault (or none) — so the two runs stop at the same step, for the same reason, with the same
    results. Only the cycle counter (miss penalties) and the cache contents differ. -/
theorem icache_run_equal {s t : St} {c : ICache} (h : EqC s t) (hp : s.imem.prog = t.imem.prog)
    (hs : s.imem.cache = none) (hl : s.imem.prog.length ≤ 4096)
    (ht : t.imem.cache = some c) (hinv : IInv t.imem c) (n : Nat) :
    (singleRun n s).regs = (singleRun n t).regs ∧ (singleRun n s).mem = (singleRun n t).mem ∧
    (singleRun n s).output = (singleRun n t).output ∧
    (singleRun n s).exitCode = (singleRun n t).exitCode ∧ (singleRun n s).pc = (singleRun n t).pc ∧
    (singleRun n s).instrs = (singleRun n t).instrs ∧
    (singleRun n s).branches = (singleRun n t).branches ∧
    (singleRun n s).procs = (singleRun n t).procs ∧
    singleDone (singleRun n s) = singleDone (singleRun n t) ∧
    (singleStep (singleRun n s)).fault = (singleStep (singleRun n t)).fault := by
  have hl' : t.imem.prog.length ≤ 1073741824 := by rw [← hp]; omega
  have hcs := ICoh_nocache _ hs hl
  have hct := ICoh_icache ht hinv hl'
  obtain ⟨he, hpr⟩ := singleRun_eqC n h hp hcs hct
  exact ⟨he.regs, he.mem, he.output, he.exitCode, he.pc, he.instrs, he.branches, he.procs,
    singleDone_eqC he hpr,
    (singleStep_eqC he hpr (ICoh_singleRun n s hcs).fetchSound (ICoh_singleRun n t hct).fetchSound).1⟩

/-- Five-stage mode: the final registers, data memory system, output, exit code, retired /
    branch / procedure counts and pc of a fault-free run to completion are the same with the
    instruction cache (`t`, run of `m` cycles) and without it (`s`, run of `n` cycles), and the same
    instruction addresses retire in the same order; both runs end in the state of the sequential
    machine after the same number `k` of steps. -/
theorem icache_five_stage_results {s t : St} {c : ICache} (h : EqC s t) (hp : s.imem.prog = t.imem.prog)
    (hs : s.imem.cache = none) (hl : s.imem.prog.length ≤ 4096)
    (ht : t.imem.cache = some c) (hinv : IInv t.imem c) (hok : ProgOK s.imem) (hx : s.exitCode = none)
    (n : Nat) (hrn : runOK n (PSt.init s true)) (hdn : isDone (pipeRun n (PSt.init s true)) = true)
    (hpn : ∀ j, j < n → isDone (pipeRun j (PSt.init s true)) = false)
    (m : Nat) (hrm : runOK m (PSt.init t true)) (hdm : isDone (pipeRun m (PSt.init t true)) = true)
    (hpm : ∀ j, j < m → isDone (pipeRun j (PSt.init t true)) = false) :
    SimP (pipeRun n (PSt.init s true)).st (pipeRun m (PSt.init t true)).st ∧
      retireLog n (PSt.init s true) = retireLog m (PSt.init t true) ∧
      ∃ k, k ≤ n ∧ k ≤ m ∧ SimP (pipeRun n (PSt.init s true)).st (seqRun k s) ∧
        SimP (pipeRun m (PSt.init t true)).st (seqRun k t) := by
  have hl' : t.imem.prog.length ≤ 1073741824 := by rw [← hp]; omega
  exact five_stage_results_congr (simP_of_eqC h hp) hok (ProgOK_congr hp hok) (ICoh_nocache _ hs hl)
    (ICoh_icache ht hinv hl') hx n hrn hdn hpn m hrm hdm hpm

/-! ### Non-vacuity: a two-instruction program with a one-set instruction cache -/

example : AssocOK true exGeo1.assoc := ⟨by decide, fun h => by cases h⟩
example : IInv exStC.imem exCache1 := C11.inv_init _ _ _ _ ⟨by decide, fun h => by cases h⟩
/-- The hypotheses of `ICoh_icache` / `final_state_icache` hold. -/
example : ICoh exStC.imem :=
  ICoh_icache (c := exCache1) rfl (C11.inv_init _ _ _ _ ⟨by decide, fun h => by cases h⟩) (by decide)
example : ProgOK exStC.imem := ProgOK_of_allb _ (by decide)
/-- The hypotheses of `icache_single_step_equal` / `icache_run_equal` hold. -/
example : EqC exStN exStC ∧ exStN.imem.prog = exStC.imem.prog ∧ exStN.imem.cache = none ∧
    exStN.imem.prog.length ≤ 4096 ∧ exStC.imem.cache = some exCache1 :=
  ⟨⟨rfl, rfl, rfl, rfl, rfl, rfl, rfl, rfl, rfl, rfl⟩, rfl, rfl, by decide, rfl⟩
/-- Two single-cycle steps: `x2 = 10` on both sides; the first fetch misses (7 penalty cycles), the
    second hits in the same block. -/
example : (singleRun 2 exStN).regs 2 = 10 ∧ (singleRun 2 exStC).regs 2 = 10 ∧
    (singleRun 2 exStN).cycles = 2 ∧ (singleRun 2 exStC).cycles = 9 ∧
    singleDone (singleRun 2 exStC) = true := by decide +kernel

/-- Both five-stage runs are fault-free and done after exactly 8 cycles, with `x2 = 10`. -/
example : runOK 8 (PSt.init exStN true) ∧ isDone (pipeRun 8 (PSt.init exStN true)) = true ∧
    (∀ j, j < 8 → isDone (pipeRun j (PSt.init exStN true)) = false) ∧
    runOK 8 (PSt.init exStC true) ∧ isDone (pipeRun 8 (PSt.init exStC true)) = true ∧
    (∀ j, j < 8 → isDone (pipeRun j (PSt.init exStC true)) = false) ∧
    (pipeRun 8 (PSt.init exStC true)).st.regs 2 = 10 := by decide +kernel

end ArchSim.Props.C11Prog
