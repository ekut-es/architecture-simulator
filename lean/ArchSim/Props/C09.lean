/-
C09 — Data-cache hit/miss accounting and miss penalties match a reference cache.

Model: `ArchSim.Cache.DSys` (`Model/Cache.lean`).  Reference: the tag-only set-associative cache
`ArchSim.Spec.TagCache` (no data, no dirty bits, no backing store; same geometry, write policy and
replacement policy).  `erase` forgets everything of a model state the reference does not have.

The theorems are generic in the replacement policy `P : PolicyOps σ`, assuming only the interface
`PolicyOK P assoc ok` (on `ok` states `access i` for `i < assoc` and `victim` never fail, `victim`
names a way `< assoc`, `ok` is preserved) and — where writes are involved — `PolicyIdem P ok`
(`access i; access i = access i`; the model tells the policy twice about a block it rewrites).  The
section "The real policies" instantiates them for LRU / PLRU (`polOps isLru`, `ok := Pol.WF assoc`).

Hypotheses: `Inv ok s` is the invariant of reachable states (`2^idxBits` sets of `assoc` ways, policy
states `ok`, lower memory with the RISC-V configuration, dirty blocks inside the data range, geometry
with `idxBits + blkBits + 2 ≤ 32`, `blkBits ≤ 12`, `0 < assoc`); it holds for `DSys.init` and is
preserved by every operation covered (`inv_init`, and the `Inv` conjuncts below).
`Accepted bits a`: width 8/16/32, no word-boundary crossing, wrapped address in `[16384, 2^32)`.
Vocabulary: `Spec/TagCache.lean` (`Accepted`, `Op`, `run`, `refRun`, `erase`), `Lemmas/C09Set.lean` (`PolicyOK`,
`PolicyIdem`), `Lemmas/C09Sys.lean` (`Inv`, `GeoOK`), `Lemmas/C09Pol.lean` (`AssocOK`), `Lemmas/C09Reread.lean`
(`SameBlock`), `Lemmas/C09Distinct.lean` (`Distinct`).
-/
import ArchSim.Lemmas.C09Pol
import ArchSim.Lemmas.C09Distinct
import ArchSim.Lemmas.RvBehavior

namespace ArchSim.Props.C09
open ArchSim ArchSim.Cache ArchSim.Spec.TagCache ArchSim.Lemmas.C09 ArchSim.Repl

variable {σ : Type} {P : PolicyOps σ} {ok : σ → Prop}

/-! ### The invariant holds initially -/

/-- A freshly constructed data-cache system over a RISC-V data memory satisfies the invariant. -/
theorem inv_init {g : Geo} (hg : GeoOK g) (hP : PolicyOK P g.assoc ok) (wt : Bool) (penalty : Nat)
    (m : Mem.Mem) (hm : m.cfg = Mem.riscvCfg) : Inv ok (DSys.init P wt g penalty m) :=
  .of_empty hg hP rfl hm

/-- The erasure of the initial model state is the initial reference cache. -/
theorem erase_init (wt : Bool) (g : Geo) (penalty : Nat) (m : Mem.Mem) :
    erase (DSys.init P wt g penalty m) = TagCache.init P wt g penalty := by
  simp [erase, DSys.init, TagCache.init, initSets, eraseSet, eraseWay, Way.empty]

/-! ### Every accepted operation commutes with the erasure -/

/-- An accepted read (counted or not) of the model is a read of the reference: the erased state
    after it, and the cycles it adds, are the reference's; the invariant is kept; the read does not
    raise. -/
theorem erase_commutes_read {s : DSys σ} (hP : PolicyOK P s.geo.assoc ok) (hinv : Inv ok s)
    {bits : Nat} {a : Int} (hacc : Accepted bits a) (counted : Bool) :
    erase (s.read P bits a counted).sys = (refRead P (erase s) a counted).cache ∧
    (s.read P bits a counted).extra = (refRead P (erase s) a counted).extra ∧
    Inv ok (s.read P bits a counted).sys ∧
    (∃ v, (s.read P bits a counted).res = .ok v) :=
  let h := (read_spec hP hinv hacc counted).1
  ⟨h.erase_eq, h.extra_eq, h.inv, h.succeeds⟩

/-- An accepted (non-direct) write of the model, under either write policy, is a write of the
    reference (write-back: allocate on a miss; write-through: no allocation): erased state and added
    cycles agree, the invariant is kept, the write does not raise (hence is counted). -/
theorem erase_commutes_write {s : DSys σ} (hP : PolicyOK P s.geo.assoc ok) (hI : PolicyIdem P ok)
    (hinv : Inv ok s) {bits : Nat} {a : Int} (hacc : Accepted bits a) (v : Nat) :
    erase (s.write P bits a v false).sys = (refWrite P (erase s) a).cache ∧
    (s.write P bits a v false).extra = (refWrite P (erase s) a).extra ∧
    Inv ok (s.write P bits a v false).sys ∧
    (s.write P bits a v false).res = .ok 0 := by
  have h := write_spec hP hI hinv hacc v
  exact ⟨h.1.erase_eq, h.1.extra_eq, h.1.inv, h.2.1⟩

/-- Any operation of a history (accepted access through the cache, or a direct write of any kind)
    is simulated by the reference's step. -/
theorem erase_commutes_op {s : DSys σ} (hP : PolicyOK P s.geo.assoc ok) (hI : PolicyIdem P ok)
    (hinv : Inv ok s) {op : Op} (hop : op.ok) :
    erase (applyOp P s op).sys = (refOp P (erase s) op).cache ∧
    (applyOp P s op).extra = (refOp P (erase s) op).extra ∧
    Inv ok (applyOp P s op).sys :=
  applyOp_sim hP hI hinv hop

/-! ### Histories -/

/-- After any history of accepted operations the erased model state *is* the reference state — in
    particular the hit counter, the access counter and the last-hit flag are the reference's — the
    total of added cycles is the reference's, and the invariant holds. -/
theorem counters_refine {s : DSys σ} (hP : PolicyOK P s.geo.assoc ok) (hI : PolicyIdem P ok)
    (hinv : Inv ok s) (ops : List Op) (hops : ∀ op ∈ ops, op.ok) :
    erase (run P s ops).1 = (refRun P (erase s) ops).1 ∧
    (run P s ops).1.hits = (refRun P (erase s) ops).1.hits ∧
    (run P s ops).1.accesses = (refRun P (erase s) ops).1.accesses ∧
    (run P s ops).1.lastHit = (refRun P (erase s) ops).1.lastHit ∧
    (run P s ops).2 = (refRun P (erase s) ops).2.1 ∧
    Inv ok (run P s ops).1 := by
  obtain ⟨h1, h2, h3⟩ := run_sim hP hI hinv ops hops
  exact ⟨h1, congrArg (·.hits) h1, congrArg (·.accesses) h1, congrArg (·.lastHit) h1, h2, h3⟩

/-- The same after every prefix of the history. -/
theorem counters_refine_prefix {s : DSys σ} (hP : PolicyOK P s.geo.assoc ok) (hI : PolicyIdem P ok)
    (hinv : Inv ok s) (ops : List Op) (hops : ∀ op ∈ ops, op.ok) (n : Nat) :
    (run P s (ops.take n)).1.hits = (refRun P (erase s) (ops.take n)).1.hits ∧
    (run P s (ops.take n)).1.accesses = (refRun P (erase s) (ops.take n)).1.accesses ∧
    (run P s (ops.take n)).1.lastHit = (refRun P (erase s) (ops.take n)).1.lastHit ∧
    (run P s (ops.take n)).2 = (refRun P (erase s) (ops.take n)).2.1 := by
  obtain ⟨_, h1, h2, h3, h4, _⟩ :=
    counters_refine hP hI hinv (ops.take n) (fun op h => hops op (List.mem_of_mem_take h))
  exact ⟨h1, h2, h3, h4⟩

/-- Every counted miss adds exactly the configured penalty, and nothing else adds cycles: the cycles
    a history adds are `penalty × (number of counted misses of the reference)`. -/
theorem penalty_per_counted_miss {s : DSys σ} (hP : PolicyOK P s.geo.assoc ok)
    (hI : PolicyIdem P ok) (hinv : Inv ok s) (ops : List Op) (hops : ∀ op ∈ ops, op.ok) :
    (run P s ops).2 = s.penalty * (refRun P (erase s) ops).2.2 := by
  rw [(run_sim hP hI hinv ops hops).2.1, refRun_extra]
  rfl

/-- One operation: the cycles added are the penalty if the reference has a counted miss, else 0;
    after a counted operation the last-hit flag is `true` iff it was not a miss. -/
theorem penalty_one_op {s : DSys σ} (hP : PolicyOK P s.geo.assoc ok) (hI : PolicyIdem P ok)
    (hinv : Inv ok s) {op : Op} (hop : op.ok) :
    (applyOp P s op).extra = (if (refOp P (erase s) op).miss then s.penalty else 0) ∧
    (op.counted = true → (applyOp P s op).sys.lastHit = !(refOp P (erase s) op).miss) := by
  have h := applyOp_sim hP hI hinv hop
  refine ⟨by rw [h.2.1, (refOp_account P (erase s) op).2.1]; rfl, fun hc => ?_⟩
  rw [← (refOp_account P (erase s) op).2.2 hc, ← h.1]
  rfl

/-- The model is a proper set-associative cache: if no set holds a tag twice (true initially), then
    after any history of accepted operations no set does — two valid ways of one set never carry the
    same tag. -/
theorem tags_distinct {s : DSys σ} (hP : PolicyOK P s.geo.assoc ok) (hI : PolicyIdem P ok)
    (hinv : Inv ok s) (hd : Distinct (erase s).sets) (ops : List Op) (hops : ∀ op ∈ ops, op.ok)
    {cs : CSet σ Nat} (hcs : cs ∈ (run P s ops).1.sets) {i j : Nat} {wi wj : Way Nat}
    (hi : cs.ways[i]? = some wi) (hj : cs.ways[j]? = some wj)
    (hvi : wi.valid = true) (hvj : wj.valid = true) (ht : wi.tag = wj.tag) : i = j := by
  have h1 := (run_sim hP hI hinv ops hops).1
  have h2 := refRun_distinct P (erase s) ops hd
  rw [← h1] at h2
  exact distinct_ways h2 hcs hi hj hvi hvj ht

/-- Initially no set holds a tag (so none holds one twice). -/
theorem tags_distinct_init (wt : Bool) (g : Geo) (penalty : Nat) (m : Mem.Mem) :
    Distinct (erase (DSys.init P wt g penalty m)).sets := by
  rw [erase_init]; exact init_distinct P wt g penalty

/-! ### Uncounted reads and direct writes -/

/-- An uncounted (inspection) read — of *any* address and width, accepted or rejected, hit or miss —
    leaves the hit counter, the access counter and the last-hit flag unchanged and adds no cycles. -/
theorem uncounted_read_counters (s : DSys σ) (bits : Nat) (a : Int) :
    (s.read P bits a false).sys.hits = s.hits ∧
    (s.read P bits a false).sys.accesses = s.accesses ∧
    (s.read P bits a false).sys.lastHit = s.lastHit ∧
    (s.read P bits a false).extra = 0 :=
  read_uncounted_frame s bits a

/-- A direct write (parser preload) — of any address, width and value, successful or rejected —
    changes nothing but the lower memory: counters, last-hit flag and all cache sets (tags, data,
    policy states) are untouched, and it adds no cycles. -/
theorem direct_write_noop (s : DSys σ) (bits : Nat) (a : Int) (v : Nat) :
    ∃ m', (s.write P bits a v true).sys = { s with mem := m' } ∧
      (s.write P bits a v true).extra = 0 := by
  obtain ⟨m', h1, _, h3⟩ := write_direct_spec (P := P) s bits a v
  exact ⟨m', h1, h3⟩

/-! ### What the access counter counts -/

/-- After a history of accepted operations the access counter has grown by the number of counted
    reads plus the number of non-direct writes; the hit counter plus the number of counted misses
    has grown by the same amount; hence `hits ≤ accesses` is preserved. -/
theorem accesses_counts_counted_ops {s : DSys σ} (hP : PolicyOK P s.geo.assoc ok)
    (hI : PolicyIdem P ok) (hinv : Inv ok s) (ops : List Op) (hops : ∀ op ∈ ops, op.ok) :
    (run P s ops).1.accesses = s.accesses + (ops.filter Op.counted).length ∧
    (run P s ops).1.hits + (refRun P (erase s) ops).2.2 = s.hits + (ops.filter Op.counted).length ∧
    (s.hits ≤ s.accesses → (run P s ops).1.hits ≤ (run P s ops).1.accesses) := by
  obtain ⟨_, h1, h2, _, _, _⟩ := counters_refine hP hI hinv ops hops
  have h3 : _ = s.accesses + _ := refRun_accesses P (erase s) ops
  have h4 : _ = s.hits + _ := refRun_hits_misses P (erase s) ops
  rw [h1, h2, h3]
  exact ⟨rfl, h4, fun h => by omega⟩

/-! ### Re-read neutrality -/

/-- After an accepted read at `a` (counted or not), an uncounted read of any width at any address of
    the same block leaves the **entire** state (sets, policy states, lower memory, counters) as the
    first read left it, and adds no cycles. -/
theorem reread_neutral {s s1 : DSys σ} (hP : PolicyOK P s.geo.assoc ok) (hI : PolicyIdem P ok)
    (hinv : Inv ok s) {bits : Nat} {a : Int} (hacc : Accepted bits a) (counted : Bool)
    (hs1 : (s.read P bits a counted).sys = s1) (bits' : Nat) {a' : Int}
    (hsame : SameBlock s.geo a a') :
    (s1.read P bits' a' false).sys = s1 ∧ (s1.read P bits' a' false).extra = 0 := by
  subst hs1
  obtain ⟨hsim, ht⟩ := read_spec hP hinv hacc counted
  obtain ⟨vals, ht, _⟩ := ht hI
  rw [read_of_touched (geo_of_erase_eq (.read bits a counted) hsim.erase_eq)
    (ht.congr hsame.decode.1 hsame.decode.2)]
  exact ⟨rfl, rfl⟩

/-- Re-reading the same (wrapped) address with the same width also returns the same result. -/
theorem reread_same_result {s : DSys σ} (hP : PolicyOK P s.geo.assoc ok) (hI : PolicyIdem P ok)
    (hinv : Inv ok s) {bits : Nat} {a : Int} (hacc : Accepted bits a) (counted : Bool) {a' : Int}
    (haa : wrap32 a' = wrap32 a) :
    (s.read P bits a counted).sys.read P bits a' false =
      { sys := (s.read P bits a counted).sys, res := (s.read P bits a counted).res, extra := 0 } :=
  reread_same_address hP hI hinv hacc counted haa

/-- The same after an accepted write that leaves the block resident: every write-back write, and a
    write-through write that hit. -/
theorem reread_neutral_after_write {s s1 : DSys σ} (hP : PolicyOK P s.geo.assoc ok)
    (hI : PolicyIdem P ok) (hinv : Inv ok s) {bits : Nat} {a : Int} (hacc : Accepted bits a) (v : Nat)
    (hs1 : (s.write P bits a v false).sys = s1) (hcase : s.wt = false ∨ s1.lastHit = true)
    (bits' : Nat) {a' : Int} (hsame : SameBlock s.geo a a') :
    (s1.read P bits' a' false).sys = s1 ∧ (s1.read P bits' a' false).extra = 0 := by
  subst hs1
  obtain ⟨hsim, _, ht⟩ := write_spec hP hI hinv hacc v
  obtain ⟨vals, ht⟩ := ht hcase
  rw [read_of_touched (geo_of_erase_eq (.write bits a v false) hsim.erase_eq)
    (ht.congr hsame.decode.1 hsame.decode.2)]
  exact ⟨rfl, rfl⟩

/-! ### The real policies: LRU and PLRU -/

/-- LRU (any associativity ≥ 1) and PLRU (associativity a power of two) satisfy the policy interface
    with `ok := Pol.WF assoc`, and their `access` is idempotent. -/
theorem real_policies_ok {isLru : Bool} {assoc : Nat} (h : AssocOK isLru assoc) :
    PolicyOK (polOps isLru) assoc (Pol.WF assoc) ∧ PolicyIdem (polOps isLru) (Pol.WF assoc) :=
  ⟨polOps_ok h, polOps_idem isLru assoc⟩

/-- `erase_commutes_read` / `erase_commutes_write` for the data cache the simulator builds (LRU or
    PLRU, invariant with `ok := Pol.WF assoc`): every accepted read and every accepted non-direct
    write is the reference's, does not raise, and keeps the invariant. -/
theorem real_erase_commutes {isLru : Bool} {s : DSys Pol} (ha : AssocOK isLru s.geo.assoc)
    (hinv : Inv (Pol.WF s.geo.assoc) s) {bits : Nat} {a : Int} (hacc : Accepted bits a) :
    (∀ counted,
      erase (s.read (polOps isLru) bits a counted).sys
        = (refRead (polOps isLru) (erase s) a counted).cache ∧
      (s.read (polOps isLru) bits a counted).extra
        = (refRead (polOps isLru) (erase s) a counted).extra ∧
      Inv (Pol.WF s.geo.assoc) (s.read (polOps isLru) bits a counted).sys ∧
      (∃ v, (s.read (polOps isLru) bits a counted).res = .ok v)) ∧
    (∀ v,
      erase (s.write (polOps isLru) bits a v false).sys = (refWrite (polOps isLru) (erase s) a).cache ∧
      (s.write (polOps isLru) bits a v false).extra = (refWrite (polOps isLru) (erase s) a).extra ∧
      Inv (Pol.WF s.geo.assoc) (s.write (polOps isLru) bits a v false).sys ∧
      (s.write (polOps isLru) bits a v false).res = .ok 0) :=
  ⟨fun counted => erase_commutes_read (polOps_ok ha) hinv hacc counted,
   fun v => erase_commutes_write (polOps_ok ha) (polOps_idem isLru _) hinv hacc v⟩

/-- `reread_neutral` / `reread_same_result` for LRU and PLRU: after an accepted read, an uncounted
    read in the same block changes nothing and adds no cycles, and re-reading the same address with
    the same width returns the same result. -/
theorem real_reread_neutral {isLru : Bool} {s : DSys Pol} (ha : AssocOK isLru s.geo.assoc)
    (hinv : Inv (Pol.WF s.geo.assoc) s) {bits : Nat} {a : Int} (hacc : Accepted bits a)
    (counted : Bool) :
    (∀ bits' a', SameBlock s.geo a a' →
      ((s.read (polOps isLru) bits a counted).sys.read (polOps isLru) bits' a' false).sys
        = (s.read (polOps isLru) bits a counted).sys ∧
      ((s.read (polOps isLru) bits a counted).sys.read (polOps isLru) bits' a' false).extra = 0) ∧
    (∀ a', wrap32 a' = wrap32 a →
      (s.read (polOps isLru) bits a counted).sys.read (polOps isLru) bits a' false =
        { sys := (s.read (polOps isLru) bits a counted).sys,
          res := (s.read (polOps isLru) bits a counted).res, extra := 0 }) :=
  ⟨fun bits' _ hsame =>
     reread_neutral (polOps_ok ha) (polOps_idem isLru _) hinv hacc counted rfl bits' hsame,
   fun _ haa => reread_same_result (polOps_ok ha) (polOps_idem isLru _) hinv hacc counted haa⟩

/-- Accounting for the data cache the simulator builds: for every admissible geometry (`GeoOK`, in particular
    at most 12 block bits: with 13 the counters differ from the reference's), write policy, penalty and
    replacement policy with a suitable associativity (`AssocOK`), after every history of accepted operations
    starting from the freshly constructed system, the counters and the last-hit flag equal those of the
    reference cache started empty, the access counter is the number of counted operations, hits + counted
    misses = accesses, and the added cycles are penalty × counted misses. -/
theorem real_counters_refine (isLru wt : Bool) (g : Geo) (penalty : Nat) (m : Mem.Mem)
    (hg : GeoOK g) (ha : AssocOK isLru g.assoc) (hm : m.cfg = Mem.riscvCfg)
    (ops : List Op) (hops : ∀ op ∈ ops, op.ok) :
    let fin := run (polOps isLru) (DSys.init (polOps isLru) wt g penalty m) ops
    let ref := refRun (polOps isLru) (TagCache.init (polOps isLru) wt g penalty) ops
    fin.1.hits = ref.1.hits ∧ fin.1.accesses = ref.1.accesses ∧ fin.1.lastHit = ref.1.lastHit ∧
    fin.1.accesses = (ops.filter Op.counted).length ∧
    fin.1.hits + ref.2.2 = fin.1.accesses ∧
    fin.2 = penalty * ref.2.2 := by
  intro fin ref
  have hP := polOps_ok ha
  have hI := polOps_idem isLru g.assoc
  have hinv : Inv (Pol.WF g.assoc) (DSys.init (polOps isLru) wt g penalty m) :=
    .of_empty hg hP rfl hm
  obtain ⟨_, h1, h2, h3, _, _⟩ := counters_refine (s := DSys.init (polOps isLru) wt g penalty m)
    hP hI hinv ops hops
  obtain ⟨h4, h5, _⟩ := accesses_counts_counted_ops (s := DSys.init (polOps isLru) wt g penalty m)
    hP hI hinv ops hops
  have h6 := penalty_per_counted_miss (s := DSys.init (polOps isLru) wt g penalty m)
    hP hI hinv ops hops
  rw [erase_init] at h1 h2 h3 h5 h6
  exact ⟨h1, h2, h3, h4.trans (Nat.zero_add _), h5.trans h4.symm, h6⟩

/-- The display re-read of the single-cycle stage is harmless: after `behavior` executed a load on a
    state with a cached data memory (counted read at `regs[rs1] + imm`, accepted), the stage's
    `memory_access(UInt32(regs[rs1]) + imm, update_statistics=False)` leaves the memory system
    exactly as `behavior` left it and adds no cycles — so each executed load is counted once. -/
theorem display_reread_harmless (i : Rv.Instr) (st : Rv.St) (hty : i.op.ty = .memI)
    {l : Bool} {s : DSys Pol} (hmem : st.mem = .cached l s) (ha : AssocOK l s.geo.assoc)
    (hinv : Inv (Pol.WF s.geo.assoc) s)
    (hacc : Accepted (Rv.accessBits i.op) ((st.regs i.rs1 : Int) + i.imm)) :
    ∃ r, Rv.memoryAccess i (some ((Rv.wrapU (st.regs i.rs1) : Int) + i.imm)) none
        (Rv.behavior i st).st.mem false
      = some { mem := (Rv.behavior i st).st.mem, extra := 0, res := r } := by
  rw [Rv.behavior_load_mem i st hty, hmem]
  unfold Rv.memoryAccess
  simp only [hty]
  rw [memsys_reread ha hinv hacc true (wrap32_wrapU_add _ _)]
  exact ⟨_, rfl⟩

/-! ### The idempotence hypothesis is necessary -/

/-- `PolicyIdem` cannot be dropped from `erase_commutes_write`: on a write **hit** the model informs
    the policy twice (`read_block`, then `write_block` of the same block), the reference once.  With
    a policy that counts its `access` calls (total, so `PolicyOK` holds, but not idempotent) the
    erased state after an accepted write hit differs from the reference's.  For LRU and PLRU the
    second notification is invisible (`real_policies_ok`). -/
theorem write_hit_notifies_policy_twice :
    ∃ s : DSys Nat, PolicyOK counterOps s.geo.assoc (fun _ => True) ∧ Inv (fun _ => True) s ∧
      Accepted 32 16384 ∧
      erase (s.write counterOps 32 16384 5 false).sys ≠ (refWrite counterOps (erase s) 16384).cache := by
  have hP : PolicyOK counterOps counterGeo.assoc (fun _ => True) :=
    ⟨trivial, fun s _ _ _ => ⟨s + 1, rfl, trivial⟩, fun _ _ => ⟨0, rfl, by decide⟩⟩
  have hacc : Accepted 32 16384 := by decide
  refine ⟨counterState, hP, ?_, hacc, ?_⟩
  · exact (read_spec (s := DSys.init counterOps false counterGeo 3 (Mem.Mem.empty Mem.riscvCfg)) hP
      (.of_empty (by decide) hP rfl rfl) hacc true).1.inv
  · intro h
    have h' := congrArg (fun c => c.sets.map (·.pol)) h
    revert h'
    decide

/-! ### Non-vacuity -/

example : GeoOK exGeo := by decide
example : AssocOK true exGeo.assoc := ⟨by decide, fun h => by cases h⟩
example : AssocOK false exGeo.assoc := ⟨by decide, fun _ => ⟨1, rfl⟩⟩
example : ∀ op ∈ exOps, op.ok := by decide
example : (Mem.Mem.empty Mem.riscvCfg).cfg = Mem.riscvCfg := rfl

/-- The hypotheses of `counters_refine` are satisfiable (LRU, write-back). -/
example : Inv (Pol.WF exGeo.assoc)
    (DSys.init (polOps true) false exGeo 10 (Mem.Mem.empty Mem.riscvCfg)) :=
  inv_init (by decide) (polOps_ok ⟨by decide, fun h => by cases h⟩) _ _ _ rfl

/-- The reference's verdict on the example history is not trivial: 9 counted accesses, hits and
    counted misses both occur, and the two write policies disagree. -/
example : (let r := refRun (polOps true) (TagCache.init (polOps true) false exGeo 10) exOps
           (r.1.accesses, r.1.hits, r.2.2, r.2.1)) = (9, 4, 5, 50) := by decide +kernel
example : (let r := refRun (polOps false) (TagCache.init (polOps false) true exGeo 10) exOps
           (r.1.accesses, r.1.hits, r.2.2, r.2.1)) = (9, 3, 6, 60) := by decide +kernel

/-- `reread_neutral`: two distinct addresses in one block. -/
example : SameBlock exGeo 16384 16391 := by unfold SameBlock; decide
example : Accepted 32 16384 := by decide

end ArchSim.Props.C09
