/-
C12, last clause and program level — "The memory table shown to the user is therefore always current
under write-through and may lag under write-back only for resident blocks."

The table.  `get_data_memory_entries` (riscv_simulation.py) calls `wordwise_repr()` on the memory system,
which both cache systems forward to the BACKING `Memory`; the rows are then sorted by address and
formatted (C17).  In the model the unsorted rows are `reprEntries mem 32 : Except AddrErr (List (Int × Nat))`
(`Memory.wordwise_repr`, C18): one row `(word address, 32-bit value)` per word containing a stored cell,
in first-stored order (`Mem.keys` = the Python dict's insertion order).  For a memory system
`ms : Rv.MemSys`, `dataTable ms = reprEntries ms.backing 32` (Lemmas/C12ProgTop).

Vocabulary of C03 / C12: `CInv`, `PolicyOK`, `logical`, `resident`, `runOps`, `flatOps` (the flat reference
memory fed the same history: accepted writes are performed with `Mem.write`, everything else is skipped),
`preload` (all in Spec/CacheAbs); of C03Prog: `CacheRel`, `StepAccepted` (Lemmas/C03ProgInit), `RunAccepted`
(Lemmas/C03ProgFive), `singleRun` (Lemmas/C03ProgStep), `C01.simN` (Lemmas/C01Defs), `Pipe.pipeRun` (Spec/PipeSeq).
Of C12Prog: `Cov s m` (Lemmas/C12ProgCov: every cell the flat memory `m` has stored is a stored cell of the
backing memory of `s` or lies in a resident block), `MRelT w mc mf` (Lemmas/C12ProgTop: `MRel` of C03Prog with
`s.wt = w` and the table invariant `TRep s m`: `s.wt = true → s.mem = m`, and `Cov s m`), `residentAt ms a`
(Lemmas/C12ProgTop).
-/
import ArchSim.Lemmas.C12ProgEx
import ArchSim.Props.C03
import ArchSim.Props.C03Prog

namespace ArchSim.Props.C12Prog
open ArchSim ArchSim.Cache ArchSim.Mem ArchSim.Rv ArchSim.Spec.CacheAbs ArchSim.Spec.TagCache
open ArchSim.Lemmas.C03 ArchSim.Lemmas.C03Prog ArchSim.Lemmas.C12Prog

variable {σ : Type} {P : PolicyOps σ} {WFp : σ → Prop}

/-! ## Write-through, operation level: the table is the one of the flat run -/

/-- Write-through, any geometry and policy, ANY history (accepted and rejected operations) from any
    state satisfying the invariant: the backing memory of the cached system EQUALS, as a structure —
    same cells, same stored keys in the same insertion order — the flat reference memory fed the same
    history from the same starting memory.  (Reads and block fills never write to the backing store,
    a rejected write does not touch it, an accepted write performs exactly the flat `Mem.write`.) -/
theorem wt_backing_is_flat_memory {s : DSys σ} (hP : PolicyOK P s.geo.assoc WFp) (hs : CInv WFp s)
    (hwt : s.wt = true) (ops : List Spec.CacheAbs.Op) (ho : ∀ o, o ∈ ops → o.wf) :
    (runOps P s ops).1.mem = (flatOps s.mem ops).1 := by
  have hr : Repr WFp s s.mem := ⟨hs, CInvS_memOK hs.toCInvS, hs.wtc hwt⟩
  exact (TRep.history hP hr (TRep.of_eq rfl) ops ho).wt ((history_agrees hP hr ops ho).2.2.1.trans hwt)

/-- Hence the memory table under write-through is literally the table of the flat run — same rows,
    same values, same order — and it never fails. -/
theorem wt_table_current {s : DSys σ} (hP : PolicyOK P s.geo.assoc WFp) (hs : CInv WFp s)
    (hwt : s.wt = true) (ops : List Spec.CacheAbs.Op) (ho : ∀ o, o ∈ ops → o.wf) :
    reprEntries (runOps P s ops).1.mem 32 = reprEntries (flatOps s.mem ops).1 32 ∧
      ∃ r, reprEntries (runOps P s ops).1.mem 32 = .ok r := by
  have hr : Repr WFp s s.mem := ⟨hs, CInvS_memOK hs.toCInvS, hs.wtc hwt⟩
  obtain ⟨⟨h1, _, _⟩, _⟩ := history_agrees hP hr ops ho
  exact ⟨by rw [wt_backing_is_flat_memory hP hs hwt ops ho], _, table_eq (CInvS_memOK h1.toCInvS)⟩

/-- The same from power-on for the simulator's policies: every admissible geometry, LRU or PLRU, any
    miss penalty, any `.data` preload `h`, any history: the write-through system's backing memory is
    the flat memory `run riscvCfg h` fed the same history, and so is its table. -/
theorem wt_table_current_from_reset (g : Geo) (hg : GeoOK g) (isLru : Bool) (penalty : Nat)
    (hplru : isLru = false → ∃ d, g.assoc = 2 ^ d) (h : List Spec.ByteStore.Op)
    (ops : List Spec.CacheAbs.Op) (ho : ∀ o, o ∈ ops → o.wf) :
    (runOps (polOps isLru)
        (preload (DSys.init (polOps isLru) true g penalty (Mem.empty riscvCfg)) h) ops).1.mem =
      (flatOps (Spec.ByteStore.run riscvCfg h) ops).1 ∧
    reprEntries (runOps (polOps isLru)
        (preload (DSys.init (polOps isLru) true g penalty (Mem.empty riscvCfg)) h) ops).1.mem 32 =
      reprEntries (flatOps (Spec.ByteStore.run riscvCfg h) ops).1 32 := by
  have hP := pol_ok isLru g.assoc hg.assoc hplru
  have hr := Repr_preload g hg hP true penalty h
  rw [preload_eq] at hr ⊢
  have e := wt_backing_is_flat_memory hP hr.1 rfl ops ho
  exact ⟨e, congrArg (reprEntries · 32) e⟩

/-! ## Write-back (indeed either policy), operation level: the table lags only on resident blocks -/

/-- Rows that are shown are current outside resident blocks.  After ANY history from a state that
    represents the flat memory `m`, the table of the backing store never fails, and every row `(a, v)`
    of it whose word `a` does NOT belong to a resident block shows the value the flat reference memory
    holds at that word (`read_word(a)` on the flat memory returns `v`). -/
theorem wb_table_row_current {s : DSys σ} (hP : PolicyOK P s.geo.assoc WFp) (hs : CInv WFp s) {m : Mem}
    (hm : MemOK m) (hL : ∀ a, logical s a = m.cells ((wrap32 a : Nat) : Int))
    (ops : List Spec.CacheAbs.Op) (ho : ∀ o, o ∈ ops → o.wf) :
    ∃ rb, reprEntries (runOps P s ops).1.mem 32 = .ok rb ∧
      ∀ a v, (a, v) ∈ rb → resident (runOps P s ops).1 a = false →
        Mem.read (flatOps m ops).1 32 a = some (.ok v) := by
  obtain ⟨⟨h1, h2, h3⟩, _⟩ := history_agrees hP ⟨hs, hm, hL⟩ ops ho
  obtain ⟨rb, _, e1, _, c1, _⟩ := table_rows h1.toCInvS h2 h3
  exact ⟨rb, e1, c1⟩

/-- Rows can be missing or stale only for words of resident blocks.  If moreover the starting state
    covers `m` (`Cov s m`) and, in case it is write-through, its backing memory is `m` (both hold when
    `s.mem = m`: power-on, preloads), then after ANY history every row `(a, v)` of the FLAT run's table
    either is a row of the backing store's table — same address, same value — or its word `a` belongs
    to a resident block.  So {flat rows} ⊆ {backing rows} ∪ {words of resident blocks}. -/
theorem wb_flat_row_covered {s : DSys σ} (hP : PolicyOK P s.geo.assoc WFp) (hs : CInv WFp s) {m : Mem}
    (hm : MemOK m) (hL : ∀ a, logical s a = m.cells ((wrap32 a : Nat) : Int))
    (hw : s.wt = true → s.mem = m) (hc : Cov s m)
    (ops : List Spec.CacheAbs.Op) (ho : ∀ o, o ∈ ops → o.wf) :
    ∃ rb rf, reprEntries (runOps P s ops).1.mem 32 = .ok rb ∧ reprEntries (flatOps m ops).1 32 = .ok rf ∧
      ∀ a v, (a, v) ∈ rf → resident (runOps P s ops).1 a = true ∨ (a, v) ∈ rb := by
  obtain ⟨⟨h1, h2, h3⟩, _⟩ := history_agrees hP ⟨hs, hm, hL⟩ ops ho
  obtain ⟨rb, rf, e1, e2, _, c2⟩ := table_rows h1.toCInvS h2 h3
  exact ⟨rb, rf, e1, e2, c2 (TRep.history hP ⟨hs, hm, hL⟩ ⟨hw, hc⟩ ops ho).cov⟩

/-- Both directions from power-on, for the simulator's policies and EITHER write policy: every
    admissible geometry, LRU or PLRU, any miss penalty, any `.data` preload, any history.  Both tables
    are returned; a backing row outside resident blocks shows the flat value; a flat row is a backing
    row unless its word is resident. -/
theorem table_lags_only_resident_from_reset (g : Geo) (hg : GeoOK g) (wt isLru : Bool) (penalty : Nat)
    (hplru : isLru = false → ∃ d, g.assoc = 2 ^ d) (h : List Spec.ByteStore.Op)
    (ops : List Spec.CacheAbs.Op) (ho : ∀ o, o ∈ ops → o.wf) :
    ∃ rb rf,
      reprEntries (runOps (polOps isLru)
        (preload (DSys.init (polOps isLru) wt g penalty (Mem.empty riscvCfg)) h) ops).1.mem 32 = .ok rb ∧
      reprEntries (flatOps (Spec.ByteStore.run riscvCfg h) ops).1 32 = .ok rf ∧
      (∀ a v, (a, v) ∈ rb →
        resident (runOps (polOps isLru)
          (preload (DSys.init (polOps isLru) wt g penalty (Mem.empty riscvCfg)) h) ops).1 a = false →
        Mem.read (flatOps (Spec.ByteStore.run riscvCfg h) ops).1 32 a = some (.ok v)) ∧
      (∀ a v, (a, v) ∈ rf →
        resident (runOps (polOps isLru)
          (preload (DSys.init (polOps isLru) wt g penalty (Mem.empty riscvCfg)) h) ops).1 a = true ∨
        (a, v) ∈ rb) := by
  have hc := crep_preload g hg isLru ⟨hg.assoc, hplru⟩ wt penalty h
  obtain ⟨⟨h1, hm, h3⟩, _⟩ := history_agrees hc.polOK hc.toRepr ops ho
  obtain ⟨rb, rf, e1, e2, c1, c2⟩ := table_rows h1.toCInvS hm h3
  exact ⟨rb, rf, e1, e2, c1, c2 (TRep.history hc.polOK hc.toRepr (TRep.of_eq (by rw [preload_eq]; rfl)) ops ho).cov⟩

/-- The converse inclusion is FALSE under write-back: the backing store's table can list rows the flat
    run's table does not have.  Witness (one set, one way, one-word blocks, LRU, empty memory): two
    READS.  The first fills the block of 0x4000 — every filled block is marked dirty — the second evicts
    it, so the block is written back and the user's table lists `(0x4000, 0)` although nothing was ever
    written; the flat table is empty.  (The row's value is still current, as `wb_table_row_current`
    says: the flat memory reads 0 there.)  Under write-through the tables coincide (both empty). -/
theorem wb_backing_rows_not_in_flat :
    ∃ (g : Geo) (ops : List Spec.CacheAbs.Op), GeoOK g ∧ (∀ o, o ∈ ops → o.wf ∧ o.accepted) ∧
      reprEntries (runOps lruOps (DSys.init lruOps false g 0 (Mem.empty riscvCfg)) ops).1.mem 32 =
        .ok [(0x4000, 0)] ∧
      reprEntries (flatOps (Mem.empty riscvCfg) ops).1 32 = .ok [] ∧
      resident (runOps lruOps (DSys.init lruOps false g 0 (Mem.empty riscvCfg)) ops).1 0x4000 = false ∧
      Mem.read (flatOps (Mem.empty riscvCfg) ops).1 32 0x4000 = some (.ok 0) ∧
      reprEntries (runOps lruOps (DSys.init lruOps true g 0 (Mem.empty riscvCfg)) ops).1.mem 32 = .ok [] :=
  ⟨Ex.g1, Ex.exReads, Ex.g1_ok, by decide +kernel, by decide +kernel, by decide +kernel, by decide +kernel, by decide +kernel, by decide +kernel⟩

/-- Under write-back not even the ORDER of the common rows is that of the flat run (so the structural
    equality `wt_backing_is_flat_memory` is specific to write-through): on the two-set direct-mapped cache `C03.exGeo`
    (Lemmas/C03Hist.lean), four word
    writes whose blocks are evicted in another order than they were written, then two reads that
    evict the rest.  Both tables have the same four rows, in different insertion order — which is why
    only the address-sorted table the GUI builds is comparable. -/
theorem wb_row_order_differs :
    reprEntries (runOps lruOps (DSys.init lruOps false exGeo 0 (Mem.empty riscvCfg)) Ex.exOrder).1.mem 32 =
        .ok [(0x4004, 2), (0x4000, 1), (0x4008, 4), (0x400C, 3)] ∧
      reprEntries (flatOps (Mem.empty riscvCfg) Ex.exOrder).1 32 =
        .ok [(0x4000, 1), (0x4004, 2), (0x400C, 3), (0x4008, 4)] ∧
      reprEntries (runOps lruOps (DSys.init lruOps true exGeo 0 (Mem.empty riscvCfg)) Ex.exOrder).1.mem 32 =
        .ok [(0x4000, 1), (0x4004, 2), (0x400C, 3), (0x4008, 4)] := by
  decide +kernel

/-! ## Program level -/

/-- Power-on.  The data-memory systems of the two initial states of C03Prog `rel_init` — a fresh cache
    system (any admissible geometry, LRU/PLRU, either write policy `wt`, any penalty) after the `.data`
    preloads `h`, and the flat memory after the same preloads — satisfy `MRelT wt`. -/
theorem table_rel_init (g : Geo) (hg : GeoOK g) (l : Bool) (ha : ArchSim.Lemmas.C09.AssocOK l g.assoc)
    (wt : Bool) (penalty : Nat) (h : List Spec.ByteStore.Op) :
    MRelT wt (.cached l (preload (DSys.init (polOps l) wt g penalty (Mem.empty riscvCfg)) h))
      (.flat (Spec.ByteStore.run riscvCfg h)) :=
  mrelT_init g hg l ha wt penalty h

/-- One `Pipeline.step()` in single-cycle mode whose flat counterpart performs accepted accesses keeps
    `MRelT` (every instruction; loads with their display re-read, stores, print-string). -/
theorem step_preserves_table_rel {w : Bool} {sc sf : St} (h : CacheRel sc sf)
    (ht : MRelT w sc.mem sf.mem) (hacc : StepAccepted sf) :
    MRelT w (singleStep sc).st.mem (singleStep sf).st.mem :=
  (singleStep_sim (MRelT.memSim w) (h.toStRel ht) hacc).2.mem

/-- Write-through, single-cycle runs.  Along any run of a program whose accesses are accepted, after
    every number `n` of steps the backing store of the write-through data cache IS the flat data memory
    of the flat run at the same step, so the memory table shown to the user equals the flat run's. -/
theorem wt_table_current_along_run {sc sf : St} (h : CacheRel sc sf) (ht : MRelT true sc.mem sf.mem)
    (n : Nat) (hacc : ∀ j, j < n → StepAccepted (singleRun j sf)) :
    (singleRun n sc).mem.backing = (singleRun n sf).mem.backing ∧
      dataTable (singleRun n sc).mem = dataTable (singleRun n sf).mem :=
  (singleRun_relT h ht n hacc).table_eq_wt

/-- Either write policy (the content is for write-back), single-cycle runs.  After every number `n` of steps
    both tables are returned; every row `(a, v)` of the user's table whose word is not in a resident
    block shows the value the flat run's memory holds at `a`; and every row of the flat run's table is
    a row of the user's table unless its word is in a resident block. -/
theorem table_lags_only_resident_along_run {w : Bool} {sc sf : St} (h : CacheRel sc sf)
    (ht : MRelT w sc.mem sf.mem) (n : Nat) (hacc : ∀ j, j < n → StepAccepted (singleRun j sf)) :
    ∃ rb rf, dataTable (singleRun n sc).mem = .ok rb ∧ dataTable (singleRun n sf).mem = .ok rf ∧
      (∀ a v, (a, v) ∈ rb → residentAt (singleRun n sc).mem a = false →
        Mem.read (singleRun n sf).mem.backing 32 a = some (.ok v)) ∧
      (∀ a v, (a, v) ∈ rf → residentAt (singleRun n sc).mem a = true ∨ (a, v) ∈ rb) :=
  (singleRun_relT h ht n hacc).rows

/-- The simulation loop itself (`C01.simN n` = `n` calls of `RiscvSimulation.step()`: no step once
    `is_done()`, stop at the first fault), every state in which the flat loop takes a step performing
    accepted accesses: after every `n` the relation `MRelT` holds, hence — write-through — the user's
    table equals the flat run's, and — either policy — the two row statements hold. -/
theorem table_along_sim {w : Bool} {sc sf : St} (h : CacheRel sc sf) (ht : MRelT w sc.mem sf.mem)
    (hacc : ∀ j, singleDone (ArchSim.Lemmas.C01.simN j sf).st = false →
      StepAccepted (ArchSim.Lemmas.C01.simN j sf).st) (n : Nat) :
    (w = true → (ArchSim.Lemmas.C01.simN n sc).st.mem.backing = (ArchSim.Lemmas.C01.simN n sf).st.mem.backing ∧
      dataTable (ArchSim.Lemmas.C01.simN n sc).st.mem = dataTable (ArchSim.Lemmas.C01.simN n sf).st.mem) ∧
    ∃ rb rf, dataTable (ArchSim.Lemmas.C01.simN n sc).st.mem = .ok rb ∧
      dataTable (ArchSim.Lemmas.C01.simN n sf).st.mem = .ok rf ∧
      (∀ a v, (a, v) ∈ rb → residentAt (ArchSim.Lemmas.C01.simN n sc).st.mem a = false →
        Mem.read (ArchSim.Lemmas.C01.simN n sf).st.mem.backing 32 a = some (.ok v)) ∧
      (∀ a v, (a, v) ∈ rf → residentAt (ArchSim.Lemmas.C01.simN n sc).st.mem a = true ∨ (a, v) ∈ rb) := by
  have hr := (simN_sim (MRelT.memSim w) n (h.toStRel ht) hacc).2.mem
  refine ⟨fun hw => ?_, hr.rows⟩
  subst hw
  exact hr.table_eq_wt

/-- Five-stage mode.  Same hypotheses as C03Prog `five_stage_cached_equals_flat` (well-formed
    program without instruction cache, `StOK`, no exit code yet, `RunAccepted` on the flat single-cycle
    run, both five-stage loops stop without a fault after `nc` resp. `nf` cycles).  At the end of the
    two runs: with a write-through data cache the backing store is the flat run's final memory and the
    user's table equals the flat run's; with either policy a row of the user's table outside resident
    blocks shows the flat value and a row of the flat table is a row of the user's table unless its
    word is resident. -/
theorem table_five_stage {w : Bool} {sc sf : St} (h : CacheRel sc sf) (ht : MRelT w sc.mem sf.mem)
    (prog : List Instr) (hp : ProgWF prog) (him : sf.imem = { prog := prog, cache := none })
    (hs : ArchSim.Lemmas.C01.StOK sf) (hx : sf.exitCode = none) (hacc : RunAccepted sf)
    (nc : Nat) (hrc : Pipe.runOK nc (Pipe.PSt.init sc true))
    (hdc : Pipe.isDone (Pipe.pipeRun nc (Pipe.PSt.init sc true)) = true)
    (hpc : ∀ m, m < nc → Pipe.isDone (Pipe.pipeRun m (Pipe.PSt.init sc true)) = false)
    (nf : Nat) (hrf : Pipe.runOK nf (Pipe.PSt.init sf true))
    (hdf : Pipe.isDone (Pipe.pipeRun nf (Pipe.PSt.init sf true)) = true)
    (hpf : ∀ m, m < nf → Pipe.isDone (Pipe.pipeRun m (Pipe.PSt.init sf true)) = false) :
    (w = true →
      (Pipe.pipeRun nc (Pipe.PSt.init sc true)).st.mem.backing =
        (Pipe.pipeRun nf (Pipe.PSt.init sf true)).st.mem.backing ∧
      dataTable (Pipe.pipeRun nc (Pipe.PSt.init sc true)).st.mem =
        dataTable (Pipe.pipeRun nf (Pipe.PSt.init sf true)).st.mem) ∧
    ∃ rb rf, dataTable (Pipe.pipeRun nc (Pipe.PSt.init sc true)).st.mem = .ok rb ∧
      dataTable (Pipe.pipeRun nf (Pipe.PSt.init sf true)).st.mem = .ok rf ∧
      (∀ a v, (a, v) ∈ rb → residentAt (Pipe.pipeRun nc (Pipe.PSt.init sc true)).st.mem a = false →
        Mem.read (Pipe.pipeRun nf (Pipe.PSt.init sf true)).st.mem.backing 32 a = some (.ok v)) ∧
      (∀ a v, (a, v) ∈ rf →
        residentAt (Pipe.pipeRun nc (Pipe.PSt.init sc true)).st.mem a = true ∨ (a, v) ∈ rb) := by
  -- by C03Prog both five-stage runs end, up to `SimP`, in `singleRun k` of their start states (`nd`: not done before
  -- `k`; `a`, `b`: the two `SimP`s); `SimP` includes equality of `.mem`, so `MRelT` is carried over along it
  obtain ⟨_, _, _, _, _, _, _, _, _, k, _, _, _, nd, a, b⟩ :=
    ArchSim.Props.C03Prog.five_stage_cached_equals_flat h prog hp him hs hx hacc nc hrc hdc hpc nf hrf hdf hpf
  have hr := singleRun_relT h ht k (hacc.upto nd)
  rw [← a.1.mem, ← b.1.mem] at hr
  refine ⟨fun hw => ?_, hr.rows⟩
  subst hw
  exact hr.table_eq_wt

/-! ## Non-vacuity -/

section
open ArchSim.Lemmas.C12Prog.Ex

-- the hypotheses of the operation-level theorems are satisfiable: geometry, policy, initial invariant (either write policy),
-- coverage of the initial state, a well-formed history with accepted and rejected operations
example : GeoOK g1 := g1_ok
example : PolicyOK lruOps g1.assoc (Repl.Pol.WF g1.assoc) := pol_ok true _ (by decide) nofun
example (wt : Bool) : CInv (Repl.Pol.WF 1) (DSys.init lruOps wt g1 3 (Mem.empty riscvCfg)) :=
  (ArchSim.Props.C03.init_inv g1 g1_ok (pol_ok true _ (by decide) nofun) wt 3).1
example (wt : Bool) : Cov (DSys.init lruOps wt g1 3 (Mem.empty riscvCfg)) (Mem.empty riscvCfg) :=
  (TRep.of_eq rfl).cov
example (wt : Bool) : (DSys.init lruOps wt g1 3 (Mem.empty riscvCfg)).mem = Mem.empty riscvCfg := rfl
example : ∀ o, o ∈ exH → o.wf := by decide
example : exH.map (fun o => decide o.accepted) = [true, true, true, true, true, false, false] := by decide

-- the history `exH` on the one-set, one-way, one-word cache (write; read: hit under write-back, fill under
-- write-through; write, evicting under write-back only; byte read: hit under write-back, miss and fill under
-- write-through; half-word write into the resident block; two rejected writes).
-- Write-through: the user's table IS the flat table, and the stored keys come in the same order
example :
    reprEntries (runOps lruOps (DSys.init lruOps true g1 3 (Mem.empty riscvCfg)) exH).1.mem 32 =
      .ok [(0x4000, 0x11), (0x4004, 0xBEEF0022)] ∧
    reprEntries (flatOps (Mem.empty riscvCfg) exH).1 32 = .ok [(0x4000, 0x11), (0x4004, 0xBEEF0022)] ∧
    (runOps lruOps (DSys.init lruOps true g1 3 (Mem.empty riscvCfg)) exH).1.mem.keys =
      (flatOps (Mem.empty riscvCfg) exH).1.keys := by decide +kernel
-- Write-back: the evicted block of 0x4000 has been written back and its row is current; the row of
-- 0x4004 is missing — exactly the resident block; nothing else differs
example :
    reprEntries (runOps lruOps (DSys.init lruOps false g1 3 (Mem.empty riscvCfg)) exH).1.mem 32 =
      .ok [(0x4000, 0x11)] ∧
    resident (runOps lruOps (DSys.init lruOps false g1 3 (Mem.empty riscvCfg)) exH).1 0x4000 = false ∧
    Mem.read (flatOps (Mem.empty riscvCfg) exH).1 32 0x4000 = some (.ok 0x11) ∧
    resident (runOps lruOps (DSys.init lruOps false g1 3 (Mem.empty riscvCfg)) exH).1 0x4004 = true ∧
    logical (runOps lruOps (DSys.init lruOps false g1 3 (Mem.empty riscvCfg)) exH).1 0x4006 = 0xEF := by
  decide +kernel
-- … and a stale (not missing) row under write-back: overwrite 0x4000 while its block is resident again
example :
    reprEntries (runOps lruOps (DSys.init lruOps false g1 3 (Mem.empty riscvCfg))
      (exH ++ [.read 32 0x4000 true, .write 8 0x4000 0x77])).1.mem 32 =
      .ok [(0x4000, 0x11), (0x4004, 0xBEEF0022)] ∧
    reprEntries (flatOps (Mem.empty riscvCfg) (exH ++ [.read 32 0x4000 true, .write 8 0x4000 0x77])).1 32 =
      .ok [(0x4000, 0x77), (0x4004, 0xBEEF0022)] ∧
    resident (runOps lruOps (DSys.init lruOps false g1 3 (Mem.empty riscvCfg))
      (exH ++ [.read 32 0x4000 true, .write 8 0x4000 0x77])).1 0x4000 = true := by decide +kernel

-- Program level: the example program of C03Prog (`lui x5,4; addi x1,x0,5; sw x1,0(x5); lw x3,0(x5);
-- lbu x2,1(x5); addi a7,x0,10; ecall`) on the one-set, one-way, one-word LRU cache, write-back (`sc`)
-- and write-through (`scWT`), versus flat memory (`sf`).
open ArchSim.Lemmas.C03Prog.Ex in
example : CacheRel sc sf ∧ MRelT false sc.mem sf.mem ∧ CacheRel scWT sf ∧ MRelT true scWT.mem sf.mem ∧
    ∀ j, j < 7 → StepAccepted (singleRun j sf) := ⟨rel0, trelWB, relWT, trelWT, acc7⟩

-- write-through, after the run (and after the store, step 3): the user's table is the flat run's
open ArchSim.Lemmas.C03Prog.Ex in
example : dataTable (singleRun 7 scWT).mem = .ok [(0x4000, 5)] ∧ dataTable (singleRun 7 sf).mem = .ok [(0x4000, 5)] ∧
    dataTable (singleRun 3 scWT).mem = .ok [(0x4000, 5)] ∧ dataTable (singleRun 2 scWT).mem = .ok [] := by
  decide +kernel

-- write-back: the stored word never leaves the cache, so the user's table stays EMPTY while the flat
-- run's table lists (0x4000, 5): the row is missing, and its block is resident
open ArchSim.Lemmas.C03Prog.Ex in
example : dataTable (singleRun 7 sc).mem = .ok [] ∧ dataTable (singleRun 7 sf).mem = .ok [(0x4000, 5)] ∧
    residentAt (singleRun 7 sc).mem 0x4000 = true := by decide +kernel

-- five-stage mode: the hypotheses of `table_five_stage` hold for the example (write-back: C03Prog's
-- examples; write-through: below), both pipelines stop after 15 calls of `step()`
open ArchSim.Lemmas.C03Prog.Ex in
example : ProgWF prog ∧ sf.imem = { prog := prog, cache := none } ∧ ArchSim.Lemmas.C01.StOK sf ∧
    sf.exitCode = none ∧ RunAccepted sf := ⟨progWF, rfl, stOK_sf, rfl, runAccepted_sf⟩
open ArchSim.Lemmas.C03Prog.Ex in
example : Pipe.runOK 15 (Pipe.PSt.init scWT true) ∧
    Pipe.isDone (Pipe.pipeRun 15 (Pipe.PSt.init scWT true)) = true ∧
    (∀ m, m < 15 → Pipe.isDone (Pipe.pipeRun m (Pipe.PSt.init scWT true)) = false) ∧
    Pipe.runOK 15 (Pipe.PSt.init sf true) ∧ Pipe.isDone (Pipe.pipeRun 15 (Pipe.PSt.init sf true)) = true ∧
    (∀ m, m < 15 → Pipe.isDone (Pipe.pipeRun m (Pipe.PSt.init sf true)) = false) := by decide +kernel
open ArchSim.Lemmas.C03Prog.Ex in
example : dataTable (Pipe.pipeRun 15 (Pipe.PSt.init scWT true)).st.mem = .ok [(0x4000, 5)] ∧
    dataTable (Pipe.pipeRun 15 (Pipe.PSt.init sf true)).st.mem = .ok [(0x4000, 5)] ∧
    dataTable (Pipe.pipeRun 15 (Pipe.PSt.init sc true)).st.mem = .ok [] ∧
    residentAt (Pipe.pipeRun 15 (Pipe.PSt.init sc true)).st.mem 0x4000 = true := by decide +kernel

end

end ArchSim.Props.C12Prog
