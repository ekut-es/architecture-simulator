/-
C01, end to end: for EVERY source text the assembler accepts (without CSR instructions, `fence`, `ebreak`), the
single-cycle run of the loaded program refines the ISA reference semantics.  What remains of the hypotheses of
`Props/C01.lean`: the text loads without error, its program is in the supported set, and the start state is `StOK`
without instruction cache.

`AllSupported prog` = `∀ i ∈ prog, i.op.supported = true` (decidable; `Lemmas/E2EState.lean`); `freshSt` = the power-on state;
`simN n` = `n` calls of `RiscvSimulation.step()`, `stepN n` = `n` raw single-cycle steps; `run` / `iter` = the
reference machine of `Spec/RvSpec.lean`; `α` = the abstraction of `Lemmas/C01Defs.lean`.
-/
import ArchSim.Props.C01
import ArchSim.Props.C04Asm

namespace ArchSim.Props.C01Asm
open ArchSim ArchSim.Rv ArchSim.Asm ArchSim.Spec.RvSpec ArchSim.Lemmas.C01 ArchSim.Lemmas.E2E

/-- Power-on state. Load ANY source text into the power-on simulator. If the assembler accepts it
    and the stored program contains no CSR instruction, `fence` or `ebreak`, then for EVERY `n`, `n` calls of
    the simulation's `step()` in single-cycle mode refine the reference machine run for at most `n` steps on the
    stored program from the abstraction of the loaded state: same registers, memory, pc, output and exit code,
    or the same fault. -/
theorem assembled_sim_refines (text : String) (h : (load freshSt text).err = none)
    (hsup : AllSupported (load freshSt text).st.imem.prog) (n : Nat) :
    αStep (simN n (load freshSt text).st) =
      some (run (load freshSt text).st.imem.prog n (α (load freshSt text).st)) :=
  ArchSim.Props.C01.sim_refines _ (ArchSim.Props.C04Asm.loaded_program_wf freshSt text h hsup).2.2.2 n _
    (load_imem freshSt text rfl) (load_stOK freshSt text freshSt_ok)

/-- Any start state: the same when the text is loaded into ANY state satisfying the state invariant
    `StOK` (for instance after an earlier run) that has no instruction cache; raw steps (`stepN`, which do not
    stop at `is_done()`) and simulation steps (`simN`). -/
theorem assembled_run_refines (s : St) (text : String) (hs : StOK s) (hc : s.imem.cache = none)
    (h : (load s text).err = none) (hsup : AllSupported (load s text).st.imem.prog) (n : Nat) :
    αStep (stepN n (load s text).st) = some (iter (load s text).st.imem.prog n (α (load s text).st)) ∧
    αStep (simN n (load s text).st) = some (run (load s text).st.imem.prog n (α (load s text).st)) :=
  have hp := (ArchSim.Props.C04Asm.loaded_program_wf s text h hsup).2.2.2
  ⟨ArchSim.Props.C01.run_refines _ hp n _ (load_imem s text hc) (load_stOK s text hs),
   ArchSim.Props.C01.sim_refines _ hp n _ (load_imem s text hc) (load_stOK s text hs)⟩

/-- The abstraction of the loaded power-on state, made explicit: all registers zero, pc zero, no output, no exit
    code (the memory is the `.data` image, see `C04Asm.loaded_state_ok` and C05). -/
theorem assembled_initial_state (text : String) :
    (α (load freshSt text).st).pc = 0 ∧ (α (load freshSt text).st).out = "" ∧
    (α (load freshSt text).st).exit = none ∧ ∀ r, (α (load freshSt text).st).x r = 0 := by
  obtain ⟨h1, h2, h3, h4, _⟩ := load_frame freshSt text
  -- as a variable the loaded state keeps the loader out of `show`
  generalize (load freshSt text).st = st at h1 h2 h3 h4 ⊢
  refine ⟨?_, ?_, ?_, ?_⟩
  · show BitVec.ofInt 32 st.pc = 0
    rw [h2]; rfl
  · show st.output = ""
    rw [h3]; rfl
  · show st.exitCode = none
    rw [h4]; rfl
  · intro r
    show BitVec.ofNat 32 (st.regs r.val) = 0
    rw [h1]; rfl

/-! ### non-vacuity (the example text `asmText` of `Lemmas/E2EEx.lean`: a `.data` variable, the pseudo-instruction
`li`, a branch to an in-line label; see `Props/C04Asm.lean`) -/

section
open ArchSim.Lemmas.E2E.Ex

/-- Hypotheses of `assembled_sim_refines` for the example text. -/
example : (load freshSt asmText).err = none ∧ AllSupported (load freshSt asmText).st.imem.prog :=
  ⟨load_asmText.1, asmText_supported⟩

/-- Hypotheses of `assembled_run_refines` on the start state: the power-on state. -/
example : StOK freshSt ∧ freshSt.imem.cache = none := ⟨freshSt_ok, rfl⟩

/-- The model run of the assembled example: done after 5 steps (the `li a0, 0` behind the taken branch is skipped)
    with exit code 7 — the value of the `.data` variable `x`, loaded by `lw`. -/
example : (simN 100 (load freshSt asmText).st).st.exitCode = some 7 ∧
    (simN 100 (load freshSt asmText).st).st.pc = 24 ∧ (simN 100 (load freshSt asmText).st).st.instrs = 5 ∧
    (simN 100 (load freshSt asmText).st).fault = none ∧
    singleDone (simN 100 (load freshSt asmText).st).st = true := by
  rw [load_asmText_st]; decide

/-- The reference run on the assembled program from the abstraction of the loaded state: x10 = 7, pc = 24,
    exit code 7, and the byte at 0x4000 is 7 (instance of `assembled_sim_refines`). -/
example : observe 10 0x4000 (run (load freshSt asmText).st.imem.prog 100 (α (load freshSt asmText).st)) =
    .inr (7#32, 24#32, some 7, 7#8) := by
  rw [load_asmText_st]; decide

end

end ArchSim.Props.C01Asm
