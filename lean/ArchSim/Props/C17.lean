/-
C17 — Displayed values are faithful in all four number representations (formatter part).

`Fmt.nBitRepr number n` models `get_n_bit_representations(number, n)` of
`architecture_simulator/util/integer_representations.py`.  The theorems below read the four produced
strings back with the *independent* readers of `ArchSim/Spec/Digits.lean` (`ofDigits`, `parseSigned`,
`stripSpaces`, `splitSpaces`, `IsRightGrouping`) and state that they denote the `n`-bit
two's-complement value of `number`, for EVERY width `n ≥ 1` and EVERY integer `number`
(negative and over-wide inputs included).

  `unsignedVal n number = (number % 2^n).toNat`              the bit pattern as a natural number
  `signedVal n number   = if u ≥ 2^(n-1) then u - 2^n else u`   its two's-complement reading

(The tables built from the formatter — register table, data-memory table, TOY views — are in
`Props/C17Views.lean`.)
-/
import ArchSim.Model.Fmt
import ArchSim.Spec.Digits
import ArchSim.Lemmas.C17Main

namespace ArchSim.Props.C17
open ArchSim.Fmt ArchSim.Spec.Digits ArchSim.Lemmas.C17

/-! ### what value is displayed -/

/-- The value the displays are measured against is the two's-complement one: the unsigned value is
the `n`-bit pattern of `number` (`BitVec.ofInt n number` read as a natural number, so `< 2^n`), the
signed value is the same pattern read as a signed integer; it lies in `[-2^(n-1), 2^(n-1))` and is
congruent to `number` modulo `2^n`. -/
theorem value_is_twos_complement (n : Nat) (hn : 1 ≤ n) (number : Int) :
    unsignedVal n number = (BitVec.ofInt n number).toNat ∧
    signedVal n number = (BitVec.ofInt n number).toInt ∧
    unsignedVal n number < 2 ^ n ∧
    -(2 : Int) ^ (n - 1) ≤ signedVal n number ∧ signedVal n number < (2 : Int) ^ (n - 1) ∧
    (signedVal n number - number) % (2 : Int) ^ n = 0 :=
  ⟨unsignedVal_eq_bitVec n number, signedVal_eq_bitVec n hn number, unsignedVal_lt n number,
    signedVal_range n hn number⟩

example : unsignedVal 12 (-1) = 4095 ∧ signedVal 12 (-1) = -1 ∧ signedVal 12 2048 = -2048 := by decide +kernel

/-! ### digit round trips -/

/-- Heart of the formatter: for every base from 2 to 16 and EVERY natural number `m`, the digit string
produced by `natStr` (Python `format(m, 'b' | 'd' | 'X')`) reads back as `m`; it has no leading zero
unless `m = 0` (then it is `"0"`); and after zero padding to width `w` it has exactly `w` digits and
still reads back as `m`, whenever `m < base ^ w`. -/
theorem natStr_round_trip (base : Nat) (hb : 2 ≤ base) (hb' : base ≤ 16) (m : Nat) :
    ofDigits base (natStr base m) = some m ∧
    (m ≠ 0 → (natStr base m).head? ≠ some '0') ∧
    (m = 0 → natStr base m = ['0']) ∧
    ∀ w, 1 ≤ w → m < base ^ w →
      ofDigits base (padLeft w (natStr base m)) = some m ∧ (padLeft w (natStr base m)).length = w :=
  ⟨ofDigits_natStr base hb hb' m, natStr_head_ne_zero base hb hb' m,
    fun h => h ▸ natStr_zero base, fun w hw hm => padded_natStr base hb hb' w m hw hm⟩

example : natStr 16 48879 = "BEEF".toList ∧ padLeft 8 (natStr 2 5) = "00000101".toList := by decide +kernel

/-- The signed-decimal printer (Python `str(x)`) round-trips for every integer. -/
theorem intStr_round_trip (x : Int) : parseSigned (intStr x) = some x :=
  parseSigned_intStr x

example : intStr (-2048) = "-2048".toList := by decide +kernel

/-! ### characterisation of `groupify` -/

/-- `groupify g s` only inserts spaces: deleting the spaces of the output gives `s` back (for a
space-free `s`; in general it gives `s` without its spaces). -/
theorem groupify_strip (g : Nat) (hg : 1 ≤ g) (s : List Char) :
    stripSpaces (groupify g s) = stripSpaces s ∧ (' ' ∉ s → stripSpaces (groupify g s) = s) :=
  ⟨stripSpaces_groupify g hg s, stripSpaces_groupify_of_no_space g hg s⟩

/-- `groupify g s` puts the spaces after every `g` characters counted from the right: for non-empty,
space-free `s`, cutting the output at its spaces gives pieces that concatenate to `s`, all of length
exactly `g` except the first, whose length is between 1 and `g`.  Consequently the list of piece
lengths is `[len - g*k, g, …, g]` with `k = (len - 1) / g` copies of `g`. -/
theorem groupify_split (g : Nat) (hg : 1 ≤ g) (s : List Char) (hs : s ≠ []) (hsp : ' ' ∉ s) :
    IsRightGrouping g s (splitSpaces (groupify g s)) ∧
    (splitSpaces (groupify g s)).map List.length
      = (s.length - g * ((s.length - 1) / g)) :: List.replicate ((s.length - 1) / g) g :=
  ⟨splitSpaces_groupify g hg s hs hsp,
    IsRightGrouping.map_length hg (splitSpaces_groupify g hg s hs hsp)⟩

example : groupify 4 "1110000".toList = "111 0000".toList ∧
    splitSpaces (groupify 4 "1110000".toList) = ["111".toList, "0000".toList] := by decide +kernel

/-! ### the four strings of `get_n_bit_representations` -/

/-- Binary string: after deleting the group separators it consists of exactly `n` characters, and
read as a base-2 numeral (most significant digit first) it is the unsigned `n`-bit value. -/
theorem bin_denotes (n : Nat) (hn : 1 ≤ n) (number : Int) :
    ofDigits 2 (stripSpaces (nBitRepr number n).bin.toList) = some (unsignedVal n number) ∧
    (stripSpaces (nBitRepr number n).bin.toList).length = n := by
  rw [bin_strip]
  exact padded_natStr 2 (by decide) (by decide) n _ hn (unsignedVal_lt n number)

/-- Binary string, grouping: it is `groupify 8` of its `n` digits, and cutting it at the spaces gives
groups of exactly 8 digits except the leftmost, which has 1 to 8 (separator after every 8 digits
counted from the right). -/
theorem bin_grouping (n : Nat) (number : Int) :
    (nBitRepr number n).bin.toList = groupify 8 (stripSpaces (nBitRepr number n).bin.toList) ∧
    IsRightGrouping 8 (stripSpaces (nBitRepr number n).bin.toList)
      (splitSpaces (nBitRepr number n).bin.toList) := by
  rw [bin_strip]
  refine ⟨nBitRepr_bin number n, ?_⟩
  rw [nBitRepr_bin]
  exact splitSpaces_groupify 8 (by decide) _
    (padLeft_ne_nil _ _ (natStr_ne_nil _ _))
    (padded_natStr_no_space 2 (by decide) (by decide) _ _)

/-- Unsigned-decimal string: it contains only decimal digits, reads as the unsigned `n`-bit value, and
has no leading zero unless the value is 0 (then it is exactly `"0"`). -/
theorem udec_denotes (n : Nat) (number : Int) :
    ofDigits 10 (nBitRepr number n).udec.toList = some (unsignedVal n number) ∧
    (unsignedVal n number ≠ 0 → (nBitRepr number n).udec.toList.head? ≠ some '0') ∧
    (unsignedVal n number = 0 → (nBitRepr number n).udec.toList = ['0']) := by
  rw [nBitRepr_udec]
  exact ⟨ofDigits_natStr 10 (by decide) (by decide) _,
    natStr_head_ne_zero 10 (by decide) (by decide) _, fun h => h ▸ natStr_zero 10⟩

/-- Hexadecimal string: after deleting the separators it has exactly `⌈n/4⌉ = (n+3)/4` characters,
each an upper-case hex digit (`0-9`, `A-F`), and read in base 16 it is the unsigned `n`-bit value. -/
theorem hex_denotes (n : Nat) (hn : 1 ≤ n) (number : Int) :
    ofDigits 16 (stripSpaces (nBitRepr number n).hex.toList) = some (unsignedVal n number) ∧
    (stripSpaces (nBitRepr number n).hex.toList).length = (n + 3) / 4 ∧
    ∀ c ∈ stripSpaces (nBitRepr number n).hex.toList, isUpperHexDigit c := by
  rw [hex_strip]
  have h := padded_natStr 16 (by decide) (by decide) ((n + 3) / 4) _ (by omega)
    (unsignedVal_lt_hex n number)
  exact ⟨h.1, h.2, padded_natStr_upperHex 16 (by decide) (by decide) _ _⟩

/-- Hexadecimal string, grouping: it is `groupify 2` of its digits, and cutting it at the spaces gives
groups of exactly 2 digits except the leftmost, which has 1 or 2. -/
theorem hex_grouping (n : Nat) (number : Int) :
    (nBitRepr number n).hex.toList = groupify 2 (stripSpaces (nBitRepr number n).hex.toList) ∧
    IsRightGrouping 2 (stripSpaces (nBitRepr number n).hex.toList)
      (splitSpaces (nBitRepr number n).hex.toList) := by
  rw [hex_strip]
  refine ⟨nBitRepr_hex number n, ?_⟩
  rw [nBitRepr_hex]
  exact splitSpaces_groupify 2 (by decide) _
    (padLeft_ne_nil _ _ (natStr_ne_nil _ _))
    (padded_natStr_no_space 16 (by decide) (by decide) _ _)

/-- Signed-decimal string: an optional minus sign followed by decimal digits, denoting the
two's-complement reading of the `n`-bit value (`u - 2^n` if `u ≥ 2^(n-1)`, else `u`). -/
theorem sdec_denotes (n : Nat) (number : Int) :
    parseSigned (nBitRepr number n).sdec.toList = some (signedVal n number) ∧
    signedVal n number =
      (if unsignedVal n number ≥ 2 ^ (n - 1) then (unsignedVal n number : Int) - (2 : Int) ^ n
       else (unsignedVal n number : Int)) := by
  rw [nBitRepr_sdec]
  exact ⟨parseSigned_intStr _, rfl⟩

-- non-vacuity: the hypotheses are only `1 ≤ n`; concrete instances (negative and over-wide inputs)
example : nBitRepr (-1) 12 = ⟨"1111 11111111", "4095", "F FF", "-1"⟩ := by decide +kernel
example : nBitRepr 70000 16 = ⟨"00010001 01110000", "4464", "11 70", "4464"⟩ := by decide +kernel
example : nBitRepr (-2147483648) 32 =
    ⟨"10000000 00000000 00000000 00000000", "2147483648", "80 00 00 00", "-2147483648"⟩ := by decide +kernel
example : nBitRepr 5 1 = ⟨"1", "1", "1", "-1"⟩ := by decide +kernel

/-! ### the widths used by the inspection functions -/

/-- Every width at once: the values the four strings denote, the lengths of the groups of the binary
and the hexadecimal string (first the leftmost, possibly shorter, group), and the `BitVec` reading of
the two values.  `repr32`, `repr16` and `repr12` are the instances with the numerals worked out. -/
theorem repr_width (n : Nat) (hn : 1 ≤ n) (number : Int) :
    let r := nBitRepr number n
    let u := unsignedVal n number
    ofDigits 2 (stripSpaces r.bin.toList) = some u ∧
    (splitSpaces r.bin.toList).map List.length
      = (n - 8 * ((n - 1) / 8)) :: List.replicate ((n - 1) / 8) 8 ∧
    ofDigits 10 r.udec.toList = some u ∧
    ofDigits 16 (stripSpaces r.hex.toList) = some u ∧
    (splitSpaces r.hex.toList).map List.length
      = ((n + 3) / 4 - 2 * (((n + 3) / 4 - 1) / 2)) :: List.replicate (((n + 3) / 4 - 1) / 2) 2 ∧
    parseSigned r.sdec.toList = some (if u ≥ 2 ^ (n - 1) then (u : Int) - (2 : Int) ^ n else u) ∧
    u = (BitVec.ofInt n number).toNat ∧
    (if u ≥ 2 ^ (n - 1) then (u : Int) - (2 : Int) ^ n else u) = (BitVec.ofInt n number).toInt := by
  intro r u
  have hb := IsRightGrouping.map_length (by decide) (bin_grouping n number).2
  have hh := IsRightGrouping.map_length (by decide) (hex_grouping n number).2
  rw [(bin_denotes n hn number).2] at hb
  rw [(hex_denotes n hn number).2.1] at hh
  exact ⟨(bin_denotes n hn number).1, hb, (udec_denotes n number).1,
    (hex_denotes n hn number).1, hh, (sdec_denotes n number).1,
    unsignedVal_eq_bitVec n number, signedVal_eq_bitVec n hn number⟩

/-- RISC-V registers and data-memory words (32 bits, `get_32_bit_representations`): the binary string
is 4 groups of 8 binary digits, the hex string 4 groups of 2 upper-case hex digits, both denote the
unsigned value `number mod 2^32`, as does the decimal string; the signed string denotes that value
read in 32-bit two's complement. -/
theorem repr32 (number : Int) :
    let r := nBitRepr number 32
    let u := unsignedVal 32 number
    ofDigits 2 (stripSpaces r.bin.toList) = some u ∧
    (splitSpaces r.bin.toList).map List.length = [8, 8, 8, 8] ∧
    ofDigits 10 r.udec.toList = some u ∧
    ofDigits 16 (stripSpaces r.hex.toList) = some u ∧
    (splitSpaces r.hex.toList).map List.length = [2, 2, 2, 2] ∧
    parseSigned r.sdec.toList = some (if u ≥ 2147483648 then (u : Int) - 4294967296 else u) ∧
    u = (BitVec.ofInt 32 number).toNat ∧
    (if u ≥ 2147483648 then (u : Int) - 4294967296 else u) = (BitVec.ofInt 32 number).toInt :=
  repr_width 32 (by decide) number

/-- TOY accumulator, instruction register and memory words (16 bits,
`get_16_bit_representations`): 2 groups of 8 binary digits, 2 groups of 2 hex digits, all four
strings denote the value in 16-bit two's complement. -/
theorem repr16 (number : Int) :
    let r := nBitRepr number 16
    let u := unsignedVal 16 number
    ofDigits 2 (stripSpaces r.bin.toList) = some u ∧
    (splitSpaces r.bin.toList).map List.length = [8, 8] ∧
    ofDigits 10 r.udec.toList = some u ∧
    ofDigits 16 (stripSpaces r.hex.toList) = some u ∧
    (splitSpaces r.hex.toList).map List.length = [2, 2] ∧
    parseSigned r.sdec.toList = some (if u ≥ 32768 then (u : Int) - 65536 else u) ∧
    u = (BitVec.ofInt 16 number).toNat ∧
    (if u ≥ 32768 then (u : Int) - 65536 else u) = (BitVec.ofInt 16 number).toInt :=
  repr_width 16 (by decide) number

/-- TOY program counter and addresses (12 bits, `get_12_bit_representations`): the binary string is a
group of 4 digits followed by a group of 8, the hex string one digit followed by a group of 2, all
four strings denote the value in 12-bit two's complement. -/
theorem repr12 (number : Int) :
    let r := nBitRepr number 12
    let u := unsignedVal 12 number
    ofDigits 2 (stripSpaces r.bin.toList) = some u ∧
    (splitSpaces r.bin.toList).map List.length = [4, 8] ∧
    ofDigits 10 r.udec.toList = some u ∧
    ofDigits 16 (stripSpaces r.hex.toList) = some u ∧
    (splitSpaces r.hex.toList).map List.length = [1, 2] ∧
    parseSigned r.sdec.toList = some (if u ≥ 2048 then (u : Int) - 4096 else u) ∧
    u = (BitVec.ofInt 12 number).toNat ∧
    (if u ≥ 2048 then (u : Int) - 4096 else u) = (BitVec.ofInt 12 number).toInt :=
  repr_width 12 (by decide) number

example : unsignedVal 32 (-5) = 4294967291 ∧ unsignedVal 16 70000 = 4464 ∧
    unsignedVal 12 (-2048) = 2048 := by decide +kernel

end ArchSim.Props.C17
