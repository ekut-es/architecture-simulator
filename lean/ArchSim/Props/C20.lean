/-
C20 — TOY two-phase stepping: whole steps, explicit half-cycle calls and single-cycle steps are
equivalent; out-of-order calls raise a sequencing error and change nothing; everything is a no-op
once the program is done.

The vocabulary of the statements (`Inv`, `half`, `rejected`, `weight`, `calls`, `errs`, `rejects`,
`halfCount`) is defined in `ArchSim/Lemmas/ToyStep.lean`.
A `TSim` value contains the whole simulation object: accumulator, pc, memory, the three counters,
the memory-table markers (`addrCur`, `addrNext`, and `nextCycle` from which the table's "current
cycle" column is computed), the visualisation record `vis`, `loaded`, `maxPc`, `started`.
Equality of `TSim` values is therefore equality of every one of these.
-/
import ArchSim.Lemmas.ToyStep

namespace ArchSim.Props.C20
open ArchSim ArchSim.Toy

/-- At an instruction boundary `step()` is exactly `first_cycle_step()` followed by
    `second_cycle_step()` (same state, no error), and while an instruction `i` is loaded this is
    the second-half body applied to the first-half body of `i`. No invariant is needed. -/
theorem step_eq_halves (t : TSim) (h1 : t.nextCycle = 1) :
    stepCall t = secondCycle (firstCycle t).t ∧
    (∀ i, t.s.loaded = some i → stepCall t = ⟨secondBody (firstBody t i) i, false⟩) ∧
    (t.s.loaded = none → stepCall t = ⟨t, false⟩) := by
  refine ⟨?_, ?_, ?_⟩
  · unfold stepCall
    have : (firstCycle t).err = false := by rw [firstCycle_due h1]
    simp [h1, this]
  · exact fun i hl => stepCall_some h1 hl
  · intro hl
    simp [stepCall, firstCycle, secondCycle, h1, hl]

example : demoInc.nextCycle = 1 ∧ demoInc.s.loaded = some ⟨1, 5⟩ := by decide

/-- `single_step()` is the half-cycle that is due: the first half at `next_cycle = 1`, the
    second half otherwise; under the sequencing invariant it is never rejected and performs
    exactly `half`. -/
theorem single_eq_due (t : TSim) :
    (t.nextCycle = 1 → singleCall t = firstCycle t) ∧
    (t.nextCycle ≠ 1 → singleCall t = secondCycle t) ∧
    (Inv t → singleCall t = ⟨half t, false⟩) := by
  refine ⟨fun h => by simp [singleCall, h], fun h => by simp [singleCall, h], ?_⟩
  intro h
  rcases h.1 with h1 | h2
  · simp [singleCall, h1, firstCycle_due h1]
  · simp [singleCall, h2, secondCycle_due h2]

/-- The sequencing invariant holds for a new simulation and after loading any program into a
    simulation that is at an instruction boundary (`load_program` keeps `next_cycle`). -/
theorem inv_initial :
    Inv {} ∧ ∀ (t : TSim) (is : List TInstr) (d : List (Nat × Nat)), t.nextCycle = 1 →
      Inv (loadImage t is d) :=
  ⟨Inv_init, fun t is d h1 => Inv_of_one (by rw [(loadImage_next t is d).1, h1])⟩

/-- One call: under the sequencing invariant every API call is classified exactly:
    it raises the sequencing error iff it is `first` at `next_cycle = 2`, `second` at
    `next_cycle = 1` or `step` at `next_cycle = 2` on a program that is not done (`rejected`);
    a rejected call leaves the state unchanged; an accepted call performs `weight` due
    half-cycles (2 for `step`, 1 for the others, 0 when done); and the invariant is preserved. -/
theorem call_classified (t : TSim) (c : Call) (h : Inv t) :
    (call t c).err = rejected t c ∧
    (call t c).t = iter half (weight t c) t ∧
    ((call t c).err = true → (call t c).t = t) ∧
    Inv (call t c).t := by
  have hs := call_spec h c
  refine ⟨by rw [hs], by rw [hs], ?_, Inv_call h c⟩
  rw [hs]; intro he
  simp only at he
  simp [weight, he]

/-- Normal form of call sequences. For every finite sequence of the four API calls, made from
    any state satisfying the sequencing invariant (errors being caught by the caller), the final
    state is the due half-cycle `half` iterated `halfCount` times, where `halfCount` adds up the
    half-cycles of the accepted calls; the calls that raise are exactly those classified by
    `rejected` (position by position); and the invariant holds at the end. -/
theorem calls_normal_form (t0 : TSim) (cs : List Call) (h : Inv t0) :
    calls t0 cs = iter half (halfCount t0 cs) t0 ∧
    errs t0 cs = rejects t0 cs ∧
    Inv (calls t0 cs) := by
  induction cs generalizing t0 with
  | nil => exact ⟨rfl, rfl, h⟩
  | cons c cs ih =>
    have ⟨a, b, d⟩ := ih _ (Inv_call h c)
    refine ⟨?_, ?_, d⟩
    · simp only [calls, halfCount, a, iter_add]
      congr 1
      rw [call_spec h c]
    · simp only [errs, rejects, b]
      rw [call_spec h c]

/-- Non-vacuity: a mixed history on the demo program `demoInc` with four rejected calls. -/
example : Inv demoInc ∧
    errs demoInc [.second, .first, .step, .first, .second, .single, .step] =
      [true, false, true, true, false, false, true] ∧
    halfCount demoInc [.second, .first, .step, .first, .second, .single, .step] = 3 := by
  decide

/-- Once the program is done, under the sequencing invariant all four calls return normally and leave the
    state unchanged. -/
theorem done_noop (t : TSim) (c : Call) (h : Inv t) (hd : isDone t = true) :
    call t c = ⟨t, false⟩ :=
  call_done h hd c

/-- Without the invariant the statement would be false for `step()`, which checks the sequencing
    before the done test. The four calls from a new simulation and loads at an instruction boundary never
    reach `done ∧ next_cycle = 2` (`inv_initial`, `call_classified`); loading the empty program after a first
    half-cycle does, and `step()` then raises. -/
example : ∃ t : TSim, isDone t = true ∧ (stepCall t).err = true :=
  ⟨{ nextCycle := 2 }, by decide⟩

/-- Non-vacuity for `done_noop`: the demo program `demoInc` is done after three steps. -/
example : isDone (calls demoInc [.step, .step, .step]) = true ∧ Inv (calls demoInc [.step, .step, .step]) := by
  decide

/-- The three stepping styles agree at every instruction boundary: from any boundary state,
    `n` whole steps, `n` pairs (first half, second half) and `2n` single-cycle steps all lead to
    the same simulation state — `half` iterated `2n` times — and none of these calls raises. -/
theorem three_styles_agree (t0 : TSim) (h1 : t0.nextCycle = 1) (n : Nat) :
    calls t0 (List.replicate n .step) = iter half (2 * n) t0 ∧
    calls t0 (List.replicate n [Call.first, Call.second]).flatten = iter half (2 * n) t0 ∧
    calls t0 (List.replicate (2 * n) .single) = iter half (2 * n) t0 ∧
    errs t0 (List.replicate n .step) = List.replicate n false ∧
    errs t0 (List.replicate n [Call.first, Call.second]).flatten = List.replicate (2 * n) false ∧
    errs t0 (List.replicate (2 * n) .single) = List.replicate (2 * n) false := by
  induction n generalizing t0 with
  | zero => simp [calls, errs]
  | succ n ih =>
    have hb := half_half_next h1
    have ⟨a, b, c, d, e, f⟩ := ih (half (half t0)) hb
    have hstep := stepCall_boundary h1
    have hf1 := firstCycle_due h1
    have hs1 : singleCall t0 = ⟨half t0, false⟩ := by simp [singleCall, h1, hf1]
    obtain ⟨h2, hs2⟩ := second_after_first h1
    have e2 : 2 * (n + 1) = 2 * n + 1 + 1 := by omega
    have hi : iter half (2 * n + 1 + 1) t0 = iter half (2 * n) (half (half t0)) := rfl
    rw [e2, hi]
    -- peel one round off each of the six lists: its calls are the facts above, the rest is `ih`
    simp only [List.replicate_succ, List.flatten_cons, List.cons_append, List.nil_append, calls, errs,
      call, hstep, hf1, h2, hs1, hs2, a, b, c, d, e, f, and_self]

/-- Non-vacuity for `three_styles_agree`: the demo program `demoInc` starts at a boundary, is not done, and
    after two instructions (in any of the styles) the accumulator is 8 and four cycles have been
    counted; after the third instruction `mem[5] = 8`. -/
example : demoInc.nextCycle = 1 ∧ isDone demoInc = false ∧
    (calls demoInc (List.replicate 2 .step)).s.accu = 8 ∧
    (calls demoInc (List.replicate 4 .single)).s.cycles = 4 ∧
    rd (calls demoInc (List.replicate 3 .step)).s 5 = 8 := by
  decide

end ArchSim.Props.C20
