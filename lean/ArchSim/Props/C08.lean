/-
C08 — hazard detection off = interlock-free pipeline: no decode stall, stale register reads, and programs that
do not need the interlock. `NoIdStall` is defined in `Lemmas/C08Stall.lean`, `HazardFree` and `pad` in
`Lemmas/C08Pad.lean`, `regsAfterWB` and the stage outputs of a cycle in `Lemmas/C07Finish.lean`.
-/
import ArchSim.Lemmas.C08Stall
import ArchSim.Lemmas.C08Pad
import ArchSim.Lemmas.C07SkelStep
import ArchSim.Spec.Iter

namespace ArchSim.Props.C08
open ArchSim ArchSim.Rv ArchSim.Pipe ArchSim.Lemmas.C02Split ArchSim.Lemmas.C07 ArchSim.Lemmas.C08

/-- With hazard detection off the ID stage never sets its stall signal on the latch it produces. -/
theorem idStage_no_stall (regs : Nat → Nat) (inp l1 l2 : Option Latch) :
    latchStall (idStage false regs inp l1 l2) = false :=
  latchStall_idStage_off regs inp l1 l2

/-! ### no decode-stage stall -/

/-- The initial pipeline has no decode stall in progress. -/
theorem no_id_stall_init (s : St) (hz : Bool) : NoIdStall (PSt.init s hz) := by
  intro st h; simp [PSt.init] at h

/-- With hazard detection off a step (faulting or not) never starts a decode stall: if no decode stall
    (`k = 1`) is in progress before the step, none is afterwards. -/
theorem no_id_stall (p : PSt) (hz : p.hazard = false) (hp : NoIdStall p) : NoIdStall (step p).p :=
  step_p_cases p NoIdStall hp hp (finishStep_noIdStall p _ _ _ _ _ _ (nID_no_stall p hz) hp)

/-- `step` never changes the hazard-detection flag. -/
theorem hazard_flag_constant (p : PSt) : (step p).p.hazard = p.hazard :=
  step_hazard p

/-- Hence along any run from the initial state with detection off no decode stall is ever recorded. -/
theorem no_id_stall_run (s : St) (n : Nat) :
    NoIdStall (iter (fun p => (step p).p) n (PSt.init s false)) ∧
    (iter (fun p => (step p).p) n (PSt.init s false)).hazard = false := by
  induction n with
  | zero => exact ⟨no_id_stall_init s false, rfl⟩
  | succ n ih =>
    rw [iter_succ']
    exact ⟨no_id_stall _ ih.2 ih.1, by rw [hazard_flag_constant]; exact ih.2⟩

/-- With detection off the `stalls` counter goes up by one exactly in the exception-free cycles in
    which the pipeline is not already stalled and the EX stage raises its stall signal (which it does exactly for an
    ecall that must wait: `ex_stall_is_ecall_drain`). -/
theorem stalls_count_ex_only (p : PSt) (hz : p.hazard = false) (hp : NoIdStall p) :
    (step p).p.st.stalls = p.st.stalls +
      (if (step p).fault = none ∧ p.stalled = none ∧ latchStall (exO p).latch = true then 1 else 0) := by
  rw [step_stalls, pickStall_off_eq _ _ _ (nID_no_stall p hz) hp]
  cases hs : p.stalled <;> cases hl : latchStall (exO p).latch <;> simp

/-- EX raises its stall signal exactly for an ecall that must wait for older instructions (an ecall drain). -/
theorem ex_stall_is_ecall_drain (s : St) (inp l2 l3 : Option Latch) :
    latchStall (exStage s inp l2 l3).latch = true ↔
      ∃ d, inp = some d ∧ d.instr.op = .ecall ∧ ecallMustWait d l2 l3 = true := by
  cases inp with
  | none => simp [exStage_none, latchStall]
  | some d =>
    rcases exStage_cases s d l2 l3 with ⟨hop, h⟩ | ⟨hop, _, _, h⟩ | ⟨hop, hw, h⟩ | ⟨hop, hw, h⟩ <;> rw [h]
    · simp [latchStall, hop]
    · simp [latchStall, exBase, hop]
    · simp [latchStall, hop, hw]
    · unfold ecallRun
      split <;> simp [latchStall, exBase, hw]

/-! ### stale-read semantics -/

/-- Only WB writes registers: after any step, faulting or not, the register file is the old one with
    this cycle's write-back of the MEM/WB register applied. -/
theorem regs_written_by_wb_only (p : PSt) : (step p).p.st.regs = regsAfterWB p.l3 p.st.regs :=
  step_p_cases p (·.st.regs = regsAfterWB p.l3 p.st.regs) (exO_regs p) (meO_regs p)
    ((congrArg St.regs (finishStep_st ..)).trans (meO_regs p))

/-- The ID stage reads the register file after this cycle's write-back and before anything else: its
    output is `idStage` on the registers `regsAfterWB p.l3 p.st.regs`. -/
theorem id_reads_after_wb (p : PSt) :
    nID p = idStage p.hazard (regsAfterWB p.l3 p.st.regs) (idInput p) p.l1 p.l2 := by
  unfold nID; rw [sWB_regs]

/-- No forwarding: the operands latched for the instruction in ID are read from that register file,
    independently of the instructions in the ID/EX and EX/MEM registers — a producer one or two slots
    ahead has not written yet, so the consumer sees the old value; a producer three slots ahead (in
    MEM/WB) has. -/
theorem id_operands_stale (p : PSt) (f : Latch) (h : idInput p = some f) :
    ∃ x, nID p = some x ∧ x.instr = f.instr ∧ x.addr = f.addr ∧
      x.rr = accessRegs f.instr (regsAfterWB p.l3 p.st.regs) := by
  rw [id_reads_after_wb, h, idStage_some]
  exact ⟨_, rfl, rfl, rfl, rfl⟩

/-- In an exception-free step the new ID/EX register is that ID output (or empty after a flush). -/
theorem id_output_latched (p : PSt) (h : (step p).fault = none) :
    (step p).p.l1 = nID p ∨ (step p).p.l1 = none := by
  have hf := (Lemmas.C07.step_fault_none_iff p).1 h
  obtain ⟨_, _, _, _, _, _, he, _, h1, _⟩ :=
    finishStep_shape p (meO p).st (nIF p) (nID p) (exO p).latch (meO p).latch (nWB p)
  rw [step_ok p hf.1 hf.2, he]
  exact h1

/-- When the consumer has no register conflict with a producer, the producer's (later) write-back does
    not change the operands the consumer latched: the stale read of the interlock-free pipeline is then
    the read single-cycle mode would make. -/
theorem stale_read_harmless (c : Instr) (m : Latch) (regs : Nat → Nat) (hw : m.wreg = writeReg m.instr)
    (h : conflict c m.instr = false) : accessRegs c (wbRegs m regs) = accessRegs c regs := by
  refine accessRegs_congr c _ _ fun r hr => wbRegs_frame m regs r fun hm => ?_
  -- `r` is read by `c` and written by `m`: without a conflict it is `x0`
  rw [accessRegs_a1 c _ (fun _ => 0), accessRegs_a2 c _ (fun _ => 0)] at hr
  unfold conflict at h
  rw [← hw, hm] at h
  have hrd : readsReg c r = true := by unfold readsReg; rcases hr with e | e <;> simp [e]
  simpa [hrd] using h

/-- With detection off the pipeline simulates the schedule skeleton with the interlock rule removed:
    the skeleton's ID stall signal is constantly false, while the erasure equation (`erase` commutes
    with every exception-free cycle; redirects and ecall draining are the skeleton's) still holds. -/
theorem skeleton_interlock_off (p : PSt) (hz : p.hazard = false) (h : (step p).fault = none) :
    ArchSim.Spec.Skeleton.idStallSig (erase p) = false ∧
    erase (step p).p = ArchSim.Spec.Skeleton.step (erase p) (outcomes p) :=
  ⟨by unfold ArchSim.Spec.Skeleton.idStallSig; rw [show (erase p).hazard = false from hz]; split <;> rfl,
    erase_step p h⟩

/-! ### hazard-free programs and nop padding -/

/-- Padding every instruction with two `addi x0,x0,0` makes any program hazard-free: no instruction
    reads a non-x0 register written by one of the two instructions before it. Of any two neighbours in a padded
    program one is a nop, which reads only x0 and writes only x0. -/
theorem pad_hazard_free (prog : List Instr) : HazardFree (pad prog) := by
  intro j k c w hj hk h1 h2
  by_cases hj3 : j % 3 = 0
  · have hk3 : k % 3 ≠ 0 := by omega
    rw [pad_off prog k w hk hk3]
    simp [conflict, writeReg, nop, Op.ty]
  · rw [pad_off prog j c hj hj3]
    unfold conflict
    split
    · rfl
    · rename_i r _
      by_cases hr : r = 0
      · simp [hr]
      · simp [readsReg, accessRegs, nop, Op.ty, hr]; omega

/-- The padded program has the original instruction `m` at index `3 m` and is three times as long. -/
theorem pad_layout (prog : List Instr) (m : Nat) :
    (pad prog)[3 * m]? = prog[m]? ∧ (pad prog).length = 3 * prog.length :=
  ⟨pad_at prog m, pad_length prog⟩

/-- In a hazard-free program the decode hazard test — even with detection on — is negative whenever the
    ID/EX and EX/MEM registers are empty or hold program instructions one or two places before the
    instruction in decode (its fall-through neighbours): no interlock would ever fire. -/
theorem hazard_free_no_interlock (prog : List Instr) (hfree : HazardFree prog) (hz : Bool) (a : Nat)
    (c : Instr) (hc : prog[a]? = some c) (regs : Nat → Nat) (l1 l2 : Option Latch)
    (h1 : ∀ x, l1 = some x → ∃ b, b < a ∧ a ≤ b + 2 ∧ prog[b]? = some x.instr)
    (h2 : ∀ x, l2 = some x → ∃ b, b < a ∧ a ≤ b + 2 ∧ prog[b]? = some x.instr) :
    idStall hz (accessRegs c regs) l1 l2 = false :=
  idStall_hazardFree prog hfree hz a c hc regs l1 l2 h1 h2

/-! ### Non-vacuity -/

/-- `addi x1,x0,5 ; add x2,x1,x1` has a distance-1 dependence; its padding has none. -/
def depProg : List Instr :=
  [{ op := .addi, rd := 1, rs1 := 0, imm := 5 }, { op := .add, rd := 2, rs1 := 1, rs2 := 1 }]

example : ¬ HazardFree depProg := by decide
example : HazardFree (pad depProg) := pad_hazard_free depProg
example : (pad depProg).length = 6 := by decide

/-- A fresh state with uncached program `prog` and flat memory. -/
def stOf (prog : List Instr) : St :=
  { regs := fun _ => 0, pc := 0, mem := .flat (Mem.Mem.empty Mem.riscvCfg),
    imem := { prog := prog, cache := none }, output := "", exitCode := none, cycles := 0,
    instrs := 0, branches := 0, procs := 0, stalls := 0, flushes := 0 }

-- With detection off the dependent pair reads the stale x1 (x2 = 0), the padded program the new one
-- (x2 = 10), and neither ever records a stall.
example : (iter (fun p => (step p).p) 6 (PSt.init (stOf depProg) false)).st.regs 2 = 0 ∧
    (iter (fun p => (step p).p) 6 (PSt.init (stOf depProg) false)).st.stalls = 0 ∧
    (iter (fun p => (step p).p) 10 (PSt.init (stOf (pad depProg)) false)).st.regs 2 = 10 ∧
    (iter (fun p => (step p).p) 10 (PSt.init (stOf (pad depProg)) false)).st.stalls = 0 ∧
    isDone (iter (fun p => (step p).p) 10 (PSt.init (stOf (pad depProg)) false)) = true := by
  decide

end ArchSim.Props.C08
