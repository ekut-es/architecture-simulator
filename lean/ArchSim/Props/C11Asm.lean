/-
C11 (program-level clause), end to end: for EVERY source text the assembler accepts and EVERY instruction-cache
configuration, the loaded program gives the same results with the instruction cache as without it, in both pipeline
modes.  What remains as hypotheses: the text loads without error, the start state has no instruction cache of its own
(and, for five-stage mode, no exit code yet), the associativity of `c` suits its policy, and the hypotheses about the
five-stage RUNS.

`withICache` is defined in `Lemmas/E2ECache.lean`.
`s0` = the state before the load; `withICache s0 c` = `s0` with the instruction cache `c`; `s` / `t` = the states
after loading the same text without / with the instruction cache. `load` resets the instruction cache it finds
(`ICache.reset`: same configuration, contents and counters cleared).
-/
import ArchSim.Props.C11Prog
import ArchSim.Props.C04Asm
import ArchSim.Lemmas.E2ECache

namespace ArchSim.Props.C11Asm
open ArchSim ArchSim.Rv ArchSim.Asm ArchSim.Cache ArchSim.Pipe ArchSim.Lemmas.E2E
open ArchSim.Lemmas.C09 ArchSim.Lemmas.C11 ArchSim.Lemmas.C11Prog

/-- Loading ANY text into `s0` (no instruction cache) and into `s0` with an instruction cache `c` of an
    admissible associativity (`AssocOK`): same error, same program; the two loaded states agree on everything but
    the instruction cache (`EqC`), the loaded cache is the reset cache `c.reset`, and it satisfies C11's invariant
    `IInv` — the hypotheses of all C11Prog theorems. -/
theorem loaded_icache_state (s0 : St) (hc : s0.imem.cache = none) (c : ICache) (ha : AssocOK c.isLru c.geo.assoc)
    (text : String) :
    (load (withICache s0 c) text).err = (load s0 text).err ∧
    EqC (load s0 text).st (load (withICache s0 c) text).st ∧
    (load s0 text).st.imem.prog = (load (withICache s0 c) text).st.imem.prog ∧
    (load s0 text).st.imem.cache = none ∧
    (load (withICache s0 c) text).st.imem.cache = some c.reset ∧
    IInv (load (withICache s0 c) text).st.imem c.reset := by
  obtain ⟨he, hst⟩ := load_withICache s0 c text
  obtain ⟨h1, h2, h3⟩ := eqC_of_icache hst
  exact ⟨he, h1, h2, load_nocache s0 text hc, h3, ArchSim.Props.C11.inv_init _ c.isLru c.geo c.penalty ha⟩

/-- Single-cycle mode. For every accepted text and every number `n` of single-cycle steps:
    instruction cache off versus on, the registers, data memory system, output, exit code, pc and the instruction /
    branch / procedure counters are equal, `is_done()` agrees and the next step raises the same fault (or none).
    No condition on the instructions (CSR forms, `fence`, `ebreak` included). -/
theorem assembled_icache_run_equal (s0 : St) (hc : s0.imem.cache = none) (c : ICache)
    (ha : AssocOK c.isLru c.geo.assoc) (text : String) (s t : St) (hs : s = (load s0 text).st)
    (ht : t = (load (withICache s0 c) text).st) (h : (load s0 text).err = none) (n : Nat) :
    (Lemmas.C11.singleRun n s).regs = (Lemmas.C11.singleRun n t).regs ∧
    (Lemmas.C11.singleRun n s).mem = (Lemmas.C11.singleRun n t).mem ∧
    (Lemmas.C11.singleRun n s).output = (Lemmas.C11.singleRun n t).output ∧
    (Lemmas.C11.singleRun n s).exitCode = (Lemmas.C11.singleRun n t).exitCode ∧
    (Lemmas.C11.singleRun n s).pc = (Lemmas.C11.singleRun n t).pc ∧
    (Lemmas.C11.singleRun n s).instrs = (Lemmas.C11.singleRun n t).instrs ∧
    (Lemmas.C11.singleRun n s).branches = (Lemmas.C11.singleRun n t).branches ∧
    (Lemmas.C11.singleRun n s).procs = (Lemmas.C11.singleRun n t).procs ∧
    singleDone (Lemmas.C11.singleRun n s) = singleDone (Lemmas.C11.singleRun n t) ∧
    (singleStep (Lemmas.C11.singleRun n s)).fault = (singleStep (Lemmas.C11.singleRun n t)).fault := by
  obtain ⟨_, h1, h2, h3, h4, h5⟩ := loaded_icache_state s0 hc c ha text
  have hl := load_prog_le s0 text
  rw [← hs] at h1 h2 h3 hl
  rw [← ht] at h1 h2 h4 h5
  exact ArchSim.Props.C11Prog.icache_run_equal h1 h2 h3 hl h4 h5 n

/-- Five-stage mode. For every accepted text (no condition on the instructions): if the
    five-stage loop stops without a fault after `n` cycles without the instruction cache and after `m` cycles with
    it, the final registers, data memory system, output, exit code, retired / branch / procedure counts and pc are
    the same (`SimP`), and the same instruction addresses retire in the same order. -/
theorem assembled_icache_five_stage_results (s0 : St) (hc : s0.imem.cache = none) (hx : s0.exitCode = none)
    (c : ICache) (ha : AssocOK c.isLru c.geo.assoc) (text : String) (s t : St) (hs : s = (load s0 text).st)
    (ht : t = (load (withICache s0 c) text).st) (h : (load s0 text).err = none)
    (n : Nat) (hrn : runOK n (PSt.init s true)) (hdn : isDone (pipeRun n (PSt.init s true)) = true)
    (hpn : ∀ j, j < n → isDone (pipeRun j (PSt.init s true)) = false)
    (m : Nat) (hrm : runOK m (PSt.init t true)) (hdm : isDone (pipeRun m (PSt.init t true)) = true)
    (hpm : ∀ j, j < m → isDone (pipeRun j (PSt.init t true)) = false) :
    SimP (pipeRun n (PSt.init s true)).st (pipeRun m (PSt.init t true)).st ∧
      retireLog n (PSt.init s true) = retireLog m (PSt.init t true) := by
  obtain ⟨_, h1, h2, h3, h4, h5⟩ := loaded_icache_state s0 hc c ha text
  have hl := load_prog_le s0 text
  have hp := load_pipeProgOK s0 text
  have hx' := (load_exitCode s0 text).trans hx
  rw [← hs] at h1 h2 h3 hl hp hx'
  rw [← ht] at h1 h2 h4 h5
  obtain ⟨r1, r2, _⟩ := ArchSim.Props.C11Prog.icache_five_stage_results h1 h2 h3 hl h4 h5 hp hx'
    n hrn hdn hpn m hrm hdm hpm
  exact ⟨r1, r2⟩

/-! ### non-vacuity (the example text `asmText` of `Lemmas/E2EEx.lean`; instruction cache: one set, one way,
two-word blocks, LRU, penalty 7 — `exCache1` of `Lemmas/C11ProgPipe.lean`) -/

section
open ArchSim.Lemmas.E2E.Ex

/-- Hypotheses of `loaded_icache_state` / `assembled_icache_run_equal` for the example. -/
example : freshSt.imem.cache = none ∧ freshSt.exitCode = none ∧ AssocOK exCache1.isLru exCache1.geo.assoc ∧
    (load freshSt asmText).err = none :=
  ⟨rfl, rfl, ⟨by decide, fun h => by cases h⟩, load_asmText.1⟩

/-- Hypotheses of `assembled_icache_five_stage_results` for the example: both five-stage loops run 14 fault-free
    calls of `step()` and are done exactly then. -/
example : runOK 14 (PSt.init (load freshSt asmText).st true) ∧
    isDone (pipeRun 14 (PSt.init (load freshSt asmText).st true)) = true ∧
    (∀ j, j < 14 → isDone (pipeRun j (PSt.init (load freshSt asmText).st true)) = false) ∧
    runOK 14 (PSt.init (load (withICache freshSt exCache1) asmText).st true) ∧
    isDone (pipeRun 14 (PSt.init (load (withICache freshSt exCache1) asmText).st true)) = true ∧
    (∀ j, j < 14 → isDone (pipeRun j (PSt.init (load (withICache freshSt exCache1) asmText).st true)) = false) := by
  rw [load_asmText_icache, load_asmText_st]; decide

/-- What the two runs compute: exit code 7 in both; the instruction-cache miss penalties show in the cycle counter
    only (14 cycles without, 35 with the cache). -/
example : (pipeRun 14 (PSt.init (load freshSt asmText).st true)).st.exitCode = some 7 ∧
    (pipeRun 14 (PSt.init (load (withICache freshSt exCache1) asmText).st true)).st.exitCode = some 7 ∧
    (pipeRun 14 (PSt.init (load freshSt asmText).st true)).st.cycles = 14 ∧
    (pipeRun 14 (PSt.init (load (withICache freshSt exCache1) asmText).st true)).st.cycles = 35 := by
  rw [load_asmText_icache, load_asmText_st]; decide

end

end ArchSim.Props.C11Asm
