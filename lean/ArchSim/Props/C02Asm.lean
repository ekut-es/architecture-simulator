/-
C02, end to end: for EVERY source text the assembler accepts (without CSR instructions, `fence`, `ebreak`), the
five-stage pipeline with hazard detection, started on the loaded program from the loaded state, is equivalent
to single-cycle mode. The hypotheses `ProgWF` / `SOK` of `Props/C02Main.lean` are discharged by `load_progWF_pipe`
and `load_sok` (`Lemmas/E2EState.lean`); what remains: the text loads without error into a `StOK` state without
instruction cache and exit code, its program is in the supported set (`AllSupported`, E2EState), and the hypotheses
about the RUN (fault-free, runs until `is_done()`).

`pipeRun`, `runOK`, `retireLog` are defined in `Spec/PipeSeq.lean`, `isDone`, `PSt.init st true` (hazard detection
on) in `Model/Pipe.lean`, `singleRun`, `singleTrace` in `Lemmas/C02Compose.lean`, `load`, `freshSt` in `Model/Asm.lean`,
`StOK` in `Lemmas/C01Defs.lean`.
-/
import ArchSim.Props.C02Main
import ArchSim.Props.C04Asm

namespace ArchSim.Props.C02Asm
open ArchSim ArchSim.Rv ArchSim.Asm ArchSim.Pipe ArchSim.Lemmas.E2E

/-- C02's main theorem for loaded programs, any start state. Load ANY source text into a state `s` that satisfies `StOK`,
    has no instruction cache and has not exited (for instance the power-on state). If the assembler accepts the
    text and the stored program has no CSR instruction, `fence` or `ebreak`, and the five-stage loop
    `while not is_done(): step()` (hazard detection on) stops after `n` cycles without a fault, then the
    single-cycle loop from the same loaded state stops after `k ≤ n` fault-free steps with the same registers,
    data memory, output, exit code, instruction / branch / procedure counts and pc, and the addresses leaving
    write-back are exactly the addresses single-cycle mode executes. -/
theorem assembled_pipe_equals_single_cycle (s : St) (text : String) (hs : ArchSim.Lemmas.C01.StOK s)
    (hc : s.imem.cache = none) (hx : s.exitCode = none) (h : (load s text).err = none)
    (hsup : AllSupported (load s text).st.imem.prog) (n : Nat)
    (hr : runOK n (PSt.init (load s text).st true))
    (hd : isDone (pipeRun n (PSt.init (load s text).st true)) = true)
    (hprev : ∀ m, m < n → isDone (pipeRun m (PSt.init (load s text).st true)) = false) :
    ∃ k, k ≤ n ∧
      (∀ j, j < k → (singleStep (singleRun j (load s text).st)).fault = none ∧
        singleDone (singleRun j (load s text).st) = false) ∧
      singleDone (singleRun k (load s text).st) = true ∧
      (pipeRun n (PSt.init (load s text).st true)).st.regs = (singleRun k (load s text).st).regs ∧
      (pipeRun n (PSt.init (load s text).st true)).st.mem = (singleRun k (load s text).st).mem ∧
      (pipeRun n (PSt.init (load s text).st true)).st.output = (singleRun k (load s text).st).output ∧
      (pipeRun n (PSt.init (load s text).st true)).st.exitCode = (singleRun k (load s text).st).exitCode ∧
      (pipeRun n (PSt.init (load s text).st true)).st.instrs = (singleRun k (load s text).st).instrs ∧
      (pipeRun n (PSt.init (load s text).st true)).st.branches = (singleRun k (load s text).st).branches ∧
      (pipeRun n (PSt.init (load s text).st true)).st.procs = (singleRun k (load s text).st).procs ∧
      (pipeRun n (PSt.init (load s text).st true)).st.pc = (singleRun k (load s text).st).pc ∧
      retireLog n (PSt.init (load s text).st true) = singleTrace k (load s text).st :=
  ArchSim.Props.C02Main.pipe_equals_single_cycle _ (load_progWF_pipe s text hsup) _ (load_sok s text hs hc)
    (by rw [load_exitCode]; exact hx) n hr hd hprev

/-- Power-on state: the hypotheses on the start state are discharged too. Only "the assembler
    accepts the text", "no CSR / fence / ebreak" and the hypotheses on the five-stage run remain; the conclusion
    is stated for registers, output, exit code and the retired addresses (the full list is in
    `assembled_pipe_equals_single_cycle`). -/
theorem assembled_pipe_equals_single_cycle_power_on (text : String) (h : (load freshSt text).err = none)
    (hsup : AllSupported (load freshSt text).st.imem.prog) (n : Nat)
    (hr : runOK n (PSt.init (load freshSt text).st true))
    (hd : isDone (pipeRun n (PSt.init (load freshSt text).st true)) = true)
    (hprev : ∀ m, m < n → isDone (pipeRun m (PSt.init (load freshSt text).st true)) = false) :
    ∃ k, k ≤ n ∧ singleDone (singleRun k (load freshSt text).st) = true ∧
      (∀ j, j < k → (singleStep (singleRun j (load freshSt text).st)).fault = none ∧
        singleDone (singleRun j (load freshSt text).st) = false) ∧
      (pipeRun n (PSt.init (load freshSt text).st true)).st.regs = (singleRun k (load freshSt text).st).regs ∧
      (pipeRun n (PSt.init (load freshSt text).st true)).st.mem = (singleRun k (load freshSt text).st).mem ∧
      (pipeRun n (PSt.init (load freshSt text).st true)).st.output = (singleRun k (load freshSt text).st).output ∧
      (pipeRun n (PSt.init (load freshSt text).st true)).st.exitCode =
        (singleRun k (load freshSt text).st).exitCode ∧
      retireLog n (PSt.init (load freshSt text).st true) = singleTrace k (load freshSt text).st := by
  obtain ⟨k, hk, h1, h2, h3, h4, h5, h6, _, _, _, _, h7⟩ :=
    assembled_pipe_equals_single_cycle freshSt text freshSt_ok rfl rfl h hsup n hr hd hprev
  exact ⟨k, hk, h2, h1, h3, h4, h5, h6, h7⟩

/-- Termination: if single-cycle mode on the loaded program (loaded into a `StOK` state, i.e. flat data memory without
    data cache, and without instruction cache), after `kstar` fault-free steps, is done
    or faults in its next step, five-stage mode has faulted or is done after at most `5 * (kstar + 2)` cycles. -/
theorem assembled_pipe_terminates (s : St) (text : String) (hs : ArchSim.Lemmas.C01.StOK s)
    (hc : s.imem.cache = none) (h : (load s text).err = none)
    (hsup : AllSupported (load s text).st.imem.prog) (kstar : Nat)
    (hnf : ∀ j, j < kstar → (singleStep (singleRun j (load s text).st)).fault = none)
    (hh : singleDone (singleRun kstar (load s text).st) = true ∨
      (singleStep (singleRun kstar (load s text).st)).fault.isSome = true) :
    ∃ N, N ≤ 5 * (kstar + 2) ∧
      (¬ runOK N (PSt.init (load s text).st true) ∨ isDone (pipeRun N (PSt.init (load s text).st true)) = true) :=
  ArchSim.Props.C02Main.pipe_terminates_when_single_does _ (load_progWF_pipe s text hsup) _
    (load_sok s text hs hc) kstar hnf hh

/-- Fault agreement: if cycle `n + 1` of five-stage mode on the loaded program (loaded into a `StOK` state, i.e. flat
    data memory without data cache, and without instruction cache) is the first to
    report a fault, single-cycle mode reports the same fault for the instruction at the same address after
    `k ≤ n` fault-free steps, with the same registers and output at that point. -/
theorem assembled_fault_agrees (s : St) (text : String) (hs : ArchSim.Lemmas.C01.StOK s)
    (hc : s.imem.cache = none) (h : (load s text).err = none)
    (hsup : AllSupported (load s text).st.imem.prog) (n : Nat)
    (hr : runOK n (PSt.init (load s text).st true)) (ft : PFault)
    (hft : (step (pipeRun n (PSt.init (load s text).st true))).fault = some ft) :
    ∃ k, k ≤ n ∧ (∀ j, j < k → (singleStep (singleRun j (load s text).st)).fault = none) ∧
      (singleStep (singleRun k (load s text).st)).fault = some (ft.addr, ft.fault) ∧
      (singleRun k (load s text).st).pc = ft.addr ∧
      (step (pipeRun n (PSt.init (load s text).st true))).p.st.regs = (singleRun k (load s text).st).regs ∧
      (step (pipeRun n (PSt.init (load s text).st true))).p.st.output = (singleRun k (load s text).st).output :=
  ArchSim.Props.C02Main.fault_agrees_single_cycle _ (load_progWF_pipe s text hsup) _
    (load_sok s text hs hc) n hr ft hft

/-! ### non-vacuity (the example text `asmText` of `Lemmas/E2EEx.lean`: a `.data` variable, the pseudo-instruction
`li`, a branch to an in-line label; see `Props/C04Asm.lean`) -/

section
open ArchSim.Lemmas.E2E.Ex

/-- Hypotheses of `assembled_pipe_equals_single_cycle_power_on` for the example text: it loads, its program is in
    the supported set, and the five-stage loop runs 14 fault-free cycles and is done exactly then (a load-use
    stall after `lw`, a flush after the taken `beq`). -/
example : (load freshSt asmText).err = none ∧ AllSupported (load freshSt asmText).st.imem.prog ∧
    runOK 14 (PSt.init (load freshSt asmText).st true) ∧
    isDone (pipeRun 14 (PSt.init (load freshSt asmText).st true)) = true ∧
    (∀ m, m < 14 → isDone (pipeRun m (PSt.init (load freshSt asmText).st true)) = false) := by
  refine ⟨load_asmText.1, asmText_supported, ?_⟩
  rw [load_asmText_st]; decide

/-- What the two modes compute on the assembled example: exit code 7 (the `.data` variable) in both, five
    instructions retired / executed at the same addresses — the `li a0, 0` at address 16 is squashed / skipped. -/
example : (pipeRun 14 (PSt.init (load freshSt asmText).st true)).st.exitCode = some 7 ∧
    singleDone (singleRun 5 (load freshSt asmText).st) = true ∧
    (singleRun 5 (load freshSt asmText).st).exitCode = some 7 ∧
    retireLog 14 (PSt.init (load freshSt asmText).st true) = [0, 4, 8, 12, 20] ∧
    singleTrace 5 (load freshSt asmText).st = [0, 4, 8, 12, 20] := by
  rw [load_asmText_st]; decide

/-- Hypotheses of `assembled_pipe_terminates` for the example (`kstar = 5`). -/
example : (∀ j, j < 5 → (singleStep (singleRun j (load freshSt asmText).st)).fault = none) ∧
    singleDone (singleRun 5 (load freshSt asmText).st) = true := by
  rw [load_asmText_st]; decide

end

end ArchSim.Props.C02Asm
