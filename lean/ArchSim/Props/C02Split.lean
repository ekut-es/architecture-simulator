/-
C02 (data-path half) — the two implementations of every instruction agree.

Every RISC-V instruction of the simulator is implemented twice: `behavior()` (single-cycle mode) and
the split `access_register_file / alu_compute / memory_access / write_back` + control signals +
flush decision (five-stage pipeline). `Pipe.splitStep` runs the five stage functions back to back
on one instruction with nothing else in flight; `Rv.singleStep` is one single-cycle step.

`Instr.WF` is defined in `Lemmas/C02SplitArith.lean`, the completion functions and `singleTail` in
`Lemmas/C02SplitStages.lean`, `sAt`, `sSingle`, `Agree` in `Lemmas/C02SplitFamilies.lean`, `LoadOK`, `WriteAlias` in
`Lemmas/C02SplitMem.lean`, `MemOK` and the observation records in `Lemmas/C02SplitMain.lean`.

Hypotheses of the main theorems. The first holds of every instruction of a loaded program without CSR
instruction, `fence`, `ebreak` (`C04Asm.loaded_program_wf`); the others hold along every single-cycle run of such
a program that starts with an uncached instruction memory and the flat RISC-V data memory (`Pipe.SOK`, kept by
`Pipe.SOK_run`, `Lemmas/C02Compose.lean`; `s.pc < 16384` by the length bound of `Pipe.ProgWF`):
  `i.WF`                      supported op (no csr*, fence, ebreak), `rd, rs1, rs2 < 32`, stored immediate in
                              its constructor's range, `ecall` with the fields its constructor forces
  `s.imem.cache = none`       no instruction cache
  `s.imem.instrAt s.pc = some i`, `s.pc < 16384`   (`instrAt` already implies `s.pc % 4 = 0` and `0 ≤ s.pc`,
                              `IMem.instrAt_some`; the statements carry `0 ≤ s.pc` as well, for the reader only)
  `∀ r, s.regs r < 2^32`      registers hold `UInt32` values
  `s.mem = .flat m`, `m.cfg.overflow = true`, `m.cfg.addrBits = 32`   flat memory that wraps addresses
                              modulo 2^32 (true of `Mem.riscvCfg`; without the wrap the store address of the
                              split path, the unwrapped sum `x[rs1] + imm`, would not alias `behavior()`'s)
-/
import ArchSim.Lemmas.C02SplitEx

namespace ArchSim.Props.C02Split
open ArchSim ArchSim.Rv ArchSim.Pipe ArchSim.Lemmas.C02Split

/-- For every well-formed supported
    instruction and every state as above, `splitStep` and `singleStep` raise the same fault (same
    faulting address, same `Fault` value) or both none; when there is no fault the two resulting
    architectural states are equal as whole `St` records (registers as functions, data memory,
    instruction memory, output, exit code, pc, cycle / instruction / branch / procedure / stall / flush
    counters); when there is a fault the two states are equal except for the instruction count, which
    single-cycle mode has already incremented. -/
theorem split_agrees (s : St) (i : Instr) (m : Mem.Mem) (hwf : i.WF)
    (hic : s.imem.cache = none) (hi : s.imem.instrAt s.pc = some i)
    (hpc0 : 0 ≤ s.pc) (hpc1 : s.pc < 16384)
    (hregs : ∀ r, s.regs r < 4294967296) (hmem : s.mem = .flat m)
    (hov : m.cfg.overflow = true) (hab : m.cfg.addrBits = 32) :
    (splitStep s).fault = (singleStep s).fault ∧
    ((singleStep s).fault = none → (splitStep s).st = (singleStep s).st) ∧
    ((singleStep s).fault ≠ none → (splitStep s).st = { (singleStep s).st with instrs := s.instrs }) :=
  agree_step s i hwf hic hi hpc1 hregs (memOK_flat i s m hmem hov hab)

/-- Observation form: same fault; without a fault the same observation record `obs` (registers,
    data memory, output, exit code, next pc, branch / procedure / instruction / cycle counts); and in
    every case, fault or not, the same `faultObs` (everything in `obs` but the instruction count). -/
theorem split_agrees_obs (s : St) (i : Instr) (m : Mem.Mem) (hwf : i.WF)
    (hic : s.imem.cache = none) (hi : s.imem.instrAt s.pc = some i)
    (hpc0 : 0 ≤ s.pc) (hpc1 : s.pc < 16384)
    (hregs : ∀ r, s.regs r < 4294967296) (hmem : s.mem = .flat m)
    (hov : m.cfg.overflow = true) (hab : m.cfg.addrBits = 32) :
    (splitStep s).fault = (singleStep s).fault ∧
    ((singleStep s).fault = none → obs (splitStep s).st = obs (singleStep s).st) ∧
    faultObs (splitStep s).st = faultObs (singleStep s).st :=
  have h : Agree s.instrs _ _ := split_agrees s i m hwf hic hi hpc0 hpc1 hregs hmem hov hab
  ⟨h.1, h.obs, h.faultObs⟩

/-- The one difference: when the step faults, single-cycle mode has counted the instruction (it
    counts before executing) and the split path has not (it counts in WB, never reached). -/
theorem split_fault_instruction_count (s : St) (i : Instr) (m : Mem.Mem) (hwf : i.WF)
    (hic : s.imem.cache = none) (hi : s.imem.instrAt s.pc = some i)
    (hpc0 : 0 ≤ s.pc) (hpc1 : s.pc < 16384)
    (hregs : ∀ r, s.regs r < 4294967296) (hmem : s.mem = .flat m)
    (hov : m.cfg.overflow = true) (hab : m.cfg.addrBits = 32)
    (hf : (singleStep s).fault ≠ none) :
    (singleStep s).st.instrs = s.instrs + 1 ∧ (splitStep s).st.instrs = s.instrs :=
  have ha := split_agrees s i m hwf hic hi hpc0 hpc1 hregs hmem hov hab
  ⟨by rw [singleStep_eq s i hic hi hpc1] at hf ⊢; rw [(singleTail_frame i _).2.1]; rfl,
   by rw [ha.2.2 hf]⟩

/-- The instance for the data memory the simulator builds (`Mem.riscvCfg`). -/
theorem split_agrees_riscv (s : St) (i : Instr) (m : Mem.Mem) (hwf : i.WF)
    (hic : s.imem.cache = none) (hi : s.imem.instrAt s.pc = some i) (hpc1 : s.pc < 16384)
    (hregs : ∀ r, s.regs r < 4294967296) (hmem : s.mem = .flat m) (hcfg : m.cfg = Mem.riscvCfg) :
    (splitStep s).fault = (singleStep s).fault ∧
    ((singleStep s).fault = none → (splitStep s).st = (singleStep s).st) ∧
    ((singleStep s).fault ≠ none → (splitStep s).st = { (singleStep s).st with instrs := s.instrs }) :=
  split_agrees s i m hwf hic hi (IMem.instrAt_some hi).1 hpc1 hregs hmem
    (by rw [hcfg]; rfl) (by rw [hcfg]; rfl)

/-- The same over any data memory system (flat or cached) that satisfies `MemOK i s`: stores are taken
    modulo 2^32 (`WriteAlias`), and — only if `i` is a load — a successful counted read at the load
    address returns a value `< 2^32` and the uncounted re-read single-cycle mode performs for the
    visualisation returns the same value, leaves the memory system unchanged and adds no cycles
    (`LoadOK`). `split_agrees` is the instance for the flat memory (`memOK_flat`). -/
theorem split_agrees_anymem (s : St) (i : Instr) (hwf : i.WF)
    (hic : s.imem.cache = none) (hi : s.imem.instrAt s.pc = some i)
    (hpc0 : 0 ≤ s.pc) (hpc1 : s.pc < 16384)
    (hregs : ∀ r, s.regs r < 4294967296) (hm : MemOK i s) :
    (splitStep s).fault = (singleStep s).fault ∧
    ((singleStep s).fault = none → (splitStep s).st = (singleStep s).st) ∧
    ((singleStep s).fault ≠ none → (splitStep s).st = { (singleStep s).st with instrs := s.instrs }) :=
  agree_step s i hwf hic hi hpc1 hregs hm

/-- Cached data memory (write-back or write-through, LRU or PLRU) over a lower memory that wraps
    addresses modulo 2^32: everything but loads agrees unconditionally (stores included: the cache
    decodes `UInt32(address)` and the lower memory wraps); loads agree provided the re-read of the
    load address is neutral (`hre`: the uncounted read of a block that the counted read has just made
    resident is a hit that returns the same value below 2^32, re-touches the same way and changes no counter).
    Full `St` equality, cache contents, replacement state, hit / access counters and miss-penalty cycles
    included. `hre` holds of every cached memory system satisfying the invariant of C09
    (`Lemmas.C09Prog.loadOK_cached`); `Props.C09Prog.split_agrees_cached` is the statement without it. -/
theorem split_agrees_cached_partial (s : St) (i : Instr) (l : Bool) (ds : Cache.DSys Repl.Pol)
    (hwf : i.WF) (hic : s.imem.cache = none) (hi : s.imem.instrAt s.pc = some i)
    (hpc0 : 0 ≤ s.pc) (hpc1 : s.pc < 16384)
    (hregs : ∀ r, s.regs r < 4294967296) (hmem : s.mem = .cached l ds)
    (hov : ds.mem.cfg.overflow = true) (hab : ds.mem.cfg.addrBits = 32)
    (hre : i.op.ty = .memI → LoadOK s.mem (accessBits i.op) ((s.regs i.rs1 : Int) + i.imm)) :
    (splitStep s).fault = (singleStep s).fault ∧
    ((singleStep s).fault = none → (splitStep s).st = (singleStep s).st) ∧
    ((singleStep s).fault ≠ none → (splitStep s).st = { (singleStep s).st with instrs := s.instrs }) :=
  agree_step s i hwf hic hi hpc1 hregs
    ⟨by rw [hmem]; exact writeAlias_cached l ds hov hab, hre⟩

/-- `WF` is what the constructors produce: for every supported op other than `ecall`, register numbers
    below 32 and any raw immediate, the instruction object holding the stored immediate is
    well-formed; so is the `ecall` object. -/
theorem constructed_wf (op : Op) (rd rs1 rs2 : Nat) (raw aux : Int) (hs : op.supported = true)
    (hrd : rd < 32) (hrs1 : rs1 < 32) (hrs2 : rs2 < 32) (hne : op ≠ .ecall) :
    Instr.WF { op := op, rd := rd, rs1 := rs1, rs2 := rs2, imm := storedImm op raw, aux := aux } ∧
    Instr.WF { op := .ecall } :=
  ⟨⟨hs, hrd, hrs1, hrs2, immRange_storedImm op raw, fun h => absurd h hne⟩, by decide⟩

/-- `splitStep` is the cycle tick, IF, ID, and then the
    completion (EX, MEM, WB, flush target) of the decoded instruction. -/
theorem splitStep_is_completion (s : St) :
    splitStep s =
      completeIDEX
        (idStage false (ifStage { s with cycles := s.cycles + 1 }).1.regs
          (ifStage { s with cycles := s.cycles + 1 }).2 none none)
        (ifStage { s with cycles := s.cycles + 1 }).1 :=
  splitStep_eq_complete s

/-- General position (`agree_all_at`, from which `split_agrees…` take the case `t.pc = d.addr + 4`; the control half of C02 does
    not call it: it compares `seqStep`, i.e. `splitStep`, with `singleStep`): an ID/EX register `d` holding a
    well-formed instruction at address `d.addr` (`0 ≤ d.addr < 16384`), with `pc4 = addr + 4`, the write
    register of the instruction, and operands read from the registers of `t` (whatever its `stall` /
    `flagged` bits, whatever the pc of `t`). Completing it from `t` through EX (nothing older in
    flight), MEM, WB and applying its flush target, compared with single-cycle mode run on `t` with
    the pc at `d.addr` (`sAt t d.addr`, instruction counted): same fault; with a fault the same state
    except the instruction count; without a fault either the same state (the instruction redirected:
    taken branch, jal, jalr, exiting ecall) or the same state except that the completion left the pc
    of `t` untouched where single-cycle mode moved to `d.addr + 4`. -/
theorem complete_agrees_general (d : Latch) (t : St) (hwf : d.instr.WF)
    (hpc4 : d.pc4 = d.addr + 4) (hrr : d.rr = accessRegs d.instr t.regs) (hwr : d.wreg = writeReg d.instr)
    (hregs : ∀ r, t.regs r < 4294967296) (hm : MemOK d.instr t) (h0 : 0 ≤ d.addr) (h1 : d.addr < 16384) :
    (completeIDEX (some d) t).fault = (singleTail d.instr (sAt t d.addr)).fault ∧
    ((singleTail d.instr (sAt t d.addr)).fault = none →
      (completeIDEX (some d) t).st = (singleTail d.instr (sAt t d.addr)).st ∨
      ((completeIDEX (some d) t).st = { (singleTail d.instr (sAt t d.addr)).st with pc := t.pc } ∧
        (singleTail d.instr (sAt t d.addr)).st.pc = d.addr + 4)) ∧
    ((singleTail d.instr (sAt t d.addr)).fault ≠ none →
      (completeIDEX (some d) t).st = { (singleTail d.instr (sAt t d.addr)).st with instrs := t.instrs }) := by
  rw [completeIDEX_core, hpc4, hrr, hwr]
  exact agree_all_at d.instr t d.addr hwf hregs hm h0 (by omega)

/-- `singleTail` in the theorem above is single-cycle mode: with an uncached instruction memory holding
    `i` at `s.pc`, `singleStep s` is `singleTail i` applied to `s` after the cycle tick and the
    instruction count (`sSingle s`). -/
theorem singleStep_is_singleTail (s : St) (i : Instr) (hic : s.imem.cache = none)
    (hi : s.imem.instrAt s.pc = some i) (hpc0 : 0 ≤ s.pc) (hpc1 : s.pc < 16384) :
    singleStep s = singleTail i (sSingle s) :=
  singleStep_eq s i hic hi hpc1

/-! ## Non-vacuity: concrete instances of the hypotheses, and what the two sides compute there -/

section
open ArchSim.Lemmas.C02Split.Ex

-- `Hyps s i m` (defined next to the example states) = all hypotheses of `split_agrees` for `s`, `i`, `m`.

-- a load: `lb x5, 4(x1)` reads the byte 0x80 and sign-extends it; no fault; pc 4 → 8
example : Hyps loadSt loadI loadM :=
  ⟨by decide, rfl, by decide, by decide, by decide,
   fun _ => ite_lt (by decide) (by decide), rfl, rfl, rfl⟩
example : (splitStep loadSt).fault = none ∧ (singleStep loadSt).fault = none ∧
    (splitStep loadSt).st.regs 5 = 0xFFFFFF80 ∧ (singleStep loadSt).st.regs 5 = 0xFFFFFF80 ∧
    (splitStep loadSt).st.pc = 8 ∧ (singleStep loadSt).st.pc = 8 := by decide +kernel

-- a faulting load: address 0 is below the data segment; same fault on both sides
example : Hyps badLoadSt badLoadI (Mem.Mem.empty Mem.riscvCfg) :=
  ⟨by decide, rfl, by decide, by decide, by decide, fun _ => (by decide : 0 < 4294967296), rfl, rfl, rfl⟩
example : (splitStep badLoadSt).fault = some (0, .mem (.addr 0)) ∧
    (singleStep badLoadSt).fault = some (0, .mem (.addr 0)) ∧
    (splitStep badLoadSt).st.instrs = 0 ∧ (singleStep badLoadSt).st.instrs = 1 := by decide +kernel

-- a store whose split address is negative (−2) while `behavior()` uses 2^32 − 2: the word straddles the
-- top of memory, both sides store two bytes and raise for address 0
example : Hyps storeSt storeI (Mem.Mem.empty Mem.riscvCfg) :=
  ⟨by decide, rfl, by decide, by decide, by decide,
   fun _ => ite_lt (by decide) (ite_lt (by decide) (by decide)), rfl, rfl, rfl⟩
example : (splitStep storeSt).fault = some (0, .mem (.addr 0)) ∧
    (singleStep storeSt).fault = some (0, .mem (.addr 0)) ∧
    (splitStep storeSt).st.mem.backing.keys = [4294967294, 4294967295] ∧
    (singleStep storeSt).st.mem.backing.keys = [4294967294, 4294967295] := by decide +kernel

-- a taken branch: `blt x1, x2, -8` at pc 8 with x1 = −1 (signed), x2 = 1; pc 8 → 0, one branch counted
example : Hyps branchSt branchI (Mem.Mem.empty Mem.riscvCfg) :=
  ⟨by decide, rfl, by decide, by decide, by decide,
   fun _ => ite_lt (by decide) (ite_lt (by decide) (by decide)), rfl, rfl, rfl⟩
example : (splitStep branchSt).st.pc = 0 ∧ (singleStep branchSt).st.pc = 0 ∧
    (splitStep branchSt).st.branches = 1 ∧ (singleStep branchSt).st.branches = 1 ∧
    (splitStep branchSt).fault = none := by decide +kernel

-- jalr with rd = rs1: `jalr x1, x1, -3`, x1 = 0x1003; target 0x1000 (bit 0 cleared), x1 := 4
example : Hyps jalrSt jalrI (Mem.Mem.empty Mem.riscvCfg) :=
  ⟨by decide, rfl, by decide, by decide, by decide,
   fun _ => ite_lt (by decide) (by decide), rfl, rfl, rfl⟩
example : (splitStep jalrSt).st.pc = 4096 ∧ (singleStep jalrSt).st.pc = 4096 ∧
    (splitStep jalrSt).st.regs 1 = 4 ∧ (singleStep jalrSt).st.regs 1 = 4 := by decide +kernel

-- an exiting ecall: a7 = 93, a0 = 7; exit code 7 set, pc 4 → 8, instruction counted
example : Hyps ecallSt ecallI (Mem.Mem.empty Mem.riscvCfg) :=
  ⟨by decide, rfl, by decide, by decide, by decide,
   fun _ => ite_lt (by decide) (ite_lt (by decide) (by decide)), rfl, rfl, rfl⟩
example : (splitStep ecallSt).st.exitCode = some 7 ∧ (singleStep ecallSt).st.exitCode = some 7 ∧
    (splitStep ecallSt).st.pc = 8 ∧ (singleStep ecallSt).st.pc = 8 ∧
    (splitStep ecallSt).st.instrs = 1 ∧ (singleStep ecallSt).st.instrs = 1 := by decide +kernel

-- an ecall with an invalid code: the same `ValueError` on both sides, raised in EX
example : Hyps badEcallSt ecallI (Mem.Mem.empty Mem.riscvCfg) :=
  ⟨by decide, rfl, by decide, by decide, by decide,
   fun _ => ite_lt (by decide) (by decide), rfl, rfl, rfl⟩
example : (splitStep badEcallSt).fault = some (0, .ecallCode 5) ∧
    (singleStep badEcallSt).fault = some (0, .ecallCode 5) := by decide +kernel

-- cached data memory: the load example over a write-back LRU cache. `hre` holds at the load address
-- (the re-read hits the block the counted read has just loaded); the miss costs 10 cycles on both sides
example : LoadOK cachedLoadSt.mem (accessBits loadI.op) ((cachedLoadSt.regs loadI.rs1 : Int) + loadI.imm) := by
  intro v hv
  have h : (cachedLoadSt.mem.read (accessBits loadI.op) ((cachedLoadSt.regs loadI.rs1 : Int) + loadI.imm) true).res
      = .ok 128 := rfl
  rw [h] at hv
  cases hv
  exact ⟨by decide, rfl⟩
example : cachedLoadSt.mem = .cached true cacheSys ∧ cacheSys.mem.cfg.overflow = true ∧
    cacheSys.mem.cfg.addrBits = 32 ∧ cachedLoadSt.imem.instrAt cachedLoadSt.pc = some loadI :=
  ⟨rfl, rfl, rfl, by decide⟩
example : (splitStep cachedLoadSt).st.cycles = 11 ∧ (singleStep cachedLoadSt).st.cycles = 11 ∧
    (splitStep cachedLoadSt).st.regs 5 = 0xFFFFFF80 ∧ (singleStep cachedLoadSt).st.regs 5 = 0xFFFFFF80 := by
  decide +kernel
-- cached data memory: the straddling store (split address −2): same fault on both sides
example : cachedStoreSt.mem = .cached true cacheSys ∧ cachedStoreSt.imem.instrAt cachedStoreSt.pc = some storeI ∧
    (storeI.op.ty = .memI → False) := ⟨rfl, by decide, by decide⟩
example : (splitStep cachedStoreSt).fault = (singleStep cachedStoreSt).fault ∧
    (singleStep cachedStoreSt).fault ≠ none := by decide +kernel

-- general position (`complete_agrees_general`): the jalr at address 8, completing from a state whose pc is
-- 20: redirect, the two states are equal (first disjunct), pc = 0x1000
example : genLatch.instr.WF ∧ genLatch.pc4 = genLatch.addr + 4 ∧
    genLatch.rr = accessRegs genLatch.instr genSt.regs ∧ genLatch.wreg = writeReg genLatch.instr ∧
    (∀ r, genSt.regs r < 4294967296) ∧ MemOK genLatch.instr genSt ∧ 0 ≤ genLatch.addr ∧ genLatch.addr < 16384 :=
  ⟨by decide, rfl, rfl, rfl, fun _ => ite_lt (by decide) (by decide),
   memOK_flat _ _ (Mem.Mem.empty Mem.riscvCfg) rfl rfl rfl, by decide, by decide⟩
example : (completeIDEX (some genLatch) genSt).st.pc = 4096 ∧
    (singleTail genLatch.instr (sAt genSt genLatch.addr)).st.pc = 4096 ∧
    (completeIDEX (some genLatch) genSt).st.regs 1 = 12 := by decide +kernel
-- general position, no redirect: the load at address 8 leaves the pc of the state (20) alone, single-cycle
-- mode moves to 12 (second disjunct)
example : genLatch2.rr = accessRegs genLatch2.instr genSt2.regs ∧ MemOK genLatch2.instr genSt2 :=
  ⟨rfl, memOK_flat _ _ loadM rfl rfl rfl⟩
example : (completeIDEX (some genLatch2) genSt2).st.pc = 20 ∧
    (singleTail genLatch2.instr (sAt genSt2 genLatch2.addr)).st.pc = 12 ∧
    (completeIDEX (some genLatch2) genSt2).st.regs 5 = 0xFFFFFF80 := by decide +kernel

-- `constructed_wf` is not vacuous: e.g. `sw` with an out-of-range raw immediate
example : Op.supported .sw = true ∧ Op.sw ≠ .ecall := by decide

end

end ArchSim.Props.C02Split
