/-
C03 (program-level clause), end to end: for EVERY source text the assembler accepts (without CSR instructions,
`fence`, `ebreak`) and every admissible data-cache configuration, the loaded program produces the same registers,
output and exit code with the data cache as without it, in both pipeline modes.  What remains as hypotheses: the text
loads without error into a `StOK` state without instruction cache, its program is in the supported set, the cache
geometry is admissible (`GeoOK`, `AssocOK`), and the hypotheses about the RUN of the flat single-cycle simulation
(accepted accesses, fault-free until first done).

`withCache` is defined in `Lemmas/E2ECacheInit.lean`, `AllSupported` in `Lemmas/E2EState.lean`.
`sf` = the state after loading `text` into `s` (flat data memory); `sc` = the state after loading the same text
into `withCache s l wt g penalty` (`s` with a freshly built data cache). `RunAccepted`, `StepAccepted`, `singleRun`
as in `Props/C03Prog.lean`.
-/
import ArchSim.Props.C03Prog
import ArchSim.Props.C04Asm

namespace ArchSim.Props.C03Asm
open ArchSim ArchSim.Rv ArchSim.Asm ArchSim.Cache ArchSim.Lemmas.E2E ArchSim.Lemmas.C03Prog

/-- All four configurations (C03Prog). Load ANY source text into a state `s` satisfying `StOK`, without
    instruction cache, not exited (e.g. the power-on state), once with the flat data memory (`sf`) and once with a
    freshly built data cache of any admissible geometry, policy, write mode and penalty (`sc`). If the assembler
    accepts the text, the program has no CSR / fence / ebreak, every step of the flat single-cycle run before it is
    first done performs accepted accesses, and that run is first done after `k` fault-free steps, then both
    five-stage loops (with and without the cache) stop without a fault within `5 * (k + 2)` cycles, and all four
    configurations end with the same registers, output and exit code. -/
theorem assembled_same_result_all_modes (s : St) (hs : ArchSim.Lemmas.C01.StOK s) (hic : s.imem.cache = none)
    (hx : s.exitCode = none) (l wt : Bool) (g : Geo) (hg : Spec.CacheAbs.GeoOK g)
    (ha : ArchSim.Lemmas.C09.AssocOK l g.assoc) (penalty : Nat) (text : String)
    (sc sf : St) (hsc : sc = (load (withCache s l wt g penalty) text).st) (hsf : sf = (load s text).st)
    (h : (load s text).err = none) (hsup : AllSupported sf.imem.prog) (hacc : RunAccepted sf)
    (k : Nat) (hd : singleDone (singleRun k sf) = true)
    (hnd : ∀ j, j < k → singleDone (singleRun j sf) = false)
    (hnf : ∀ j, j < k → (singleStep (singleRun j sf)).fault = none) :
    ∃ nc nf, nc ≤ 5 * (k + 2) ∧ nf ≤ 5 * (k + 2) ∧
      Pipe.runOK nc (Pipe.PSt.init sc true) ∧ Pipe.isDone (Pipe.pipeRun nc (Pipe.PSt.init sc true)) = true ∧
      (∀ m, m < nc → Pipe.isDone (Pipe.pipeRun m (Pipe.PSt.init sc true)) = false) ∧
      Pipe.runOK nf (Pipe.PSt.init sf true) ∧ Pipe.isDone (Pipe.pipeRun nf (Pipe.PSt.init sf true)) = true ∧
      (∀ m, m < nf → Pipe.isDone (Pipe.pipeRun m (Pipe.PSt.init sf true)) = false) ∧
      (Pipe.pipeRun nc (Pipe.PSt.init sc true)).st.regs = (singleRun k sf).regs ∧
      (Pipe.pipeRun nc (Pipe.PSt.init sc true)).st.output = (singleRun k sf).output ∧
      (Pipe.pipeRun nc (Pipe.PSt.init sc true)).st.exitCode = (singleRun k sf).exitCode ∧
      (Pipe.pipeRun nf (Pipe.PSt.init sf true)).st.regs = (singleRun k sf).regs ∧
      (Pipe.pipeRun nf (Pipe.PSt.init sf true)).st.output = (singleRun k sf).output ∧
      (Pipe.pipeRun nf (Pipe.PSt.init sf true)).st.exitCode = (singleRun k sf).exitCode ∧
      (singleRun k sc).regs = (singleRun k sf).regs ∧
      (singleRun k sc).output = (singleRun k sf).output ∧
      (singleRun k sc).exitCode = (singleRun k sf).exitCode := by
  obtain ⟨m, hm, hc, _⟩ := hs.flat
  have hrel : CacheRel sc sf := by rw [hsc, hsf]; exact load_cacheRel s m hm hc l wt g hg ha penalty text
  obtain ⟨him, hok, hxe, hwf⟩ := load_named hsf hs hic
  exact ArchSim.Props.C03Prog.program_same_result_all_modes hrel _ ⟨(hwf hsup).1, (hwf hsup).2⟩ him hok
    (hxe.trans hx) hacc k hd hnd hnf

/-- The simulation loop in single-cycle mode (C03Prog). No condition on the program at all: for ANY
    source text (accepted or not, CSR instructions included) loaded into a state with a flat RISC-V data memory
    and into the same state with a freshly built data cache, if every state in which the flat loop takes a step
    performs accepted accesses, then for every `n` the loop with the cache reports the same fault (or none) as
    the loop without, with the same registers, output, exit code, pc and instruction count. -/
theorem assembled_cached_sim_equals_flat_sim (s : St) (m : Mem.Mem) (hm : s.mem = .flat m)
    (hc : m.cfg = Mem.riscvCfg) (l wt : Bool) (g : Geo) (hg : Spec.CacheAbs.GeoOK g)
    (ha : ArchSim.Lemmas.C09.AssocOK l g.assoc) (penalty : Nat) (text : String)
    (sc sf : St) (hsc : sc = (load (withCache s l wt g penalty) text).st) (hsf : sf = (load s text).st)
    (hacc : ∀ j, singleDone (ArchSim.Lemmas.C01.simN j sf).st = false →
      StepAccepted (ArchSim.Lemmas.C01.simN j sf).st) (n : Nat) :
    (ArchSim.Lemmas.C01.simN n sc).fault = (ArchSim.Lemmas.C01.simN n sf).fault ∧
    (ArchSim.Lemmas.C01.simN n sc).st.regs = (ArchSim.Lemmas.C01.simN n sf).st.regs ∧
    (ArchSim.Lemmas.C01.simN n sc).st.output = (ArchSim.Lemmas.C01.simN n sf).st.output ∧
    (ArchSim.Lemmas.C01.simN n sc).st.exitCode = (ArchSim.Lemmas.C01.simN n sf).st.exitCode ∧
    (ArchSim.Lemmas.C01.simN n sc).st.pc = (ArchSim.Lemmas.C01.simN n sf).st.pc ∧
    (ArchSim.Lemmas.C01.simN n sc).st.instrs = (ArchSim.Lemmas.C01.simN n sf).st.instrs ∧
    singleDone (ArchSim.Lemmas.C01.simN n sc).st = singleDone (ArchSim.Lemmas.C01.simN n sf).st := by
  have hrel : CacheRel sc sf := by rw [hsc, hsf]; exact load_cacheRel s m hm hc l wt g hg ha penalty text
  obtain ⟨h1, h2, h3, h4, h5, h6, h7, _⟩ := ArchSim.Props.C03Prog.cached_sim_equals_flat_sim hrel hacc n
  exact ⟨h1, h2, h3, h4, h5, h6, h7⟩

/-! ### non-vacuity (the example text `asmText` of `Lemmas/E2EEx.lean`: a `.data` variable, the pseudo-instruction
`li`, a branch to an in-line label; cache: one set, one way, one word, write-back LRU, penalty 10) -/

section
open ArchSim.Lemmas.E2E.Ex ArchSim.Lemmas.C03Prog.Ex

/-- Hypotheses of `assembled_same_result_all_modes` for the example text loaded into the power-on state: admissible
    cache configuration, the text loads, supported program, accepted accesses along the flat run, which is first
    done after 5 fault-free steps. -/
example : ArchSim.Lemmas.C01.StOK freshSt ∧ freshSt.imem.cache = none ∧ freshSt.exitCode = none ∧
    Spec.CacheAbs.GeoOK geo1 ∧ ArchSim.Lemmas.C09.AssocOK true geo1.assoc ∧
    (load freshSt asmText).err = none ∧ AllSupported (load freshSt asmText).st.imem.prog ∧
    RunAccepted (load freshSt asmText).st ∧
    singleDone (singleRun 5 (load freshSt asmText).st) = true ∧
    (∀ j, j < 5 → singleDone (singleRun j (load freshSt asmText).st) = false) ∧
    (∀ j, j < 5 → (singleStep (singleRun j (load freshSt asmText).st)).fault = none) := by
  refine ⟨freshSt_ok, rfl, rfl, geo1_ok, assoc1_ok, load_asmText.1, asmText_supported, ?_, ?_⟩
  · rw [load_asmText_st]; exact runAccepted_asmSt
  · rw [load_asmText_st]; decide

/-- The state loaded with the cache, explicitly: the cache system built over the empty memory after the preload
    `write_word(0x4000, 7)` (conclusion (2) of `C04Asm.loaded_state_ok_cached` for the example). -/
example : (load (withCache freshSt true false geo1 10) asmText).st.mem =
    .cached true (Spec.CacheAbs.preload (DSys.init (polOps true) false geo1 10 (Mem.Mem.empty Mem.riscvCfg))
      [.write 32 16384 7]) := by
  rw [load_asmText_cached]; rfl

end

end ArchSim.Props.C03Asm
