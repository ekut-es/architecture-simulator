/-
C09, the REPORTED statistics — `RiscvSimulation.get_data_cache_stats()` as modelled by `SimViews.dataStats`
(`Model/SimViews.lean`; the driver renders it and the check compares it with the real getter after every snapshot).

`Props/C09.lean` proves that the counters of the model equal those of the reference cache.  A user reads them through the
statistics getter, as decimal STRINGS; the theorems here say that the strings denote the counters (read back with the
independent digit reader of `Spec/Digits.lean`), that the reported flag is the flag, that nothing is reported without a
cache, and — composed with `C09.counters_refine` — that after any accepted history the reported text denotes the
counters of the reference set-associative cache.  The highlighted address (32 binary digits) denotes, modulo 2^32, the
`result` field of the MEM/WB register when that holds a load or store (single-cycle mode: `x[rs1] + imm` of the load or
store just executed) and is absent for any other instruction.
`Reports` (below) is the predicate of the statements.
-/
import ArchSim.Lemmas.SimViews
import ArchSim.Props.C09

namespace ArchSim.Props.C09Views
open ArchSim ArchSim.Cache ArchSim.Rv ArchSim.Repl ArchSim.SimViews ArchSim.Spec.Digits ArchSim.Spec.TagCache
open ArchSim.Lemmas.SimViews ArchSim.Lemmas.C09

/-- What a statistics record shows: the two decimal strings read back as the two counters, and the flag. -/
def Reports (st : Stats) (hits accesses : Nat) (lastHit : Bool) : Prop :=
  ofDigits 10 st.hits.toList = some hits ∧ ofDigits 10 st.accesses.toList = some accesses ∧ st.lastHit = lastHit

/-- Without a data cache the getter returns `None`; with one it reports exactly the three counters of the cache —
    for every state of the cache and whatever access the view highlights. -/
theorem dataStats_reports (m : MemSys) (shown : Option Int) :
    (∀ mem, m = .flat mem → dataStats m shown = none) ∧
    (∀ l s, m = .cached l s → ∃ st, dataStats m shown = some st ∧ Reports st s.hits s.accesses s.lastHit) := by
  refine ⟨fun mem h => by subst h; rfl, fun l s h => ?_⟩
  subst h
  exact ⟨_, rfl, dec_spec s.hits, dec_spec s.accesses, rfl⟩

/-- Reported = reference.  Start from any data cache state satisfying the invariant, apply any history of accepted
    operations: the statistics reported afterwards denote the hit counter, the access counter and the last-hit flag of
    the reference tag-only cache run on the same history. -/
theorem reported_equals_reference (l : Bool) {s : DSys Pol} {ok : Pol → Prop}
    (hP : PolicyOK (polOps l) s.geo.assoc ok) (hI : PolicyIdem (polOps l) ok)
    (hinv : Inv ok s) (ops : List Spec.TagCache.Op) (hops : ∀ op ∈ ops, op.ok) (shown : Option Int) :
    ∃ st, dataStats (.cached l (run (polOps l) s ops).1) shown = some st ∧
      Reports st (refRun (polOps l) (erase s) ops).1.hits (refRun (polOps l) (erase s) ops).1.accesses
        (refRun (polOps l) (erase s) ops).1.lastHit := by
  obtain ⟨_, h1, h2, h3, _⟩ := C09.counters_refine hP hI hinv ops hops
  refine ⟨_, rfl, ?_, ?_, ?_⟩
  · rw [← h1]; exact dec_spec _
  · rw [← h2]; exact dec_spec _
  · exact h3

/-- The highlighted address: `None` stays `None`; an address is shown as exactly 32 binary digits that read back as
    the address modulo 2^32 (a negative ALU result is shown as its two's-complement pattern). -/
theorem address_shows (hits accesses : Nat) (lastHit : Bool) :
    (Stats.ofCounters hits accesses lastHit none).address = none ∧
    ∀ a : Int, ∃ t, (Stats.ofCounters hits accesses lastHit (some a)).address = some t ∧
      ofDigits 2 t.toList = some (a % 4294967296).toNat ∧ t.toList.length = 32 :=
  ⟨rfl, fun a => ⟨bin32 a, rfl, bin32_spec a⟩⟩

/-- Five-stage mode, `fiveDataAccess` spelt out: something is highlighted exactly when the instruction in the MEM/WB
    register has the `memRead` or `memWrite` control flag, and it is the `result` field of the register (the ALU
    result the pipeline carries there; that this is the load / store address is not part of the statement). -/
theorem five_stage_highlight (p : Pipe.PSt) :
    (p.l3 = none → fiveDataAccess p = none) ∧
    ∀ x, p.l3 = some x →
      fiveDataAccess p =
        if (ctlOf x.instr).memWrite = some true ∨ (ctlOf x.instr).memRead = some true then x.result else none := by
  refine ⟨fun h => by simp [fiveDataAccess, h], fun x h => ?_⟩
  simp only [fiveDataAccess, h, Bool.or_eq_true, decide_eq_true_eq]

/-- Single-cycle mode (the Python's `single_stage_pipeline`): an address is highlighted exactly when the last executed
    instruction (the one at the program counter of the state the display register describes) is a load or a store,
    and it is `x[rs1] + imm` of that instruction (a load reads `x[rs1]` as `UInt32`, hence `wrapU`) — shown modulo
    2^32 by `address_shows`. -/
theorem single_stage_highlight (s : St) (i : Instr) (hi : s.imem.instrAt s.pc = some i) :
    (i.op.ty = .memI → singleDataAccess (some s) = some ((wrapU (s.regs i.rs1 : Int) : Int) + i.imm)) ∧
    (i.op.ty = .s → singleDataAccess (some s) = some ((s.regs i.rs1 : Int) + i.imm)) ∧
    (i.op.ty ≠ .memI → i.op.ty ≠ .s → singleDataAccess (some s) = none) ∧
    singleDataAccess none = none := by
  refine ⟨fun h => ?_, fun h => ?_, fun h1 h2 => ?_, rfl⟩
  · simp [singleDataAccess, hi, h, accessRegs, aluCompute]
  · simp [singleDataAccess, hi, h, accessRegs, aluCompute]
  · simp [singleDataAccess, hi, h1, h2]

/-! ### non-vacuity -/

example : Reports (Stats.ofCounters 12 34 true none) 12 34 true := ⟨dec_spec 12, dec_spec 34, rfl⟩
example : bin32 (-4) = "11111111111111111111111111111100" := by decide +kernel
-- a load in MEM/WB is highlighted, an addition is not
example : fiveDataAccess { Pipe.PSt.init Asm.freshSt true with
      l3 := some { instr := { op := .lw, rd := 2, rs1 := 2 }, addr := 4, pc4 := 8, result := some 16384 } } = some 16384 := by
  decide +kernel
example : fiveDataAccess { Pipe.PSt.init Asm.freshSt true with
      l3 := some { instr := { op := .add, rd := 2, rs1 := 2 }, addr := 4, pc4 := 8, result := some 16384 } } = none := by
  decide +kernel

end ArchSim.Props.C09Views
