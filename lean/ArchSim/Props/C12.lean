/-
C12 — write-through currency, write-back never loses a write.

Same setting and vocabulary as `Props/C03.lean` (`CInv`, `logical`, `resident`, `PolicyOK`, `runOps`,
`flatOps`: `ArchSim/Spec/CacheAbs.lean`).
"The logical memory contents" of the property text is `logical s` — by `C03.history_refines` it is,
after any history, the content of the flat reference memory fed the same accepted writes.
-/
import ArchSim.Lemmas.C12ProgTable

namespace ArchSim.Props.C12
open ArchSim ArchSim.Cache ArchSim.Mem ArchSim.Spec.ByteStore ArchSim.Lemmas.C18 ArchSim.Spec.CacheAbs
open ArchSim.Lemmas.C03 ArchSim.Lemmas.C12

variable {σ : Type} {P : PolicyOps σ} {WFp : σ → Prop}

/-! ## Write-through -/

/-- Write-through, backing memory: at every point of any history (any operations, accepted or
    rejected, starting from any state satisfying the invariant that represents the flat memory `m`)
    the backing memory is identical, at every address, to the logical contents and to the flat
    reference memory fed the same accepted writes. -/
theorem wt_backing_current {s : DSys σ} (hP : PolicyOK P s.geo.assoc WFp) (hs : CInv WFp s)
    (hwt : s.wt = true) {m : Mem} (hm : MemOK m)
    (hL : ∀ a, logical s a = m.cells ((wrap32 a : Nat) : Int))
    (ops : List Spec.CacheAbs.Op) (ho : ∀ o, o ∈ ops → o.wf) (a : Int) :
    (runOps P s ops).1.mem.cells ((wrap32 a : Nat) : Int) = logical (runOps P s ops).1 a ∧
      (runOps P s ops).1.mem.cells ((wrap32 a : Nat) : Int) =
        (flatOps m ops).1.cells ((wrap32 a : Nat) : Int) := by
  obtain ⟨⟨h1, _, h3⟩, _, h5, _⟩ := history_agrees hP ⟨hs, hm, hL⟩ ops ho
  have := h1.wtc (h5.trans hwt) a
  exact ⟨this.symm, this.symm.trans (h3 a)⟩

/-- Write-through, resident blocks: at every point of any history every resident (valid) block is
    identical to its backing block — `read_word(base + 4j)` on the backing memory returns word `j`
    of the block, for every set `k`, way `i` and word index `j`. -/
theorem wt_resident_backed {s : DSys σ} (hP : PolicyOK P s.geo.assoc WFp) (hs : CInv WFp s)
    (hwt : s.wt = true) {m : Mem} (hm : MemOK m)
    (hL : ∀ a, logical s a = m.cells ((wrap32 a : Nat) : Int))
    (ops : List Spec.CacheAbs.Op) (ho : ∀ o, o ∈ ops → o.wf)
    (k i : Nat) (cs : CSet σ Nat) (w : Way Nat)
    (hk : (runOps P s ops).1.sets[k]? = some cs) (hi : cs.ways[i]? = some w) (hv : w.valid = true)
    (j : Nat) (hj : j < 2 ^ s.geo.blkBits) :
    Mem.read (runOps P s ops).1.mem 32 (((w.base + 4 * j : Nat) : Int)) =
      some (.ok (wordAt w.vals j)) := by
  obtain ⟨⟨h1, _, _⟩, h4, h5, _⟩ := history_agrees hP ⟨hs, hm, hL⟩ ops ho
  exact resident_backed h1 (h5.trans hwt) hk hi hv j (by rw [h4]; exact hj)

/-- The state-level facts behind the two theorems above: in ANY state satisfying the invariant with
    write-through, backing memory = logical contents everywhere and every resident block = its
    backing block (the first is the clause `CInv.wtc` of the hypothesis itself, which every operation
    preserves; the second is derived from it). -/
theorem wt_state {s : DSys σ} (hs : CInv WFp s) (hwt : s.wt = true) :
    (∀ a : Int, s.mem.cells ((wrap32 a : Nat) : Int) = logical s a) ∧
    ∀ (k i : Nat) (cs : CSet σ Nat) (w : Way Nat), s.sets[k]? = some cs → cs.ways[i]? = some w →
      w.valid = true → ∀ j, j < 2 ^ s.geo.blkBits →
        Mem.read s.mem 32 (((w.base + 4 * j : Nat) : Int)) = some (.ok (wordAt w.vals j)) :=
  ⟨fun a => (hs.wtc hwt a).symm, fun _ _ _ _ hk hi hv j hj => resident_backed hs hwt hk hi hv j hj⟩

/-! ## Write-back -/

/-- Write-back (indeed either write policy): at every point of any history the backing memory may
    differ from the logical contents — and from the flat reference memory — only at addresses whose
    block is currently resident: at every address whose block is NOT resident they coincide.
    (First conjunct, backing = logical: the `none` arm of the definition of `logical`, true of any state.
    Second conjunct, backing = flat reference: derived, from `C03.history_refines`.) -/
theorem wb_backing_lags_only_resident {s : DSys σ} (hP : PolicyOK P s.geo.assoc WFp)
    (hs : CInv WFp s) {m : Mem} (hm : MemOK m)
    (hL : ∀ a, logical s a = m.cells ((wrap32 a : Nat) : Int))
    (ops : List Spec.CacheAbs.Op) (ho : ∀ o, o ∈ ops → o.wf) (a : Int)
    (hnr : resident (runOps P s ops).1 a = false) :
    (runOps P s ops).1.mem.cells ((wrap32 a : Nat) : Int) = logical (runOps P s ops).1 a ∧
      (runOps P s ops).1.mem.cells ((wrap32 a : Nat) : Int) =
        (flatOps m ops).1.cells ((wrap32 a : Nat) : Int) := by
  obtain ⟨⟨_, _, h3⟩, _, _, _⟩ := history_agrees hP ⟨hs, hm, hL⟩ ops ho
  have := backing_of_not_resident _ a hnr
  exact ⟨this, this.trans (h3 a)⟩

/-- Eviction never loses a written value, block-fetch form: `_read_block` for a valid data address
    (which on a miss installs the fetched block in the policy's victim way and, under write-back,
    writes the displaced block back) succeeds, keeps the invariant and leaves the logical contents
    unchanged at EVERY address — in particular at the addresses of the displaced block, which are no
    longer resident. -/
theorem eviction_preserves {s : DSys σ} (hP : PolicyOK P s.geo.assoc WFp) (hs : CInv WFp s)
    (addr : Int) (hin : inData addr) :
    ∃ s1 vals hit,
      s.readBlockSys P (decode s.geo.idxBits s.geo.blkBits addr) = (s1, .ok (vals, hit)) ∧
      CInv WFp s1 ∧ (∀ a, logical s1 a = logical s a) ∧ resident s1 addr = true := by
  obtain ⟨s1, vals, hit, h1, h2, _, _, h5, _, h7⟩ := readBlockSys_spec hP hs addr hin
  exact ⟨s1, vals, hit, h1, h2, h5, h7⟩

/-- Eviction never loses a written value, explicit form (write-back): whenever `Cache.write_block`
    hands back a displaced block `(b, ws)`, writing it back succeeds (`m'`), and afterwards every
    address that is not resident any more has its logical value in the backing memory `m'`, while
    every address outside the newly installed block keeps its logical value. -/
theorem eviction_writes_back {s : DSys σ} (hP : PolicyOK P s.geo.assoc WFp) (hs : CInv WFp s)
    (hwt : s.wt = false) (addr : Int) (hin : inData addr) (vals : List Nat)
    (hlen : vals.length = 2 ^ s.geo.blkBits) (hlt : ∀ x, x ∈ vals → x < 4294967296)
    (sets2 : List (CSet σ Nat)) (hit : Bool) (b : Nat) (ws : List Nat)
    (hwb : writeBlock P s.sets (decode s.geo.idxBits s.geo.blkBits addr) vals =
      .ok (sets2, hit, some (b, ws))) :
    ∃ m', writeBlockToMem s.mem b ws 0 = (m', none) ∧
      (∀ a, ¬ ((decode s.geo.idxBits s.geo.blkBits a).setIdx =
                (decode s.geo.idxBits s.geo.blkBits addr).setIdx ∧
              (decode s.geo.idxBits s.geo.blkBits a).tag =
                (decode s.geo.idxBits s.geo.blkBits addr).tag) →
        logical { s with sets := sets2, mem := m' } a = logical s a) ∧
      (∀ a, resident { s with sets := sets2, mem := m' } a = false →
        m'.cells ((wrap32 a : Nat) : Int) = logical s a) := by
  obtain ⟨sets2', displaced, m', hwb', hback, _, hall⟩ := putBlock_spec hP hs addr hin vals hlen hlt
  rw [hwb] at hwb'
  cases hwb'
  obtain ⟨⟨w, hw, _⟩, _, hc⟩ := hall { s with sets := sets2, mem := m' } rfl rfl
  obtain ⟨_, c3⟩ := hc (by
    show m' = if s.wt = true then s.mem else m'
    rw [hwt]; rfl)
  refine ⟨m', hback, fun a hne => by rw [c3 a, if_neg hne], fun a hr => ?_⟩
  have hl := (not_resident_iff _ a).mp hr
  have hne : ¬ ((dec s a).setIdx = (dec s addr).setIdx ∧ (dec s a).tag = (dec s addr).tag) := by
    intro h
    have hl' : lookup sets2 (dec s a).setIdx (dec s a).tag = none := hl
    have hw' : lookup sets2 (dec s addr).setIdx (dec s addr).tag = some w := hw
    rw [h.1, h.2, hw'] at hl'
    cases hl'
  have := c3 a
  rw [if_neg hne, logical_of_none hl] at this
  exact this

/-- A cached write is never lost (either write policy): run an accepted write of `v`, then ANY further
    operations `ops` (with all the evictions, write-backs and re-fetches they cause), then read the
    same location again.  The final read succeeds and returns exactly what the flat reference memory
    returns at the end of the same history.  The statement says no more than this agreement of the two
    last results: that the value is `v` when no accepted write in `ops` overlaps those bytes is a fact
    about the flat memory alone (C18 `read_after_write`, `write_frame`, proved for its `run` histories)
    and is not stated here for `flatOps`. -/
theorem wb_write_not_lost {s : DSys σ} (hP : PolicyOK P s.geo.assoc WFp) (hs : CInv WFp s) {m : Mem}
    (hm : MemOK m) (hL : ∀ a, logical s a = m.cells ((wrap32 a : Nat) : Int))
    (bits : Nat) (addr : Int) (v : Nat) (ops : List Spec.CacheAbs.Op)
    (ho : ∀ o, o ∈ (Spec.CacheAbs.Op.write bits addr v :: ops ++ [.read bits addr true]) → o.wf)
    (hacc : (Spec.CacheAbs.Op.read bits addr true).accepted) :
    ∃ r, (runOps P s (.write bits addr v :: ops ++ [.read bits addr true])).2.getLast? = some (.ok r) ∧
      (flatOps m (.write bits addr v :: ops ++ [.read bits addr true])).2.getLast? = some (some (.ok r)) := by
  obtain ⟨_, _, _, h4⟩ := history_agrees hP ⟨hs, hm, hL⟩ _ ho
  obtain ⟨c, f, e1, e2, e3⟩ := agreesAll_getLast (.write bits addr v :: ops) (.read bits addr true) _ _ h4
  unfold agrees at e3
  rw [if_pos hacc] at e3
  obtain ⟨r, rfl, rfl⟩ := e3
  exact ⟨r, e1, e2⟩

/-! ## Non-vacuity -/

-- write-through after the example history of C03: backing cell = logical byte (instances of `wt_state`)
example : (runOps lruOps (DSys.init lruOps true exGeo 3 (Mem.empty riscvCfg)) exOps).1.mem.cells 0x4003 = 0xBE
    ∧ logical (runOps lruOps (DSys.init lruOps true exGeo 3 (Mem.empty riscvCfg)) exOps).1 0x4003 = 0xBE
    ∧ resident (runOps lruOps (DSys.init lruOps true exGeo 3 (Mem.empty riscvCfg)) exOps).1 0x4003 = true := by
  decide +kernel

-- write-back after the same history: the block of 0x4000 is resident and its backing cell lags
-- (0x11 vs 0xBE); the block of 0x4008 has been evicted and written back: backing = logical = 5
example : resident (runOps lruOps (DSys.init lruOps false exGeo 3 (Mem.empty riscvCfg)) exOps).1 0x4003 = true
    ∧ (runOps lruOps (DSys.init lruOps false exGeo 3 (Mem.empty riscvCfg)) exOps).1.mem.cells 0x4003 = 0x11
    ∧ logical (runOps lruOps (DSys.init lruOps false exGeo 3 (Mem.empty riscvCfg)) exOps).1 0x4003 = 0xBE
    ∧ resident (runOps lruOps (DSys.init lruOps false exGeo 3 (Mem.empty riscvCfg)) exOps).1 0x4008 = false
    ∧ (runOps lruOps (DSys.init lruOps false exGeo 3 (Mem.empty riscvCfg)) exOps).1.mem.cells 0x4008 = 5
    ∧ logical (runOps lruOps (DSys.init lruOps false exGeo 3 (Mem.empty riscvCfg)) exOps).1 0x4008 = 5 := by
  decide +kernel

-- an instance of the hypothesis of `eviction_writes_back`: in the write-back state after the first
-- three operations, installing the block of 0x4008 displaces the dirty block of 0x4000
example : (writeBlock lruOps
      (runOps lruOps (DSys.init lruOps false exGeo 3 (Mem.empty riscvCfg)) (exOps.take 3)).1.sets
      (decode 1 0 0x4008) [5]).map (fun r => r.2) = .ok (false, some (0x4000, [0x1122AA44])) := by
  decide +kernel

end ArchSim.Props.C12
