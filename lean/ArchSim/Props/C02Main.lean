/-
C02, composed: the five-stage pipeline with hazard detection is equivalent to single-cycle mode.

`ArchSim/Props/C02.lean` (control half) relates the pipeline (`Pipe.step`) to the sequential reference
machine `Pipe.seqStep`; `ArchSim/Props/C02Split.lean` (data-path half, `split_agrees`) shows that one
step of that reference machine is one `Rv.singleStep`. Here the two are composed: every statement is
about `Pipe.step` (five-stage mode) and `Rv.singleStep` (single-cycle mode) only.

The hypotheses `ProgWF`, `SOK` (satisfied by every freshly loaded simulation without instruction cache and without
data cache — `SOK` contains C01's `StOK`, a flat RISC-V data memory — whose
program has no CSR instruction, `fence` or `ebreak`: `load_progWF_pipe`, `load_sok` in `Lemmas/E2EState.lean`) and
`singleRun`, `singleTrace` are defined in `Lemmas/C02Compose.lean`; `pipeRun`, `runOK`, `retireLog` in
`Spec/PipeSeq.lean`; `isDone`, `PSt.init` in `Model/Pipe.lean`.
-/
import ArchSim.Lemmas.C02Compose
import ArchSim.Props.C02

namespace ArchSim.Props.C02Main
open ArchSim ArchSim.Rv ArchSim.Pipe

/-- One step of the control half's sequential reference machine is one single-cycle step: same
    fault, and without a fault the same state (full `St` equality). -/
theorem seqStep_is_singleStep (prog : List Instr) (hP : ProgWF prog) (s : St) (hS : SOK prog s) :
    seqFault s = (singleStep s).fault ∧ ((singleStep s).fault = none → seqStep s = (singleStep s).st) :=
  seq_eq_single prog hP s hS

/-- The hypotheses are an invariant of single-cycle runs. -/
theorem sok_preserved (prog : List Instr) (hP : ProgWF prog) (s : St) (hS : SOK prog s) :
    SOK prog (singleStep s).st := SOK_step prog hP.toC01 s hS

/-- If the five-stage simulation loop `while not is_done(): step()` with hazard
    detection stops after `n` cycles without a fault, then the single-cycle loop
    `while not is_done(): step()` from the same initial state (`SOK`: no instruction cache, flat data memory
    without data cache) stops after `k ≤ n` steps without a
    fault (`k` is the first step at which single-cycle mode is done), and the two final states have
    the same registers, data memory, console output, exit code, retired-instruction count,
    taken-branch count, procedure-call count and pc; moreover the sequence of addresses leaving the
    five-stage write-back stage is exactly the sequence of addresses single-cycle mode executes. -/
theorem pipe_equals_single_cycle (prog : List Instr) (hP : ProgWF prog) (st : St) (hS : SOK prog st)
    (hx : st.exitCode = none) (n : Nat) (hr : runOK n (PSt.init st true))
    (hd : isDone (pipeRun n (PSt.init st true)) = true)
    (hprev : ∀ m, m < n → isDone (pipeRun m (PSt.init st true)) = false) :
    ∃ k, k ≤ n ∧
      (∀ j, j < k → (singleStep (singleRun j st)).fault = none ∧ singleDone (singleRun j st) = false) ∧
      singleDone (singleRun k st) = true ∧
      (pipeRun n (PSt.init st true)).st.regs = (singleRun k st).regs ∧
      (pipeRun n (PSt.init st true)).st.mem = (singleRun k st).mem ∧
      (pipeRun n (PSt.init st true)).st.output = (singleRun k st).output ∧
      (pipeRun n (PSt.init st true)).st.exitCode = (singleRun k st).exitCode ∧
      (pipeRun n (PSt.init st true)).st.instrs = (singleRun k st).instrs ∧
      (pipeRun n (PSt.init st true)).st.branches = (singleRun k st).branches ∧
      (pipeRun n (PSt.init st true)).st.procs = (singleRun k st).procs ∧
      (pipeRun n (PSt.init st true)).st.pc = (singleRun k st).pc ∧
      retireLog n (PSt.init st true) = singleTrace k st := by
  obtain ⟨k, hk, h1, h2, h3, h4⟩ := final_state_single_raw prog hP st hS true hx n hr
    (rawFree_init st (hS.progOK hP) (hS.icoh hP) n hr) hd hprev
  exact ⟨k, hk, h1, h2, h3.1.regs, h3.1.mem, h3.1.output, h3.1.exitCode, h3.1.instrs, h3.1.branches,
    h3.1.procs, h3.2, h4⟩

/-- If single-cycle mode, after `kstar` fault-free steps, is done or raises a
    fault in its next step, five-stage mode has raised a fault or is done after at most
    `5 * (kstar + 2)` cycles (start state `SOK`: no instruction cache, no data cache). -/
theorem pipe_terminates_when_single_does (prog : List Instr) (hP : ProgWF prog) (st : St)
    (hS : SOK prog st) (kstar : Nat)
    (hnf : ∀ j, j < kstar → (singleStep (singleRun j st)).fault = none)
    (hh : singleDone (singleRun kstar st) = true ∨ (singleStep (singleRun kstar st)).fault.isSome = true) :
    ∃ N, N ≤ 5 * (kstar + 2) ∧
      (¬ runOK N (PSt.init st true) ∨ isDone (pipeRun N (PSt.init st true)) = true) :=
  terminates_single_raw prog hP st hS true (rawFree_init st (hS.progOK hP) (hS.icoh hP)) kstar hnf hh

/-- If cycle `n + 1` of five-stage mode is the first to report a fault, for
    the instruction at address `a`, then single-cycle mode executes `k ≤ n` steps without fault and
    its next step reports the same fault for the instruction at the same address `a`; the five-stage
    registers and console output at the moment of the fault are those of single-cycle mode at that
    point (before the faulting instruction). Start state `SOK`: no instruction cache, no data cache. -/
theorem fault_agrees_single_cycle (prog : List Instr) (hP : ProgWF prog) (st : St) (hS : SOK prog st)
    (n : Nat) (hr : runOK n (PSt.init st true)) (ft : PFault)
    (hft : (step (pipeRun n (PSt.init st true))).fault = some ft) :
    ∃ k, k ≤ n ∧ (∀ j, j < k → (singleStep (singleRun j st)).fault = none) ∧
      (singleStep (singleRun k st)).fault = some (ft.addr, ft.fault) ∧ (singleRun k st).pc = ft.addr ∧
      (step (pipeRun n (PSt.init st true))).p.st.regs = (singleRun k st).regs ∧
      (step (pipeRun n (PSt.init st true))).p.st.output = (singleRun k st).output :=
  fault_agrees_single_raw prog hP st hS true n hr (rawFree_init st (hS.progOK hP) (hS.icoh hP) n hr) ft hft

/-! ### Non-vacuity: the example program of the control half (RAW interlock, store/load, taken
branch with a squashed instruction, exiting ECALL). -/

open ArchSim.Props.C02 in
example : ProgWF exProg := ⟨by decide, by decide⟩

open ArchSim.Props.C02 in
example : SOK exProg exSt :=
  ⟨rfl, ⟨⟨_, rfl, rfl, ArchSim.Lemmas.C18.WF_empty _⟩, fun _ => by show (0 : Nat) < 4294967296; decide, rfl,
    by decide, by decide⟩⟩

open ArchSim.Props.C02 in
/-- Single-cycle mode is done after 8 fault-free steps on the example, with the same 8 addresses the
    five-stage write-back stage retires. -/
example : singleDone (singleRun 8 exSt) = true ∧ singleTrace 8 exSt = [0, 4, 8, 12, 16, 20, 28, 32] := by
  decide

end ArchSim.Props.C02Main
