/-
C07 — retire times / cycle count follow the documented pipeline schedule (`Spec/Skeleton.lean`).
The stage outputs of a cycle (`nIF`, `nID`, `exO`, `meO`, `nWB`), `fetchExtra`/`memExtra`, `NoFault`/`NoFlush` are
defined in `Lemmas/C07Finish.lean`, straight-line programs in `Lemmas/C07LineStep.lean`, `erase`/`outcomes` in
`Lemmas/C07SkelStep.lean`.
-/
import ArchSim.Lemmas.C07Flat
import ArchSim.Lemmas.C07LineStep
import ArchSim.Lemmas.C07Closed
import ArchSim.Lemmas.C07SkelStep

namespace ArchSim.Props.C07
open ArchSim ArchSim.Rv ArchSim.Pipe ArchSim.Lemmas.C07 ArchSim.Lemmas.C02Split ArchSim.Spec

/-- With hazard detection switched off the ID stage never raises its stall signal. -/
theorem idStall_off (rr : ArchSim.Rv.RegRead) (l1 l2 : Option Latch) : idStall false rr l1 l2 = false :=
  ArchSim.Lemmas.C02Split.idStall_off rr l1 l2

/-! ### the cycle counter -/

/-- Every five-stage step that raises no exception advances the cycle counter by exactly one, plus the
    extra cycles of this cycle's instruction fetch (`fetchExtra`: 0 while stalled or with nothing at the
    pc), plus the extra cycles of the MEM stage's memory access (`memExtra`: 0 for a bubble). -/
theorem cycle_increment (p : PSt) (h : (step p).fault = none) :
    (step p).p.st.cycles = p.st.cycles + 1 + fetchExtra p + memExtra p :=
  step_cycles_ok p h

/-- The same when the EX stage raises (the MEM stage does not run in that cycle): one plus the fetch. -/
theorem cycle_increment_ex_fault (p : PSt) (h : (exO p).fault.isSome) :
    (step p).p.st.cycles = p.st.cycles + 1 + fetchExtra p := by
  rw [step_cycles]; unfold memExtraRun; simp [h]

/-- The same when EX does not raise, whether or not the MEM stage then raises: one plus the fetch plus
    the extra cycles of the (possibly faulting) memory access. -/
theorem cycle_increment_mem_fault (p : PSt) (h : (exO p).fault = none) :
    (step p).p.st.cycles = p.st.cycles + 1 + fetchExtra p + memExtra p := by
  rw [step_cycles]; unfold memExtraRun; simp [h]

/-- The fetch term is zero or the miss penalty of the instruction cache; without an instruction cache
    it is zero. -/
theorem fetch_extra_is_penalty (im : IMem) (pc : Int) :
    (im.fetch pc).extra = 0 ∨ ∃ c, im.cache = some c ∧ (im.fetch pc).extra = c.penalty := by
  cases h : im.cache with
  | none => left; exact (fetch_uncached_frame im pc h).2
  | some c =>
    unfold IMem.fetch
    simp only [h]
    repeat' split
    all_goals first
      | (left; rfl)
      | (right; exact ⟨_, rfl, rfl⟩)

/-- Unless EX is handed an ecall this cycle, the MEM term is the extra of `memory_access` on the
    memory system of the start of the cycle. -/
theorem mem_extra_start_of_cycle (p : PSt) (h : ∀ d, exInput p = some d → d.instr.op ≠ .ecall) :
    memExtra p = maExtra p.st.mem (memInput p) := by
  unfold memExtra exO; rw [exStage_st_nonEcall _ _ _ _ h, sWB_mem]

/-- Without caches every five-stage step (faulting or not) adds exactly one cycle. -/
theorem cycle_increment_no_cache (p : PSt) (m : Mem.Mem) (hm : p.st.mem = .flat m)
    (hc : p.st.imem.cache = none) : (step p).p.st.cycles = p.st.cycles + 1 :=
  step_cycles_flat p m hm hc

/-- A single-cycle step adds one, plus the fetch extra, plus the extra of the instruction's counted data
    access (`singleExtra`); the uncounted display re-read of a load adds nothing, also on a fault. -/
theorem single_cycle_increment (s : St) : (singleStep s).st.cycles = s.cycles + 1 + singleExtra s :=
  singleStep_cycles s

/-- The uncounted re-read of a load never adds cycles (flat or cached, hit or miss). -/
theorem uncounted_reread_free (ms : MemSys) (bits : Nat) (a : Int) : (ms.read bits a false).extra = 0 :=
  read_uncounted_extra ms bits a

/-- Without caches a single-cycle step adds exactly one cycle. -/
theorem single_cycle_increment_no_cache (s : St) (m : Mem.Mem) (hm : s.mem = .flat m)
    (hc : s.imem.cache = none) : (singleStep s).st.cycles = s.cycles + 1 := by
  rw [singleStep_cycles, singleExtra_flat s m hm hc]

/-! ### straight-line programs take n + 4 cycles -/

/-- A straight-line program `prog` of `n ≤ 4096` plain instructions (register/immediate arithmetic,
    shifts, lui/auipc) in which no instruction reads a non-x0 register written by one of the two
    instructions before it (`HazardFree`), started at pc 0 in an empty pipeline with an uncached
    instruction memory — any data memory system, any register contents, hazard detection on or off:
    no step ever raises; after `k` cycles exactly `min n (k - 4)` instructions have retired
    (instruction `m` retires in cycle `m + 5`) and `k` cycles were counted; the pipeline is done after
    exactly `n + 4` steps and, for `n ≥ 1`, after no smaller number of steps. -/
theorem straight_line_n_plus_4 (prog : List Instr) (hplain : ∀ i ∈ prog, PlainInstr i)
    (hfree : HazardFree prog) (hlen : prog.length ≤ 4096) (p0 : PSt) (hstart : LineStart prog p0) :
    (∀ k, (step (iter stepP k p0)).fault = none) ∧
    (∀ k, (iter stepP k p0).st.instrs = p0.st.instrs + min prog.length (k - 4) ∧
          (iter stepP k p0).st.cycles = p0.st.cycles + k ∧ (iter stepP k p0).stalled = none) ∧
    isDone (iter stepP (prog.length + 4) p0) = true ∧
    (iter stepP (prog.length + 4) p0).st.instrs = p0.st.instrs + prog.length ∧
    (iter stepP (prog.length + 4) p0).st.cycles = p0.st.cycles + prog.length + 4 ∧
    (0 < prog.length → ∀ k, k < prog.length + 4 → isDone (iter stepP k p0) = false) := by
  have hrun := line_run prog hplain hfree hlen _ _ p0 (lineInv_start prog p0 hstart)
  refine ⟨fun k => (hrun k).2, fun k => ⟨(hrun k).1.instrs, (hrun k).1.cycles, (hrun k).1.stl⟩,
    ?_, ?_, ?_, ?_⟩
  · exact (line_isDone prog _ _ _ _ (hrun _).1).2 (Or.inr (Nat.le_refl _))
  · rw [(hrun _).1.instrs]; simp
  · rw [(hrun _).1.cycles]; omega
  · intro hn k hk
    cases hd : isDone (iter stepP k p0) with
    | false => rfl
    | true => have := (line_isDone prog _ _ _ _ (hrun k).1).1 hd; omega

/-- The empty program is done immediately. -/
theorem straight_line_empty (p0 : PSt) (hstart : LineStart [] p0) : isDone p0 = true :=
  (line_isDone [] _ _ 0 p0 (lineInv_start [] p0 hstart)).2 (Or.inl rfl)

/-! ### closed forms of the schedule rules -/

/-- ID raises its stall signal exactly when detection is on and its (non-empty) input reads a non-x0
    register written by the instruction in ID/EX or EX/MEM (`idStall`). -/
theorem interlock_condition (p : PSt) :
    latchStall (nID p) = true ↔
      ∃ f, idInput p = some f ∧ idStall p.hazard (accessRegs f.instr (sWB p).regs) p.l1 p.l2 = true := by
  unfold nID
  cases h : idInput p with
  | none => simp [idStage_none, latchStall]
  | some f => simp [idStage_some, latchStall, idLatch]

/-- Decode interlock = exactly two bubbles. If an unstalled pipeline's ID raises its stall signal
    (and EX does not), and the detection cycle and the two following cycles neither raise nor flush:
    EX is fed a bubble in the two following cycles while ID keeps re-decoding the (flagged) consumer
    and IF/ID keeps the instruction fetched in the detection cycle; after the third cycle the pipeline
    is unstalled and EX's input is the consumer as decoded in the last stalled cycle — two cycles
    later than without the hazard; the `stalls` counter went up by one. -/
theorem interlock_two_bubbles (p : PSt) (hs : p.stalled = none)
    (hid : latchStall (nID p) = true) (hex : latchStall (exO p).latch = false)
    (q0 : NoFault p ∧ NoFlush p) (q1 : NoFault (step p).p ∧ NoFlush (step p).p)
    (q2 : NoFault (step (step p).p).p ∧ NoFlush (step (step p).p).p) :
    exInput (step p).p = none ∧ exInput (step (step p).p).p = none ∧
    idInput (step p).p = setFlag p.l0 ∧ idInput (step (step p).p).p = setFlag p.l0 ∧
    (step p).p.l0 = nIF p ∧ (step (step p).p).p.l0 = nIF p ∧ (step (step (step p).p).p).p.l0 = nIF p ∧
    (step (step (step p).p).p).p.stalled = none ∧
    exInput (step (step (step p).p).p).p = nID (step (step p).p).p ∧
    (step (step (step p).p).p).p.st.stalls = p.st.stalls + 1 := by
  obtain ⟨a1, a2, _, _, a5⟩ := interlock_start p q0.1 q0.2 hs hid hex
  obtain ⟨b1, b2, b3, _, _, b6, b7⟩ := interlock_bubble (step p).p _ a1 rfl q1.1 q1.2
  simp only [Nat.add_one_sub_one, Nat.succ_ne_zero, if_false] at b6
  obtain ⟨c1, c2, c3, c4, _, c6, c7⟩ := interlock_bubble (step (step p).p).p _ b6 rfl q2.1 q2.2
  simp only [Nat.sub_self, if_true] at c6
  refine ⟨b1, c1, b2, c2, a2, by rw [b3, a2], by rw [c3, b3, a2], c6, ?_, by rw [c7, b7, a5]⟩
  unfold exInput; rw [c6]; exact c4

/-- The detection cycle itself records an ID stall with two cycles to go. -/
theorem interlock_recorded (p : PSt) (hf : NoFault p) (hfl : NoFlush p) (hs : p.stalled = none)
    (hid : latchStall (nID p) = true) (hex : latchStall (exO p).latch = false) :
    (step p).p.stalled = some { k := 1, rem := 2, p0 := setFlag p.l0, p1 := none } :=
  (interlock_start p hf hfl hs hid hex).1

/-- Control transfers are resolved in MEM: when MEM processes (without exception, and with no exiting
    ecall in WB) a latch whose flush decision is `some a` — a taken branch, `jal`, `jalr` — then after
    that cycle the three younger registers are empty, no stall is recorded, the pc is `a mod 2^32`,
    the flush counter went up by one and the transfer sits in MEM/WB: three slots are squashed and
    the next cycle fetches at the target. -/
theorem redirect_three_slots (p : PSt) (e : Latch) (a : Int) (hin : memInput p = some e)
    (hfl : memFlush e = some a) (hf : NoFault p) (hwb : latchFlush (nWB p) = none) :
    (step p).p.l0 = none ∧ (step p).p.l1 = none ∧ (step p).p.l2 = none ∧ (step p).p.stalled = none ∧
    (step p).p.st.pc = a % 4294967296 ∧ (step p).p.st.flushes = p.st.flushes + 1 ∧
    ∃ rd, (step p).p.l3 = some (memLatch e rd) := by
  have hf2 := hf.2
  unfold meO at hf2
  rw [hin] at hf2
  obtain ⟨rd, hl⟩ := memStage_ok_latch _ e hf2
  have hl' : (meO p).latch = some (memLatch e rd) := by unfold meO; rw [hin]; exact hl
  have h3 : latchFlush (meO p).latch = some a := by rw [hl']; exact hfl
  rw [step_ok p hf.1 hf.2, finishStep_flush3 _ _ _ _ _ _ _ a hwb h3]
  refine ⟨rfl, rfl, rfl, rfl, rfl, ?_, rd, hl'⟩
  show (stallBump (pickStall p.stalled (nID p) (exO p).latch) (meO p).st).flushes + 1 = _
  rw [stallBump_st]
  exact congrArg (· + 1) (meO_flushes p)

/-- Which latches redirect: `jal` to pc+imm, `jalr` to the ALU result, a branch whose comparison is
    true to pc+imm; a branch whose comparison is false does not. -/
theorem redirect_targets (e : Latch) :
    (e.instr.op = .jal → memFlush e = e.pcImm) ∧ (e.instr.op = .jalr → memFlush e = e.result) ∧
    (e.instr.op.ty = .b → e.cmp = some true → memFlush e = e.pcImm) ∧
    (e.instr.op.ty = .b → e.cmp = some false → e.exitCode = none → memFlush e = none) := by
  unfold memFlush ctlOf
  refine ⟨fun h => ?_, fun h => ?_, fun h hc => ?_, fun h hc hx => ?_⟩
  · simp [h, Op.ty]
  · simp [h, Op.ty]
  · simp [h, hc]
  · simp [h, hc, hx]

/-- An unstalled pipeline fetches at the current pc: the latch IF produces carries that address. -/
theorem fetch_at_pc (p : PSt) (hs : p.stalled = none) (x : Latch) (h : nIF p = some x) :
    x.addr = p.st.pc := by
  unfold nIF at h; rw [hs] at h
  exact ifStage_addr (tick p.st) x h

/-- ECALL drain. An unstalled EX holding an (unflagged) ecall while EX/MEM is occupied: the service does
    not run in that cycle (EX leaves the state as WB left it) and a stall is counted; in the next
    cycle MEM gets a bubble and the service again does not run; in the cycle after, MEM gets a bubble
    and the service runs exactly then (`ecallRun`, on the state after that cycle's WB, all older
    instructions having left MEM); if that cycle neither raises nor flushes (no exit) the pipeline is
    unstalled afterwards with the finished ecall in EX/MEM. -/
theorem ecall_drain (p : PSt) (d : Latch) (hs : p.stalled = none) (hl1 : p.l1 = some d)
    (hop : d.instr.op = .ecall) (hfg : d.flagged = false) (hl2 : p.l2.isSome = true)
    (q0 : NoFault p ∧ NoFlush p) (q1 : NoFault (step p).p ∧ NoFlush (step p).p) :
    (exO p).st = sWB p ∧ (step p).p.st.stalls = p.st.stalls + 1 ∧
    memInput (step p).p = none ∧ (exO (step p).p).st = sWB (step p).p ∧
    memInput (step (step p).p).p = none ∧
    exO (step (step p).p).p = ecallRun (sWB (step (step p).p).p) { d with flagged := true } ∧
    (NoFault (step (step p).p).p → NoFlush (step (step p).p).p →
      (step (step (step p).p).p).p.stalled = none ∧
      (step (step (step p).p).p).p.l2 = (exO (step (step p).p).p).latch ∧
      (step (step (step p).p).p).p.l0 = nIF p ∧
      (step (step (step p).p).p).p.st.stalls = p.st.stalls + 1) := by
  have hw : ecallMustWait d p.l2 p.l3 = true := by unfold ecallMustWait; simp [hfg, hl2]
  obtain ⟨a1, a2, a3, a4, a5⟩ := ecall_drain_start p d hs hl1 hop hw q0.1 q0.2
  -- MEM/WB is occupied after the detection cycle
  have hl3 : (step p).p.l3.isSome = true := by
    have hmf : (meO p).fault = none := q0.1.2
    rw [a4, meO_latch_isSome p hmf, memInput, hs]; exact hl2
  have hd' : setFlag p.l1 = some { d with flagged := true } := by rw [hl1]; rfl
  obtain ⟨b1, _, _, b4, _, _, b7, b8, b9⟩ := ecall_drain_cycle (step p).p _ a2 rfl q1.1.1 q1.2
  simp only [Nat.add_one_sub_one, Nat.succ_ne_zero, if_false] at b8
  have hex1 := (exO_exStall (step p).p _ a2 rfl _ hd' hop rfl).1 hl3
  have c4 := (inputs_exStall (step (step p).p).p _ b8 rfl).2.2.2
  have hex2 := (exO_exStall (step (step p).p).p _ b8 rfl _ hd' hop rfl).2 b7
  refine ⟨a1, a5, b1, hex1, c4, hex2, ?_⟩
  intro hf hfl
  obtain ⟨_, _, _, e4, _, e6, _, e8, e9⟩ := ecall_drain_cycle (step (step p).p).p _ b8 rfl hf.1 hfl
  simp only [Nat.sub_self, if_true] at e8
  exact ⟨e8, e6, by rw [e4, b4, a3], by rw [e9, b9, a5]⟩

/-- Why `ecall_drain` assumes an occupied EX/MEM register: in a configuration with the ecall in EX,
    EX/MEM empty and only MEM/WB occupied (one bubble between the ecall and the older instruction —
    no such state is reachable: the first clause of `Pipe.Shape`, part of the invariant `PInv` of C02, says
    `l1.isSome → l2 = none → l3 = none`; stalls insert two bubbles, flushes three) the
    two-cycle stall quantum outlasts the drain and the service runs in both stalled cycles. -/
theorem ecall_drain_needs_exmem (p : PSt) (d : Latch) (hs : p.stalled = none) (hl1 : p.l1 = some d)
    (hop : d.instr.op = .ecall) (hfg : d.flagged = false) (hl2 : p.l2 = none)
    (hl3 : p.l3.isSome = true)
    (q0 : NoFault p ∧ NoFlush p) (q1 : NoFault (step p).p ∧ NoFlush (step p).p) :
    exO (step p).p = ecallRun (sWB (step p).p) { d with flagged := true } ∧
    exO (step (step p).p).p = ecallRun (sWB (step (step p).p).p) { d with flagged := true } := by
  have hw : ecallMustWait d p.l2 p.l3 = true := by unfold ecallMustWait; simp [hfg, hl3]
  obtain ⟨_, a2, _, a4, _⟩ := ecall_drain_start p d hs hl1 hop hw q0.1 q0.2
  have hmi : memInput p = none := by unfold memInput; rw [hs]; exact hl2
  have hl3' : (step p).p.l3 = none := by rw [a4]; exact (meO_bubble p hmi).1
  obtain ⟨_, _, _, _, _, _, b7, b8, _⟩ := ecall_drain_cycle (step p).p _ a2 rfl q1.1.1 q1.2
  simp only [Nat.add_one_sub_one, Nat.succ_ne_zero, if_false] at b8
  have hd' : setFlag p.l1 = some { d with flagged := true } := by rw [hl1]; rfl
  exact ⟨(exO_exStall (step p).p _ a2 rfl _ hd' hop rfl).2 hl3',
    (exO_exStall (step (step p).p).p _ b8 rfl _ hd' hop rfl).2 b7⟩

/-! ### the pipeline simulates the data-free schedule skeleton -/

/-- Erasing all data from the pipeline state (`erase`: per register only which instruction, its
    address, the stall-preservation mark and the exit mark; plus pc, stall record and the data-free
    counters) commutes with every cycle that raises no exception: the next skeleton is
    `Skeleton.step` of the current skeleton and the cycle's outcomes (what IF delivered, EX's exit
    decision, MEM's redirect decision). So slot occupancy, stalls, flushes and retirements follow the
    documented rules encoded in `ArchSim/Spec/Skeleton.lean`, for every state, reachable or not. -/
theorem pipe_sim_skeleton (p : PSt) (h : (step p).fault = none) :
    erase (step p).p = Skeleton.step (erase p) (outcomes p) :=
  erase_step p h

/-- Along any exception-free run the skeleton of the pipeline is the skeleton run on the outcomes. -/
theorem pipe_run_skeleton (p : PSt) (k : Nat)
    (h : ∀ j, j < k → (step (iter (fun q => (step q).p) j p)).fault = none) :
    erase (iter (fun q => (step q).p) k p) = skRun p k := by
  induction k with
  | zero => rfl
  | succ k ih =>
    rw [iter_succ', skRun, ← ih (fun j hj => h j (by omega))]
    exact erase_step _ (h k (by omega))

/-- `is_done` is a function of the skeleton and of whether an instruction exists at the pc. -/
theorem is_done_skeleton (p : PSt) :
    Pipe.isDone p = Skeleton.isDone (erase p) (p.st.imem.instrAt p.st.pc).isSome := by
  unfold Pipe.isDone Skeleton.isDone erase
  simp only [eraseO_isNone]
  cases (p.st.imem.instrAt p.st.pc) <;> rfl

/-! ### Non-vacuity: a concrete three-instruction program -/

/-- `addi x1,x0,5 ; slli x2,x0,3 ; lui x3,1` — plain and hazard-free. -/
def demoProg : List Instr :=
  [{ op := .addi, rd := 1, rs1 := 0, imm := 5 }, { op := .slli, rd := 2, rs1 := 0, imm := 3 },
   { op := .lui, rd := 3, imm := 1 }]

def demoSt : St :=
  { regs := fun _ => 0, pc := 0, mem := .flat (Mem.Mem.empty Mem.riscvCfg),
    imem := { prog := demoProg, cache := none }, output := "", exitCode := none, cycles := 0,
    instrs := 0, branches := 0, procs := 0, stalls := 0, flushes := 0 }

def demoP : PSt := PSt.init demoSt true

example : (∀ i ∈ demoProg, PlainInstr i) := by decide
example : HazardFree demoProg := by decide
example : LineStart demoProg demoP := ⟨rfl, rfl, rfl, rfl, rfl, rfl, rfl, rfl⟩

/-- Direct evaluation of the model agrees: 3 instructions, 7 cycles, done, x1 = 5, x2 = 0, x3 = 4096,
    and not done after 6 cycles. -/
example : (iter stepP 7 demoP).st.cycles = 7 ∧ (iter stepP 7 demoP).st.instrs = 3 ∧
    isDone (iter stepP 7 demoP) = true ∧ isDone (iter stepP 6 demoP) = false ∧
    (iter stepP 7 demoP).st.regs 1 = 5 ∧ (iter stepP 7 demoP).st.regs 3 = 4096 := by
  decide

/-- `cycle_increment` on the first cycle of the demo (no fault). -/
example : (step demoP).fault = none ∧ (step demoP).p.st.cycles = 1 := by decide

/-! ### Non-vacuity of the cycle equation with caches -/

/-- `lw x1, 0(x5)` with x5 = 0x4000; instruction cache (LRU, 2 sets × 2 words, 1 way, penalty 10),
    write-back data cache (LRU, penalty 7). -/
def cachedSt : St :=
  { demoSt with
    regs := fun r => if r = 5 then 16384 else 0
    imem := { prog := [{ op := .lw, rd := 1, rs1 := 5, imm := 0 }, { op := .addi, rd := 2, imm := 1 }],
              cache := some (ICache.init true { idxBits := 1, blkBits := 1, assoc := 1 } 10) }
    mem := .cached true (Cache.DSys.init (Cache.polOps true) false
             { idxBits := 1, blkBits := 1, assoc := 1 } 7 (Mem.Mem.empty Mem.riscvCfg)) }

def cachedAfter (k : Nat) : PSt := iter stepP k (PSt.init cachedSt true)

/-- Cycle 1 misses in the instruction cache (+10), cycle 2 hits (+0), cycle 4 has the load in MEM
    missing in the data cache (+7); the totals follow the equation. Single-cycle mode: 1 + 10 + 7. -/
example : fetchExtra (cachedAfter 0) = 10 ∧ memExtra (cachedAfter 0) = 0 ∧
    fetchExtra (cachedAfter 1) = 0 ∧ memExtra (cachedAfter 3) = 7 ∧
    (cachedAfter 1).st.cycles = 11 ∧ (cachedAfter 2).st.cycles = 12 ∧ (cachedAfter 3).st.cycles = 13 ∧
    (cachedAfter 4).st.cycles = 21 ∧ (step (cachedAfter 3)).fault = none ∧
    singleExtra cachedSt = 17 ∧ (singleStep cachedSt).st.cycles = 18 ∧
    (singleStep cachedSt).fault = none := by decide

/-! ### Non-vacuity of the closed forms -/

def stOf (prog : List Instr) : St := { demoSt with imem := { prog := prog, cache := none } }
def after (prog : List Instr) (k : Nat) : PSt := iter stepP k (PSt.init (stOf prog) true)

/-- `addi x1,x0,5 ; add x2,x1,x1` — the hazard is detected in cycle 3. -/
def depProg : List Instr :=
  [{ op := .addi, rd := 1, rs1 := 0, imm := 5 }, { op := .add, rd := 2, rs1 := 1, rs2 := 1 }]

example : (after depProg 2).stalled = none ∧ latchStall (nID (after depProg 2)) = true ∧
    latchStall (exO (after depProg 2)).latch = false ∧
    (NoFault (after depProg 2) ∧ NoFlush (after depProg 2)) ∧
    (NoFault (after depProg 3) ∧ NoFlush (after depProg 3)) ∧
    (NoFault (after depProg 4) ∧ NoFlush (after depProg 4)) := by decide

/-- The run of `depProg` takes 2 + 4 + 2 cycles (two instructions, four to drain, two bubbles) and computes x2 = 10. -/
example : isDone (after depProg 8) = true ∧ isDone (after depProg 7) = false ∧
    (after depProg 8).st.regs 2 = 10 ∧ (after depProg 8).st.stalls = 1 := by decide

/-- `jal x1, 8` at address 0 is in MEM in cycle 4. -/
def jalProg : List Instr :=
  [{ op := .jal, rd := 1, imm := 8 }, { op := .addi, rd := 5, imm := 1 },
   { op := .addi, rd := 6, imm := 2 }, { op := .addi, rd := 7, imm := 3 }]

example : (memInput (after jalProg 3)).map memFlush = some (some 8) ∧ NoFault (after jalProg 3) ∧
    latchFlush (nWB (after jalProg 3)) = none ∧ (after jalProg 4).st.pc = 8 ∧
    (after jalProg 4).l0 = none ∧ (after jalProg 4).st.flushes = 1 := by decide

/-- `addi a7,x0,1 ; addi a0,x0,7 ; ecall` — the ecall is in EX in cycle 5 behind an occupied
    EX/MEM register (print-integer service). -/
def ecallProg : List Instr :=
  [{ op := .addi, rd := 17, imm := 1 }, { op := .addi, rd := 10, imm := 7 }, { op := .ecall }]

example : (after ecallProg 4).stalled = none ∧
    (after ecallProg 4).l1.map (fun d => (d.instr.op, d.flagged)) = some (.ecall, false) ∧
    (after ecallProg 4).l2.isSome = true ∧
    (NoFault (after ecallProg 4) ∧ NoFlush (after ecallProg 4)) ∧
    (NoFault (after ecallProg 5) ∧ NoFlush (after ecallProg 5)) ∧
    (NoFault (after ecallProg 6) ∧ NoFlush (after ecallProg 6)) ∧
    (after ecallProg 7).stalled = none ∧ (after ecallProg 7).st.stalls = 1 ∧
    isDone (after ecallProg 9) = true := by decide

/-- The same with the exit service (`a7 = 93`, `a0 = 7`): the hypotheses up to the cycle in which the
    service runs hold, and the exit code appears when the ecall retires. -/
def exitProg : List Instr :=
  [{ op := .addi, rd := 17, imm := 93 }, { op := .addi, rd := 10, imm := 7 }, { op := .ecall }]

example : (NoFault (after exitProg 4) ∧ NoFlush (after exitProg 4)) ∧
    (NoFault (after exitProg 5) ∧ NoFlush (after exitProg 5)) ∧
    (after exitProg 8).st.exitCode = none ∧ (after exitProg 9).st.exitCode = some 7 := by decide

/-- `pipe_sim_skeleton` on the interlock example: the skeleton after cycle 3 records the ID stall, and the erasure
    equation holds by evaluation. -/
example : (erase (after depProg 3)).stalled.map (fun s => (s.k, s.rem)) = some (1, 2) ∧
    erase (after depProg 3) = Skeleton.step (erase (after depProg 2)) (outcomes (after depProg 2)) ∧
    erase (after jalProg 4) = Skeleton.step (erase (after jalProg 3)) (outcomes (after jalProg 3)) := by
  decide

end ArchSim.Props.C07
