/-
C08, refinement clause: with hazard detection disabled, a hazard-free program (no instruction reads a
non-x0 register written by one of the two instructions before it; `Lemmas.C07.HazardFree`, e.g. any
program after `pad`: two nops behind every instruction) computes on the five-stage pipeline exactly
what single-cycle mode computes.

The proof is C02's `abs_step_raw` (`Lemmas/C02Main.lean`), whose only use of the interlock is the
decode verification condition `RawFree p` (`Lemmas/C02NoFlush.lean`) ("in an unstalled cycle without stall signal, the
instruction in ID reads no register that the instructions in EX and MEM will still write"). With
detection on it follows from the absence of a stall signal; here it follows from `HazardFree` plus the neighbour
invariant `NInv` (`ArchSim/Lemmas/C08Raw.lean`): the IF/ID, ID/EX and EX/MEM latches and the two latches preserved
under a stall (not MEM/WB, not the display latch: decode does not look at them) hold consecutively fetched program
instructions, so the two older latches below a decoding instruction always hold its fall-through neighbours at
addresses −4 and −8.
The theorems with a flag argument `hzf` hold for either setting; C08 is the case `hzf = false`. `ProgWF`, `SOK`,
`singleRun`, `singleTrace` are defined in `Lemmas/C02Compose.lean`, `pipeRun`, `runOK`, `retireLog` in
`Spec/PipeSeq.lean`, `PInv`, `abs`, `absF`, `absLog`, `SimP` in `Lemmas/C02Abs.lean`, `fetchOK` in
`Lemmas/C02Main.lean`.
-/
import ArchSim.Lemmas.C08Raw
import ArchSim.Lemmas.C02Compose
import ArchSim.Props.C08

namespace ArchSim.Props.C08Main
open ArchSim ArchSim.Rv ArchSim.Pipe ArchSim.Lemmas.C07 ArchSim.Lemmas.C08

/-- The neighbour invariant holds initially. -/
theorem neighbour_inv_init (st : St) (hzf : Bool) : NInv (PSt.init st hzf) := NInv_init st hzf

/-- The neighbour invariant is preserved by every non-faulting cycle. -/
theorem neighbour_inv_step (p : PSt) (hI : PInv p) (hN : NInv p) (hf : (step p).fault = none) :
    NInv (step p).p := NInv_step p hI hN hf

/-- In a hazard-free program the decode condition holds in every state satisfying the invariants:
    the instruction in ID reads no register that the instructions in EX and MEM will still write
    (no interlock needed). -/
theorem hazard_free_decode (p : PSt) (hI : PInv p) (hN : NInv p) (hfree : HazardFree p.st.imem.prog) :
    RawFree p := rawFree_of_hazardFree p hI hN hfree

/-- C08's `abs_step`: for a hazard-free program, one non-faulting cycle without hazard detection is
    one sequential step on the abstraction if the cycle performs a correct-path fetch, and leaves
    the abstraction unchanged otherwise; predicted fault and retire order evolve accordingly
    (same statement as C02's `abs_step`, the interlock replaced by `HazardFree`). -/
theorem hazard_free_refines (p : PSt) (hI : PInv p) (hN : NInv p) (hfree : HazardFree p.st.imem.prog)
    (hf : (step p).fault = none) :
    SimP (abs (step p).p) (if fetchOK p then seqStep (abs p) else abs p) ∧
    absF (step p).p = (if fetchOK p then seqFault (abs p) else absF p) ∧
    latchLog p.l3 ++ absLog (step p).p = absLog p ++ (if fetchOK p then seqLog (abs p) else []) :=
  abs_step_raw p hI (rawFree_of_hazardFree p hI hN hfree) hf

/-- Hazard-free program, five-stage mode with hazard detection off (`hzf = false`;
    the statement holds for either flag). If the loop `while not is_done(): step()` stops after `n`
    cycles without a fault, single-cycle mode stops after `k ≤ n` fault-free steps (`k` = its first
    done step) with the same registers, data memory, output, exit code, retired-instruction, branch
    and procedure counts and pc, and the five-stage retire order is the single-cycle execution
    order. -/
theorem hazard_free_equals_single_cycle (prog : List Instr) (hP : ProgWF prog) (hfree : HazardFree prog)
    (st : St) (hS : SOK prog st) (hzf : Bool) (hx : st.exitCode = none) (n : Nat)
    (hr : runOK n (PSt.init st hzf)) (hd : isDone (pipeRun n (PSt.init st hzf)) = true)
    (hprev : ∀ m, m < n → isDone (pipeRun m (PSt.init st hzf)) = false) :
    ∃ k, k ≤ n ∧
      (∀ j, j < k → (singleStep (singleRun j st)).fault = none ∧ singleDone (singleRun j st) = false) ∧
      singleDone (singleRun k st) = true ∧
      (pipeRun n (PSt.init st hzf)).st.regs = (singleRun k st).regs ∧
      (pipeRun n (PSt.init st hzf)).st.mem = (singleRun k st).mem ∧
      (pipeRun n (PSt.init st hzf)).st.output = (singleRun k st).output ∧
      (pipeRun n (PSt.init st hzf)).st.exitCode = (singleRun k st).exitCode ∧
      (pipeRun n (PSt.init st hzf)).st.instrs = (singleRun k st).instrs ∧
      (pipeRun n (PSt.init st hzf)).st.branches = (singleRun k st).branches ∧
      (pipeRun n (PSt.init st hzf)).st.procs = (singleRun k st).procs ∧
      (pipeRun n (PSt.init st hzf)).st.pc = (singleRun k st).pc ∧
      retireLog n (PSt.init st hzf) = singleTrace k st := by
  have hfree' : HazardFree st.imem.prog := by rw [hS.1]; exact hfree
  obtain ⟨k, hk, h1, h2, h3, h4⟩ := final_state_single_raw prog hP st hS hzf hx n hr
    (rawFree_run_of_hazardFree st hzf (hS.progOK hP) (hS.icoh hP) hfree' n hr) hd hprev
  exact ⟨k, hk, h1, h2, h3.1.regs, h3.1.mem, h3.1.output, h3.1.exitCode, h3.1.instrs, h3.1.branches,
    h3.1.procs, h3.2, h4⟩

/-- Termination transfers: if single-cycle mode is done, or raises a fault, after `kstar` fault-free
    steps, the five-stage run of a hazard-free program (detection off) has raised a fault or is done
    after at most `5 * (kstar + 2)` cycles. -/
theorem hazard_free_terminates (prog : List Instr) (hP : ProgWF prog) (hfree : HazardFree prog)
    (st : St) (hS : SOK prog st) (hzf : Bool) (kstar : Nat)
    (hnf : ∀ j, j < kstar → (singleStep (singleRun j st)).fault = none)
    (hh : singleDone (singleRun kstar st) = true ∨ (singleStep (singleRun kstar st)).fault.isSome = true) :
    ∃ N, N ≤ 5 * (kstar + 2) ∧
      (¬ runOK N (PSt.init st hzf) ∨ isDone (pipeRun N (PSt.init st hzf)) = true) :=
  terminates_single_raw prog hP st hS hzf
    (fun n hr => rawFree_run_of_hazardFree st hzf (hS.progOK hP) (hS.icoh hP)
      (by rw [hS.1]; exact hfree) n hr) kstar hnf hh

/-- Fault agreement: the first fault of the five-stage run of a hazard-free program (detection off)
    is the fault single-cycle mode raises, for the same instruction address, with the same registers
    and output at that point. -/
theorem hazard_free_fault_agrees (prog : List Instr) (hP : ProgWF prog) (hfree : HazardFree prog)
    (st : St) (hS : SOK prog st) (hzf : Bool) (n : Nat) (hr : runOK n (PSt.init st hzf)) (ft : PFault)
    (hft : (step (pipeRun n (PSt.init st hzf))).fault = some ft) :
    ∃ k, k ≤ n ∧ (∀ j, j < k → (singleStep (singleRun j st)).fault = none) ∧
      (singleStep (singleRun k st)).fault = some (ft.addr, ft.fault) ∧ (singleRun k st).pc = ft.addr ∧
      (step (pipeRun n (PSt.init st hzf))).p.st.regs = (singleRun k st).regs ∧
      (step (pipeRun n (PSt.init st hzf))).p.st.output = (singleRun k st).output :=
  fault_agrees_single_raw prog hP st hS hzf n hr
    (rawFree_run_of_hazardFree st hzf (hS.progOK hP) (hS.icoh hP) (by rw [hS.1]; exact hfree) n hr) ft hft

/-- Nop-padding instance: the padding `pad prog` of any program (two `addi x0,x0,0` behind every
    instruction) runs on the five-stage pipeline without hazard detection to the same final state
    as in single-cycle mode. -/
theorem padded_equals_single_cycle (prog : List Instr) (hP : ProgWF (pad prog)) (st : St)
    (hS : SOK (pad prog) st) (hx : st.exitCode = none) (n : Nat)
    (hr : runOK n (PSt.init st false)) (hd : isDone (pipeRun n (PSt.init st false)) = true)
    (hprev : ∀ m, m < n → isDone (pipeRun m (PSt.init st false)) = false) :
    ∃ k, k ≤ n ∧ singleDone (singleRun k st) = true ∧
      (pipeRun n (PSt.init st false)).st.regs = (singleRun k st).regs ∧
      (pipeRun n (PSt.init st false)).st.mem = (singleRun k st).mem ∧
      (pipeRun n (PSt.init st false)).st.output = (singleRun k st).output ∧
      (pipeRun n (PSt.init st false)).st.exitCode = (singleRun k st).exitCode := by
  obtain ⟨k, hk, _, h2, h3, h4, h5, h6, _⟩ :=
    hazard_free_equals_single_cycle (pad prog) hP (Props.C08.pad_hazard_free prog) st hS false hx n hr hd hprev
  exact ⟨k, hk, h2, h3, h4, h5, h6⟩

/-! ### Non-vacuity: the padded dependent pair of `Props/C08.lean`, detection off. -/

open ArchSim.Props.C08 in
example : ProgWF (pad depProg) := ⟨by decide, by decide⟩

open ArchSim.Props.C08 in
example : SOK (pad depProg) (stOf (pad depProg)) :=
  ⟨rfl, ⟨⟨_, rfl, rfl, ArchSim.Lemmas.C18.WF_empty _⟩, fun _ => by show (0 : Nat) < 4294967296; decide, rfl,
    by decide, by decide⟩⟩

open ArchSim.Props.C08 in
/-- The run: 10 fault-free cycles without detection, done exactly then, x2 = 10 (the fresh value). -/
example :
    runOK 10 (PSt.init (stOf (pad depProg)) false) ∧
    isDone (pipeRun 10 (PSt.init (stOf (pad depProg)) false)) = true ∧
    (∀ m, m < 10 → isDone (pipeRun m (PSt.init (stOf (pad depProg)) false)) = false) ∧
    (pipeRun 10 (PSt.init (stOf (pad depProg)) false)).st.regs 2 = 10 ∧
    retireLog 10 (PSt.init (stOf (pad depProg)) false) = [0, 4, 8, 12, 16, 20] := by decide

end ArchSim.Props.C08Main
