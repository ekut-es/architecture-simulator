/-
C01 — single-cycle RV32IM execution refines the ISA reference semantics of `Spec/RvSpec.lean` (bit-vector
registers, byte memory, ecall table). The abstraction `α`, the outcome maps `αBeh`/`αStep`, the hypotheses
`InstrWF`, `Supported`, `StOK`, `ProgOK` and the iterated steps are defined in `Lemmas/C01Defs.lean` and `Lemmas/C01Step.lean`.
-/
import ArchSim.Lemmas.C01Step

namespace ArchSim.Props.C01
open ArchSim ArchSim.Rv ArchSim.Spec.RvSpec ArchSim.Lemmas.C01

/-- For every supported instruction (all 46 mnemonics: integer register/immediate, shifts, M extension,
    loads, stores, branches, LUI/AUIPC, JAL/JALR, ecall), every register triple (aliasing and x0
    included), every immediate of its format, and every state with a flat memory: executing it in
    single-cycle mode and abstracting gives exactly what the reference semantics prescribes — same
    registers, memory, pc, output, exit code, or the same fault. -/
theorem exec_refines (i : Instr) (s : St) (hi : InstrWF i) (hsup : Supported i.op) (hs : StOK s) :
    αBeh (execOne i s) = some (exec i (α s)) :=
  execOne_refines i s hi hsup hs

/-- At a fault (unmapped data address, invalid ecall code) registers, pc, output and exit code are
    unchanged, and memory is unchanged except that a store has written the bytes preceding the first
    unmapped one — the state the specification's `atFault` describes. -/
theorem fault_state (i : Instr) (s : St) (hi : InstrWF i) (hs : StOK s) (f : Fault)
    (hf : (execOne i s).fault = some f) : α (execOne i s).st = atFault i (α s) := by
  obtain ⟨m, hm, hc, hw⟩ := hs.flat
  have hbf : (behavior i s).fault = some f ∧ (execOne i s).st = (behavior i s).st := by
    simp only [execOne] at hf ⊢
    split at hf
    · rename_i ft hft; exact ⟨hft.trans (by rw [← hf, hft]), rfl⟩
    · cases hf
  rw [hbf.2]
  by_cases hty : i.op.ty = .s
  · rw [behavior_store_st i s m hm hc hty, ← storeWhile_writeN s m hm hc, ← addr_store]
    have himm : -2048 ≤ i.imm ∧ i.imm < 2048 := by have := hi.imm; simp only [ImmOK, hty] at this; exact this
    cases hop : i.op <;> (rw [hop] at hty; try (exact absurd hty (by decide)))
    -- sb, sh, sw: the bytes the reference stores are those of the masked `rs2`
    all_goals simp only [atFault, hop, α_get s hs _ hi.rs1, α_get s hs _ hi.rs2, immI_eq i himm, accessBits,
      Nat.reduceDiv, ← bytes_byte, ← bytes_half, ← bytes_word]
  · rw [behavior_fault_α i s hm hty f hbf.1, atFault_non_store i _ hty]

-- `h` is not needed: every constructor, supported or not, stores an immediate in the range of its format
set_option linter.unusedVariables false in
/-- The immediate clause of `InstrWF` is what the Python constructors guarantee: whatever raw immediate is
    passed, the stored one lies in the range of the instruction's format. (The constructors do not check
    register numbers; those of a loaded program are bounded by the parser, `C04Asm.loaded_program_wf`.) -/
theorem constructor_imm_wf (op : Op) (raw : Int) (h : Supported op) : ImmOK op (storedImm op raw) :=
  storedImm_ok op raw

/-! ## register 0 reads zero: in the simulator because no step writes it, in the reference by construction -/

/-- Register 0 is never written: one step (of any state — cached or flat memory, any instruction
    memory, any instruction) leaves `regs 0` unchanged. -/
theorem x0_unchanged (s : St) : (singleStep s).st.regs 0 = s.regs 0 := by
  rcases (Lemmas.C02Split.singleStep_frame s).2.2.1 with h | ⟨i, s2, h, h2⟩
  · rw [h]
  · rw [h, behavior_regs0, h2]

/-- Hence register 0 reads 0 in every state reachable from a state with `regs 0 = 0`, by raw steps or
    by simulation steps, for every number of steps. -/
theorem x0_zero (s : St) (h : s.regs 0 = 0) (n : Nat) :
    (stepN n s).st.regs 0 = 0 ∧ (simN n s).st.regs 0 = 0 :=
  have hstep : ∀ t : St, t.regs 0 = 0 → (singleStep t).st.regs 0 = 0 := fun t ht => by rw [x0_unchanged, ht]
  ⟨stepN_st _ hstep n s h, simN_st _ hstep n s h⟩

/-- In the reference semantics register number 0 reads zero by construction, whatever the state. -/
theorem spec_x0_zero (σ : SpecSt) : σ.get 0 = 0 := rfl

/-! ## from one step to runs: `StOK` and the instruction memory are invariant, so the one-step refinement iterates -/

/-- One `singleStep` (fetch, count, execute, uncounted re-read for loads, pc update) refines one step
    of the reference machine on the same program — for a state without data cache (`StOK`) and without
    instruction cache (`him`), and a program of at most 4096 supported instructions (`ProgOK`). -/
theorem step_refines (prog : List Instr) (hp : ProgOK prog) (s : St)
    (him : s.imem = { prog := prog, cache := none }) (hs : StOK s) :
    αStep (singleStep s) = some (step prog (α s)) :=
  singleStep_refines prog hp s him hs

/-- The hypotheses are an invariant: a step keeps the instruction memory and re-establishes `StOK`
    (also when it faults); a reported fault carries the address of the faulting instruction. -/
theorem invariant_preserved (prog : List Instr) (hp : ProgOK prog) (s : St)
    (him : s.imem = { prog := prog, cache := none }) (hs : StOK s) :
    (singleStep s).st.imem = s.imem ∧ StOK (singleStep s).st ∧
      (∀ a f, (singleStep s).fault = some (a, f) → a = s.pc) :=
  ⟨Lemmas.C02Split.singleStep_imem_nocache s (by rw [him]), StOK_step prog hp s him hs,
    fun _ _ h => (Lemmas.C02Split.singleStep_fault_pc h).1⟩

-- `hc` is not needed: a flat memory of any configuration satisfies `LoadOK`
/-- On a flat memory the uncounted re-read of a load returns a value and changes nothing. -/
theorem load_reread_noop (i : Instr) (s : St) (m : Mem.Mem) (hm : s.mem = .flat m)
    (hc : m.cfg = Mem.riscvCfg) (hr : s.regs i.rs1 < 4294967296) (hty : i.op.ty = .memI)
    (hf : (behavior i s).fault = none) :
    ∃ r, memoryAccess i (some ((wrapU (s.regs i.rs1 : Int) : Int) + i.imm)) none (behavior i s).st.mem false =
      some { mem := (behavior i s).st.mem, extra := 0, res := .ok r } := by
  rw [wrapU_natCast _ hr, behavior_load_mem i s hty, hm]
  rw [behavior_memI i s hty, hm] at hf
  cases hrd : ((MemSys.flat m).read (accessBits i.op) ((s.regs i.rs1 : Int) + i.imm) true).res with
  | error e => simp only [hrd] at hf; cases hf
  | ok v =>
    have hre := (Lemmas.C02Split.loadOK_flat m _ (accessBits_le i.op) _ v hrd).2
    exact ⟨_, by rw [Lemmas.C02Split.memoryAccess_load_ok i hty _ none _ false v (by rw [hre]), hre]⟩

/-- For every number of steps `n`: `n` raw `singleStep`s (stopping at the first fault) refine `n` steps
    of the reference machine (as `step_refines`: no data cache, no instruction cache, at most 4096
    instructions). -/
theorem run_refines (prog : List Instr) (hp : ProgOK prog) (n : Nat) (s : St)
    (him : s.imem = { prog := prog, cache := none }) (hs : StOK s) :
    αStep (stepN n s) = some (iter prog n (α s)) := by
  induction n generalizing s with
  | zero => rfl
  | succ n ih => exact thenStep_refines prog hp s him hs (stepN n) (iter prog n) ih

/-- The simulation is done exactly when the reference machine has halted: the pc holds no instruction
    or an exit code is set. -/
theorem done_iff (prog : List Instr) (s : St) (him : s.imem = { prog := prog, cache := none })
    (h0 : 0 ≤ s.pc) (h1 : s.pc < 4294967296) : singleDone s = true ↔ halted prog (α s) := by
  have hfetch : s.imem.instrAt s.pc = fetch prog (α s).pc := by
    rw [him]; exact instrAt_fetch prog none s.pc h0 h1
  simp only [singleDone, halted, Bool.or_eq_true, hfetch, Option.isNone_iff_eq_none]
  rfl

/-- For every `n`: `n` calls of `RiscvSimulation.step()` (which does nothing once done) refine the
    reference machine run for at most `n` steps — same final state, or the same fault (as `step_refines`:
    no data cache, no instruction cache, at most 4096 instructions). -/
theorem sim_refines (prog : List Instr) (hp : ProgOK prog) (n : Nat) (s : St)
    (him : s.imem = { prog := prog, cache := none }) (hs : StOK s) :
    αStep (simN n s) = some (run prog n (α s)) := by
  induction n generalizing s with
  | zero => rfl
  | succ n ih =>
    have hd := done_iff prog s him hs.pc_lo hs.pc_hi
    simp only [simN, run]
    by_cases hdone : singleDone s = true
    · rw [if_pos hdone, if_pos (hd.mp hdone)]; rfl
    · rw [if_neg hdone, if_neg (fun h => hdone (hd.mpr h))]
      exact thenStep_refines prog hp s him hs (simN n) (run prog n) ih

/-! ## the program counter stays a 32-bit value -/

/-- After a step of any state with `0 ≤ pc < 2^32` (cached or flat memory, any instruction, fault or
    not) the pc is again in `[0, 2^32)`. -/
theorem pc_normal (s : St) (h0 : 0 ≤ s.pc) (h1 : s.pc < 4294967296) :
    0 ≤ (singleStep s).st.pc ∧ (singleStep s).st.pc < 4294967296 :=
  singleStep_pc s h0 h1

/-- … and therefore after every number of steps. -/
theorem pc_normal_run (n : Nat) (s : St) (h0 : 0 ≤ s.pc) (h1 : s.pc < 4294967296) :
    0 ≤ (stepN n s).st.pc ∧ (stepN n s).st.pc < 4294967296 :=
  stepN_st (fun t => 0 ≤ t.pc ∧ t.pc < 4294967296) (fun t ht => singleStep_pc t ht.1 ht.2) n s ⟨h0, h1⟩

/-! ## the ecall table, clause by clause (a7 = x17 selects, a0 = x10 is the argument)

These hold for every state (no hypothesis on memory or registers) except the print-string clause. -/

/-- a7 = 1: print a0 as a signed decimal number (two's complement reading of its 32 bits). -/
theorem ecall_print_int (i : Instr) (s : St) (hop : i.op = .ecall) (h : s.regs 17 = 1) :
    behavior i s =
      { st := { s with output := s.output ++ toString (BitVec.ofNat 32 (s.regs 10)).toInt }, fault := none } := by
  rw [behavior_ecall i s hop, processEcall_of_ne4 s (by omega), h, toInt_W, ← intToDec_eq]
  rfl

/-- a7 = 2: print a0 as a float (the float formatting itself is opaque: `floatMarker`). -/
theorem ecall_print_float (i : Instr) (s : St) (hop : i.op = .ecall) (h : s.regs 17 = 2) :
    behavior i s = { st := { s with output := s.output ++ floatMarker (s.regs 10) }, fault := none } := by
  rw [behavior_ecall i s hop, processEcall_of_ne4 s (by omega), h]
  rfl

/-- a7 = 4: print the NUL-terminated string at address a0 — the bytes up to the first zero byte, each
    as the character `byte mod 128` (`readStr`); if an address below the data base 16384 is reached
    first (directly, or by running off the top of the address space), a memory address error for that
    address and nothing is printed. -/
theorem ecall_print_string (i : Instr) (s : St) (hop : i.op = .ecall) (h : s.regs 17 = 4) (hs : StOK s) :
    (∀ cs, readStr (α s).mem (s.regs 10) = .ok cs →
      behavior i s = { st := { s with output := s.output ++ String.ofList cs }, fault := none }) ∧
    (∀ f, readStr (α s).mem (s.regs 10) = .error f →
      ∃ a : Int, f = .access (BitVec.ofInt 32 a) ∧
        behavior i s = { st := s, fault := some (.mem (.addr a)) }) := by
  obtain ⟨m, hm, hc, _⟩ := hs.flat
  have p1 : (printStrLoop printStrFuel s.mem (s.regs 10 : Int) []).1 = s.mem := by
    rw [hm]; exact printStrLoop_flat_mem ..
  have p2 := printStr_flat s m hm hc (hs.regs_lt 10)
  rw [behavior_ecall i s hop, processEcall_of_eq4 s h]
  generalize printStrLoop printStrFuel s.mem (s.regs 10 : Int) [] = p at p1 p2 ⊢
  generalize readStr (α s).mem (s.regs 10) = x at p2 ⊢
  obtain ⟨m', r⟩ := p
  subst p1
  -- `p2` gives `readStr` for characters and for an address error, and excludes the other errors
  rcases r with (a | _ | _ | _) | cs <;> cases p2
  · exact ⟨fun cs' h' => (nomatch h'), fun f h' => by cases h'; exact ⟨a, rfl, rfl⟩⟩
  · exact ⟨fun cs' h' => by cases h'; rfl, fun f h' => (nomatch h')⟩

/-- What `readStr` (used by the print-string clause) denotes: it returns `cs` iff there is a first zero
    byte at `a + k`, every address `a .. a + k` is a mapped data address (`≥ 16384`, `< 2^32`), and `cs`
    is the list of the `k` bytes before it, each as the character `byte mod 128`. -/
theorem print_string_text (mem : Word → Byte) (a : Nat) (cs : List Char) :
    readStr mem a = .ok cs ↔
      ∃ k, dataBase ≤ a ∧ a + k < 4294967296 ∧ (∀ j, j < k → mem (BitVec.ofNat 32 (a + j)) ≠ 0) ∧
        mem (BitVec.ofNat 32 (a + k)) = 0 ∧
        cs = (List.range k).map (fun j => Char.ofNat ((mem (BitVec.ofNat 32 (a + j))).toNat % 128)) := by
  constructor
  · intro h
    obtain ⟨k, h1, h2⟩ := readStr_stops mem a
    rw [readStr_eq mem a k h1 h2] at h
    split at h
    · cases h
    · rename_i hm
      cases h
      refine ⟨k, ?_, by omega, fun j hj => (h1 j hj).2.2,
        Decidable.byContradiction fun hz => h2 ⟨by omega, by omega, hz⟩, rfl⟩
      cases k with
      | zero => omega
      | succ k => exact (h1 0 (by omega)).1
  · rintro ⟨k, ha, hk, hnz, hz, rfl⟩
    rw [readStr_eq mem a k (fun j hj => ⟨by omega, by omega, hnz j hj⟩) (fun g => g.2.2 hz), if_neg (by omega)]
    rfl

/-- … and it faults iff the scan reaches an unmapped address `a + k` (below the data base, or `2^32`,
    which wraps to address 0) before any zero byte; the fault reports that address modulo 2^32. -/
theorem print_string_fault (mem : Word → Byte) (a : Nat) (f : SpecFault) :
    readStr mem a = .error f ↔
      ∃ k, (∀ j, j < k → dataBase ≤ a + j ∧ a + j < 4294967296 ∧ mem (BitVec.ofNat 32 (a + j)) ≠ 0) ∧
        (a + k < dataBase ∨ 4294967296 ≤ a + k) ∧ f = .access (BitVec.ofNat 32 (a + k)) := by
  constructor
  · intro h
    obtain ⟨k, h1, h2⟩ := readStr_stops mem a
    rw [readStr_eq mem a k h1 h2] at h
    split at h
    · rename_i hm; cases h; exact ⟨k, h1, hm, rfl⟩
    · cases h
  · rintro ⟨k, h1, hm, rfl⟩
    rw [readStr_eq mem a k h1 (fun g => by have := g.1; have := g.2.1; omega), if_pos hm]

/-- a7 = 11: print the character `a0 mod 128`. -/
theorem ecall_print_char (i : Instr) (s : St) (hop : i.op = .ecall) (h : s.regs 17 = 11) :
    behavior i s =
      { st := { s with output := s.output ++ String.singleton (Char.ofNat (s.regs 10 % 128)) }, fault := none } := by
  rw [behavior_ecall i s hop, processEcall_of_ne4 s (by omega), h, String.singleton_eq_ofList]
  rfl

/-- a7 = 34: print `0x` followed by the upper-case hexadecimal digits of a0 (no leading zeros). -/
theorem ecall_print_hex (i : Instr) (s : St) (hop : i.op = .ecall) (h : s.regs 17 = 34) :
    behavior i s = { st := { s with output := s.output ++ ("0x" ++ upperHex (s.regs 10)) }, fault := none } := by
  rw [behavior_ecall i s hop, processEcall_of_ne4 s (by omega), h, ← natToBase16]
  rfl

/-- a7 = 35: print `0b` followed by the binary digits of a0. -/
theorem ecall_print_bin (i : Instr) (s : St) (hop : i.op = .ecall) (h : s.regs 17 = 35) :
    behavior i s = { st := { s with output := s.output ++ ("0b" ++ binary (s.regs 10)) }, fault := none } := by
  rw [behavior_ecall i s hop, processEcall_of_ne4 s (by omega), h, ← natToBase2]
  rfl

/-- a7 = 36: print a0 as an unsigned decimal number. -/
theorem ecall_print_uint (i : Instr) (s : St) (hop : i.op = .ecall) (h : s.regs 17 = 36) :
    behavior i s = { st := { s with output := s.output ++ toString (s.regs 10) }, fault := none } := by
  rw [behavior_ecall i s hop, processEcall_of_ne4 s (by omega), h, ← natToBase10]
  rfl

/-- a7 = 10: exit with code 0. -/
theorem ecall_exit0 (i : Instr) (s : St) (hop : i.op = .ecall) (h : s.regs 17 = 10) :
    behavior i s = { st := { s with exitCode := some 0 }, fault := none } := by
  rw [behavior_ecall i s hop, processEcall_of_ne4 s (by omega), h]
  rfl

/-- a7 = 93: exit with code a0. -/
theorem ecall_exit_a0 (i : Instr) (s : St) (hop : i.op = .ecall) (h : s.regs 17 = 93) :
    behavior i s = { st := { s with exitCode := some (s.regs 10 : Int) }, fault := none } := by
  rw [behavior_ecall i s hop, processEcall_of_ne4 s (by omega), h]
  rfl

/-- Any other value of a7: the "not a valid code for ECALL" fault, state unchanged. -/
theorem ecall_invalid (i : Instr) (s : St) (hop : i.op = .ecall)
    (h : s.regs 17 ∉ [1, 2, 4, 11, 34, 35, 36, 10, 93]) :
    behavior i s = { st := s, fault := some (.ecallCode (s.regs 17)) } := by
  simp only [List.mem_cons, List.not_mem_nil, or_false, not_or] at h
  obtain ⟨h1, h2, h4, h11, h34, h35, h36, h10, h93⟩ := h
  rw [behavior_ecall i s hop, processEcall_of_ne4 s h4]
  simp only [ecallPure, h1, h2, h11, h34, h35, h36, h10, h93, if_false]

/-- The exit code changes only when an exit ecall is executed (a7 = 10: code 0; a7 = 93: code a0) —
    for every instruction and every state.  Together with `done_iff`: execution ends exactly when the
    pc holds no instruction or an exit ecall has been executed. -/
theorem exit_only_by_ecall (i : Instr) (s : St) :
    (behavior i s).st.exitCode = s.exitCode ∨
      (i.op = .ecall ∧ ((s.regs 17 = 10 ∧ (behavior i s).st.exitCode = some 0) ∨
        (s.regs 17 = 93 ∧ (behavior i s).st.exitCode = some (s.regs 10 : Int)))) := by
  by_cases hop : i.op = .ecall
  · rw [behavior_ecall i s hop]
    have hx := processEcall_exit s
    generalize processEcall s = p at hx
    obtain ⟨m, r⟩ := p
    cases r with
    | out t => left; rfl
    | err e => left; rfl
    | invalid c => left; rfl
    | exit c =>
      right
      refine ⟨hop, ?_⟩
      rcases hx c rfl with ⟨h1, rfl⟩ | ⟨h1, rfl⟩
      · left; exact ⟨h1, rfl⟩
      · right; exact ⟨h1, rfl⟩
  · exact .inl (behavior_exitCode s hop)

/-- The print-string loop with fuel `2^32 + 1` never runs out of fuel on a flat RISC-V memory — for
    every memory content, every start address (any integer) and accumulator: it meets a zero byte, or
    the address wraps into the unmapped range below 16384 and the read raises.  `.error .policy` is what
    `printStrLoop` returns at fuel 0.  (Measure: distance of the wrapped address to `2^32`.) -/
theorem print_string_terminates (m : Mem.Mem) (hc : m.cfg = Mem.riscvCfg) (a : Int) (acc : List Char) :
    (printStrLoop printStrFuel (.flat m) a acc).2 ≠ .error .policy :=
  printStr_fuel m hc printStrFuel a acc (by simp only [printStrFuel]; omega)

/-! ## Non-vacuity (the concrete state `exSt`, program `exProg`, initial state `exInit` and the observer
`observe` are defined in `Lemmas/C01Defs.lean`) -/

example : StOK exSt where
  flat := ⟨_, rfl, rfl, ArchSim.Lemmas.C18.WF_empty _⟩
  regs_lt := by intro r; simp only [exSt]; (repeat' split) <;> omega
  x0 := rfl
  pc_lo := by decide
  pc_hi := by decide

-- hypotheses of `exec_refines` for instructions of different families
example : InstrWF { op := .mulhsu, rd := 1, rs1 := 6, rs2 := 5 } ∧ Supported Op.mulhsu := by decide
example : InstrWF { op := .sw, rs1 := 7, rs2 := 6, imm := -2 } ∧ Supported Op.sw := by decide
example : InstrWF { op := .jalr, rd := 1, rs1 := 6, imm := 2047 } ∧ Supported Op.jalr := by decide
-- … and `InstrWF` excludes an out-of-range immediate, `Supported` excludes the CSR forms
example : ¬ InstrWF { op := .addi, rd := 1, rs1 := 6, imm := 2048 } ∧ ¬ Supported Op.csrrw := by decide

-- the reference semantics computes: mulhsu (-3) * 7 = -21, high word = 0xFFFFFFFF, pc = 12
example : observe 1 0 (exec { op := .mulhsu, rd := 1, rs1 := 6, rs2 := 5 } (α exSt)) =
    .inr (0xFFFFFFFF#32, 12#32, none, 0#8) := by decide
-- jalr x1, 2047(x6): target (2^32 - 3 + 2047) mod 2^32 = 2044 with bit 0 cleared, link = 12
example : observe 1 0 (exec { op := .jalr, rd := 1, rs1 := 6, imm := 2047 } (α exSt)) =
    .inr (12#32, 2044#32, none, 0#8) := by decide
-- div by zero gives -1, rem by zero the dividend
example : observe 1 0 (exec { op := .div, rd := 1, rs1 := 5, rs2 := 0 } (α exSt)) =
    .inr (0xFFFFFFFF#32, 12#32, none, 0#8) := by decide
-- sw x6, -2(x7): byte 0 would go to 0x3FFE, below the data base: access fault at 0x3FFE
example : observe 0 0 (exec { op := .sw, rs1 := 7, rs2 := 6, imm := -2 } (α exSt)) =
    .inl (.access 0x3FFE#32) := by decide
-- … and the model agrees (instance of `exec_refines`)
example : (execOne { op := .sw, rs1 := 7, rs2 := 6, imm := -2 } exSt).fault = some (.mem (.addr 16382)) := by
  decide
-- sh x6, 0(x7) stores 0xFD at 0x4000 and 0xFF at 0x4001 (little endian)
example : observe 0 0x4000 (exec { op := .sh, rs1 := 7, rs2 := 6, imm := 0 } (α exSt)) = .inr (0#32, 12#32, none, 0xFD#8)
    ∧ observe 0 0x4001 (exec { op := .sh, rs1 := 7, rs2 := 6, imm := 0 } (α exSt)) = .inr (0#32, 12#32, none, 0xFF#8)
    ∧ observe 0 0x4002 (exec { op := .sh, rs1 := 7, rs2 := 6, imm := 0 } (α exSt)) = .inr (0#32, 12#32, none, 0#8) :=
  ⟨by decide, by decide, by decide⟩
-- an invalid ecall code (a7 = 0) is a fault on both sides
example : observe 0 0 (exec { op := .ecall } (α exSt)) = .inl (.ecall 0#32) ∧
    (execOne { op := .ecall } exSt).fault = some (.ecallCode 0) := by decide

-- hypotheses of `step_refines`, `run_refines`, `sim_refines`
example : ProgOK exProg := ⟨by decide, by decide⟩
example : StOK exInit :=
  ⟨⟨_, rfl, rfl, ArchSim.Lemmas.C18.WF_empty _⟩, fun _ => by show (0 : Nat) < 4294967296; decide, rfl,
    by decide, by decide⟩
example : exInit.imem = { prog := exProg, cache := none } := rfl
-- the model run: done after 8 steps with exit code 15 + (-1) = 14, the last instruction not executed
example : (simN 100 exInit).st.exitCode = some 14 ∧ (simN 100 exInit).st.pc = 32 ∧
    (simN 100 exInit).st.instrs = 8 ∧ (simN 100 exInit).fault = none ∧
    singleDone (simN 100 exInit).st = true := by decide
-- the reference run: same exit code, pc, x4 = sign-extended byte, memory byte (instance of `sim_refines`)
example : observe 4 0x4001 (run exProg 100 (α exInit)) = .inr (0xFFFFFFFF#32, 32#32, some 14, 0xFF#8) := by
  decide

end ArchSim.Props.C01
