/-
C13 (lifecycle), end to end: `RiscvSimulation.run()` on a loaded program against the run iterators of the property files.
The end-to-end theorems about runs (`C02Asm`, `C03Asm`, `C08Asm`, `C09Asm`, `C11Asm`) keep hypotheses of the form
"the five-stage loop `while not is_done(): step()` stops after `n` cycles without a fault": `runOK n p`,
`isDone (pipeRun n p) = true`, `∀ m < n, isDone (pipeRun m p) = false`. This file obtains exactly these from the API:
if `run()` on a simulation that has been loaded into returns normally in a done state, reporting `n` steps, then they
hold for `p = PSt.init (load st0 text).st hz`, and the simulation `run()` leaves IS `pipeRun n p` (single-stage mode:
`singleRun k`). As an application, C02 at the level of the API: the two modes of a simulation of the same accepted text.

Helper lemmas: `ArchSim/Lemmas/E2E2Run.lean`; `pipeRun`, `runOK`: `Spec/PipeSeq.lean`; `singleRun`: `Lemmas/C02Compose.lean`.
`Sim.run fuel sim = (sim', n, exc)`: the simulation after `run()`, the number of steps taken, the exception if a step
raised (`fuel` bounds the loop of the model; by `C13.run_eq_iterate` it is immaterial once the run has finished).
-/
import ArchSim.Props.C13
import ArchSim.Props.C02Asm
import ArchSim.Lemmas.E2E2Run

namespace ArchSim.Props.C13Asm
open ArchSim ArchSim.Rv ArchSim.Asm ArchSim.Pipe ArchSim.Lemmas.E2E ArchSim.Lemmas.E2E2

/-- `run()` in five-stage mode is `pipeRun`. Take a five-stage simulation with an empty pipeline over ANY architectural
    state `st0` (hazard detection `hz`; e.g. a new simulation), load ANY text and call `run()`. If it returns without
    exception in a done state after `n` steps, then for `p = PSt.init (load st0 text).st hz`: the first `n` cycles from
    `p` are fault-free, the pipeline is done after `n` cycles and after no smaller number, and the pipeline state of
    the simulation `run()` leaves is `pipeRun n p`. -/
theorem assembled_run_five (st0 : St) (hz started : Bool) (text : String) (fuel : Nat) (sim : Sim.RSim)
    (hsim : sim = (Sim.load { five := true, p := PSt.init st0 hz, started := started } text).1)
    (hnf : (Sim.run fuel sim).2.2 = none) (hdone : Sim.isDone (Sim.run fuel sim).1 = true) :
    ∃ n, n ≤ fuel ∧ (Sim.run fuel sim).2.1 = n ∧
      (Sim.run fuel sim).1.p = pipeRun n (PSt.init (load st0 text).st hz) ∧
      runOK n (PSt.init (load st0 text).st hz) ∧
      isDone (pipeRun n (PSt.init (load st0 text).st hz)) = true ∧
      ∀ m, m < n → isDone (pipeRun m (PSt.init (load st0 text).st hz)) = false := by
  rw [Sim.load_init] at hsim
  subst hsim
  exact run_five_char _ rfl fuel hnf hdone

/-- `run()` in single-stage mode is `singleRun`. The same for a single-stage simulation: if `run()` returns without
    exception in a done state after `k` steps, the first `k` single-cycle steps from the loaded state are fault-free
    and not done, the state after them is done, and it is the architectural state `run()` leaves. -/
theorem assembled_run_single (st0 : St) (hz started : Bool) (text : String) (fuel : Nat) (sim : Sim.RSim)
    (hsim : sim = (Sim.load { five := false, p := PSt.init st0 hz, started := started } text).1)
    (hnf : (Sim.run fuel sim).2.2 = none) (hdone : Sim.isDone (Sim.run fuel sim).1 = true) :
    ∃ k, k ≤ fuel ∧ (Sim.run fuel sim).2.1 = k ∧
      (Sim.run fuel sim).1.p.st = singleRun k (load st0 text).st ∧
      (∀ j, j < k → (singleStep (singleRun j (load st0 text).st)).fault = none ∧
        singleDone (singleRun j (load st0 text).st) = false) ∧
      singleDone (singleRun k (load st0 text).st) = true := by
  rw [Sim.load_init] at hsim
  -- as a variable: unification through `PSt.init` would unfold the loader
  generalize (load st0 text).st = st at hsim ⊢
  subst hsim
  exact run_single_char _ rfl fuel hnf hdone

/-- C02 at the level of the API. Let `st0` satisfy `StOK`, have no instruction cache and not have exited (e.g. the state
    of a new simulation), and let `text` be accepted and free of CSR instructions, `fence`, `ebreak`. Take a five-stage
    simulation (hazard detection on) and a single-stage simulation over `st0`, both with empty pipeline registers, and
    `load_program(text)` into both. If `run()` on the five-stage simulation returns without exception in a done state
    after `n` steps, then `run()` on the single-stage simulation — with any fuel `≥ k` — returns without exception in a
    done state after `k ≤ n` steps, and the two simulations end with the same registers, data memory, output, exit
    code, instruction count and pc. -/
theorem api_five_stage_run_equals_single_stage_run (st0 : St) (hs : ArchSim.Lemmas.C01.StOK st0)
    (hc : st0.imem.cache = none) (hx : st0.exitCode = none) (text : String) (h : (load st0 text).err = none)
    (hsup : AllSupported (load st0 text).st.imem.prog) (hzS startedF startedS : Bool) (fuel : Nat)
    (simF simS : Sim.RSim)
    (hF : simF = (Sim.load { five := true, p := PSt.init st0 true, started := startedF } text).1)
    (hS : simS = (Sim.load { five := false, p := PSt.init st0 hzS, started := startedS } text).1)
    (hnf : (Sim.run fuel simF).2.2 = none) (hdone : Sim.isDone (Sim.run fuel simF).1 = true) :
    ∃ n k, k ≤ n ∧ n ≤ fuel ∧ (Sim.run fuel simF).2.1 = n ∧
      ∀ fuel', k ≤ fuel' →
        (Sim.run fuel' simS).2.2 = none ∧ (Sim.run fuel' simS).2.1 = k ∧ Sim.isDone (Sim.run fuel' simS).1 = true ∧
        (Sim.run fuel simF).1.p.st.regs = (Sim.run fuel' simS).1.p.st.regs ∧
        (Sim.run fuel simF).1.p.st.mem = (Sim.run fuel' simS).1.p.st.mem ∧
        (Sim.run fuel simF).1.p.st.output = (Sim.run fuel' simS).1.p.st.output ∧
        (Sim.run fuel simF).1.p.st.exitCode = (Sim.run fuel' simS).1.p.st.exitCode ∧
        (Sim.run fuel simF).1.p.st.instrs = (Sim.run fuel' simS).1.p.st.instrs ∧
        (Sim.run fuel simF).1.p.st.pc = (Sim.run fuel' simS).1.p.st.pc := by
  obtain ⟨n, hn, hcnt, hp, hr, hd, hprev⟩ := assembled_run_five st0 true startedF text fuel simF hF hnf hdone
  obtain ⟨k, hk, hpre, hdk, e1, e2, e3, e4, e5, _, _, e8, _⟩ :=
    ArchSim.Props.C02Asm.assembled_pipe_equals_single_cycle st0 text hs hc hx h hsup n hr hd hprev
  refine ⟨n, k, hk, hn, hcnt, fun fuel' hf' => ?_⟩
  rw [Sim.load_init] at hS
  rw [hp]
  generalize (load st0 text).st = st at hpre hdk e1 e2 e3 e4 e5 e8 hS ⊢
  subst hS
  obtain ⟨r1, r2, r3, r4⟩ := run_single_of_singleRun
    { five := false, p := PSt.init st hzS, started := startedS } rfl k hpre hdk fuel' hf'
  rw [r3]
  exact ⟨r1, r2, r4, e1, e2, e3, e4, e5, e8⟩

/-! ### non-vacuity (the example text `asmText` of `Lemmas/E2EEx.lean`: a `.data` variable, the pseudo-instruction `li`, a
branch to an in-line label; exits with code 7) -/

section
open ArchSim.Lemmas.E2E.Ex

/-- Hypotheses of `api_five_stage_run_equals_single_stage_run` for new simulations of the example text: `StOK`, no
    instruction cache, not exited; the text is accepted and supported; `run()` (fuel 20) on the five-stage simulation
    returns without exception in a done state, after 14 steps. -/
example : ArchSim.Lemmas.C01.StOK freshSt ∧ freshSt.imem.cache = none ∧ freshSt.exitCode = none ∧
    (load freshSt asmText).err = none ∧ AllSupported (load freshSt asmText).st.imem.prog ∧
    (Sim.run 20 (Sim.load { five := true, p := PSt.init freshSt true } asmText).1).2.2 = none ∧
    Sim.isDone (Sim.run 20 (Sim.load { five := true, p := PSt.init freshSt true } asmText).1).1 = true ∧
    (Sim.run 20 (Sim.load { five := true, p := PSt.init freshSt true } asmText).1).2.1 = 14 := by
  refine ⟨freshSt_ok, rfl, rfl, load_asmText.1, asmText_supported, ?_⟩
  rw [Sim.load_init, load_asmText_st]; decide

/-- The conclusion evaluated: the single-stage `run()` takes 5 steps; both end with exit code 7. -/
example : (Sim.run 20 (Sim.load { five := false, p := PSt.init freshSt true } asmText).1).2.1 = 5 ∧
    (Sim.run 20 (Sim.load { five := false, p := PSt.init freshSt true } asmText).1).2.2 = none ∧
    (Sim.run 20 (Sim.load { five := false, p := PSt.init freshSt true } asmText).1).1.p.st.exitCode = some 7 := by
  rw [Sim.load_init, load_asmText_st]; decide

end

end ArchSim.Props.C13Asm
