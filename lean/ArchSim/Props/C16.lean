/-
C16 — inspection is pure. In the functional models every inspection function is `State → View`, so the
model-level statement is an erasure law over operation lists. The one state a display path reads THROUGH is
the data cache: an uncounted read leaves its statistics alone (hits, accesses, last-hit flag, no added cycle;
`C09.uncounted_read_counters`), and re-reading a block just accessed leaves the whole cache alone
(`C09.reread_neutral`, not restated here). The purity of the real getter *code* is witnessed by the
correspondence check: the real getters are called between the steps of a run and the run is compared with
one without them, so any mutation by a getter shows in the next deep snapshot.
-/
import ArchSim.Props.C09

namespace ArchSim.Props.C16
open ArchSim ArchSim.Cache

/-- An operation of an API history: a state transformer, or an inspection (a view of the state that
    is thrown away). -/
inductive ApiOp (σ : Type) where
  | act (f : σ → σ)
  | inspect (view : σ → String)

/-- Running a history: inspections compute a view and leave the state alone. -/
def runApi {σ : Type} : List (ApiOp σ) → σ → σ
  | [], s => s
  | .act f :: rest, s => runApi rest (f s)
  | .inspect _ :: rest, s => runApi rest s

/-- The history with its inspection operations deleted. -/
def eraseInspections {σ : Type} : List (ApiOp σ) → List (ApiOp σ)
  | [] => []
  | .act f :: rest => .act f :: eraseInspections rest
  | .inspect _ :: rest => eraseInspections rest

/-- Deleting the inspection operations of any history leaves the final state — hence every later
    result and every later view — unchanged. -/
theorem inspect_irrelevant {σ : Type} (ops : List (ApiOp σ)) (s : σ) :
    runApi (eraseInspections ops) s = runApi ops s := by
  induction ops generalizing s with
  | nil => rfl
  | cons op rest ih => cases op <;> simp [runApi, eraseInspections, ih]

/-- Taking a view any number of times leaves the state as it is (so the next view is the same view). -/
theorem views_repeatable {σ : Type} (view : σ → String) (n : Nat) (s : σ) :
    runApi (List.replicate n (ApiOp.inspect view)) s = s := by
  induction n with
  | zero => rfl
  | succ k ih => simpa [List.replicate, runApi] using ih

/-- An uncounted read of the data cache, at any address and width, hit or miss, with any replacement policy, changes
    neither the hit counter, the access counter, the last-hit flag nor the cycle counter. -/
theorem display_read_keeps_statistics {σ : Type} (P : PolicyOps σ) (s : DSys σ) (bits : Nat) (a : Int) :
    (s.read P bits a false).sys.hits = s.hits ∧
    (s.read P bits a false).sys.accesses = s.accesses ∧
    (s.read P bits a false).sys.lastHit = s.lastHit ∧
    (s.read P bits a false).extra = 0 :=
  C09.uncounted_read_counters (P := P) s bits a

example : runApi [ApiOp.inspect (fun n : Nat => toString n), .act (· + 1), .inspect (fun _ => "x")] 3 = 4 := by
  decide

end ArchSim.Props.C16
