/-
C17, the STAGE COLUMN of the instruction listing — `RiscvSimulation.get_instruction_memory_entries()` as modelled by
`SimViews.listing` / `listingOf` (`Model/SimViews.lean`).  It is the RISC-V counterpart of the TOY memory table's cycle
mark (`C17Views.toyMemTable_mark`): the listing marks every instruction with the pipeline stage whose register
currently holds it.

The theorems say, for EVERY pipeline state: a row is marked with the name of a register that holds its address, or not
at all; in five-stage mode the mark is given by an explicit priority (WB over MEM over EX over ID over IF — the later
register wins when an instruction is held twice, as in a stalled decode); an instruction held by no register is
unmarked; and in single-stage mode after a step exactly the instruction that was executed is marked `Single`, provided
it has a visualisation.  (`noVis`, the test of `singleLatch`: for the CSR forms, `ebreak` and `fence` the Python returns
the base `PipelineRegister()`.  In the model `Rv.behavior` faults on each of them, `.unmodelled` / `.notImplemented`, so a
step that executes one is excluded by the no-fault hypothesis already.)
`holds l a` (defined below) says that pipeline register `l` holds address `a`.
-/
import ArchSim.Lemmas.SimViews
import ArchSim.Lemmas.C13Life

namespace ArchSim.Props.C17Listing
open ArchSim ArchSim.Rv ArchSim.SimViews ArchSim.Lemmas.SimViews

/-- The stage text of any row is empty or the name of a register that holds the row's address; and it is empty when
    no register holds it.  (Whatever the list of registers: both modes.) -/
theorem stage_sound (prog : List Instr) (marks : Marks) (k : Nat) (row : ListRow)
    (h : (listing prog marks)[k]? = some row) :
    (row.stage = "" ∨ (some row.addr, row.stage) ∈ marks) ∧
    ((∀ m ∈ marks, m.1 ≠ some row.addr) → row.stage = "") := by
  rw [listing_getElem?] at h
  cases hp : prog[k]? with
  | none => rw [hp] at h; cases h
  | some i =>
    rw [hp] at h
    obtain rfl : listRow marks k i = row := by simpa using h
    exact ⟨stageOf_mem marks _, stageOf_none marks _⟩

/-- The pipeline register holds an instruction with address `a` (never true of a bubble). -/
def holds (l : Option Pipe.Latch) (a : Int) : Bool := l.map (·.addr) == some a

/-- Five-stage mode, closed form: the mark of address `a` is `WB` if the write-back output register holds `a`, else
    `MEM` if the MEM/WB register does, else `EX`, else `ID`, else `IF`, else empty — the LAST register in pipeline
    order wins, so an instruction whose decode is stalled (held by IF/ID and by ID/EX) shows `ID`. -/
theorem five_stage_mark (p : Pipe.PSt) (a : Int) :
    stageOf (fiveMarks p) a =
      if holds p.l4 a then "WB" else if holds p.l3 a then "MEM" else if holds p.l2 a then "EX"
      else if holds p.l1 a then "ID" else if holds p.l0 a then "IF" else "" := by
  have e : fiveMarks p = ((((([] : Marks) ++ [(p.l0.map (·.addr), "IF")]) ++ [(p.l1.map (·.addr), "ID")]) ++
      [(p.l2.map (·.addr), "EX")]) ++ [(p.l3.map (·.addr), "MEM")]) ++ [(p.l4.map (·.addr), "WB")] := rfl
  rw [e]
  simp only [stageOf_snoc, stageOf_nil, holds]
  rfl

/-- Row `k` of the listing of a five-stage simulation carries exactly that mark for address `4k`. -/
theorem five_stage_rows (s : Sim.RSim) (before : Option St) (hf : s.five = true) (k : Nat) (i : Instr)
    (hk : s.p.st.imem.prog[k]? = some i) :
    ∃ row, (listingOf s before)[k]? = some row ∧ row.addr = 4 * (k : Int) ∧ row.instr = i.repr ∧
      row.stage =
        if holds s.p.l4 (4 * k) then "WB" else if holds s.p.l3 (4 * k) then "MEM" else if holds s.p.l2 (4 * k) then "EX"
        else if holds s.p.l1 (4 * k) then "ID" else if holds s.p.l0 (4 * k) then "IF" else "" := by
  refine ⟨listRow (fiveMarks s.p) k i, ?_, rfl, rfl, five_stage_mark s.p _⟩
  simp [listingOf, hf, listing_getElem?, hk]

/-- Single-stage mode after a `step()` that executed an instruction (the simulation was not done, the step did not
    fault, the instruction has a visualisation): exactly the row of the executed instruction — the one at the program
    counter BEFORE the step — is marked `Single`, every other row is unmarked. -/
theorem single_stage_rows (s : Sim.RSim) (before : Option St) (hs : s.five = false)
    (hnd : Sim.isDone s = false) (hnf : (Sim.step s).fault = none) (i : Instr)
    (hi : s.p.st.imem.instrAt s.p.st.pc = some i) (hv : noVis i.op = false)
    (k : Nat) (j : Instr) (hk : (Sim.step s).sim.p.st.imem.prog[k]? = some j) :
    ∃ row, (listingOf (Sim.step s).sim (beforeAfter s before))[k]? = some row ∧
      row.stage = if 4 * (k : Int) = s.p.st.pc then "Single" else "" := by
  have hfive : (Sim.step s).sim.five = false := (Sim.step_five s).trans hs
  have hb : beforeAfter s before = some s.p.st := by simp [beforeAfter, hs, hnd, hnf]
  refine ⟨listRow (singleMarks (some s.p.st)) k j, ?_, ?_⟩
  · simp [listingOf, hfive, hb, listing_getElem?, hk]
  · simp only [listRow, singleMarks, singleLatch, hi, hv]
    rw [← List.nil_append [_], stageOf_snoc, stageOf_nil]
    simp only [beq_iff_eq, Bool.false_eq_true, if_false, Option.some.injEq, eq_comm (a := s.p.st.pc)]

/-- Before anything was stepped no row is marked. -/
theorem single_stage_unmarked (prog : List Instr) (k : Nat) (row : ListRow)
    (h : (listing prog (singleMarks none))[k]? = some row) : row.stage = "" :=
  (stage_sound prog _ k row h).2 (by simp [singleMarks, singleLatch])

/-- A five-stage simulation that ran to completion without an exit call (the pipeline has drained: `is_done()` because the
    registers are empty and the program counter holds no instruction) marks at most the instruction that retired last: every
    row is unmarked or marked `WB`. -/
theorem drained_pipeline_marks (p : Pipe.PSt) (hd : Pipe.isDone p = true) (hx : p.st.exitCode = none) (a : Int) :
    stageOf (fiveMarks p) a = "" ∨ stageOf (fiveMarks p) a = "WB" := by
  have h : p.l0 = none ∧ p.l1 = none ∧ p.l2 = none ∧ p.l3 = none := by
    simp [Pipe.isDone, hx] at hd
    exact ⟨hd.1.1.1.1, hd.1.1.1.2, hd.1.1.2, hd.1.2⟩
  rw [five_stage_mark]
  simp only [holds, h.1, h.2.1, h.2.2.1, h.2.2.2, Option.map_none]
  split <;> simp

/-- Before the first step nothing is marked (all registers are empty). -/
theorem power_on_unmarked (st : St) (hz : Bool) (a : Int) : stageOf (fiveMarks (Pipe.PSt.init st hz)) a = "" := by
  rw [five_stage_mark]; simp [holds, Pipe.PSt.init]

-- a stalled decode: the instruction at 8 sits in IF/ID and ID/EX, its producer at 4 in EX/MEM
example :
    let x : Pipe.Latch := { instr := { op := .add, rd := 3, rs1 := 1, rs2 := 2 }, addr := 8, pc4 := 12 }
    let y : Pipe.Latch := { instr := { op := .addi, rd := 1, imm := 5 }, addr := 4, pc4 := 8 }
    let p : Pipe.PSt := { Pipe.PSt.init Asm.freshSt true with l0 := some x, l1 := some x, l2 := some y }
    stageOf (fiveMarks p) 8 = "ID" ∧ stageOf (fiveMarks p) 4 = "EX" ∧ stageOf (fiveMarks p) 0 = "" := by decide +kernel

end ArchSim.Props.C17Listing
