/-
C09, program-level clause — "for any program the data-cache counters are identical in single-cycle
and five-stage mode and count each executed load or store exactly once".

Vocabulary (`Lemmas/C09Prog*.lean`): `DOK l ds` (the invariant of the state's cached data memory system: C03's
`CInv`, C09's `Inv`, `AssocOK`), `DInv`, `RunInv`; `StepHyp s` (no instruction cache, at most 4096 well-formed
supported instructions, `RunInv s`); `dAcc`, `dHits`, `dLastHit` (the three data-cache counters of a memory
system); `SingleOK`, `memOps`; `singleRun` is `C11.singleRun` (`Lemmas/C11Step.lean`).
The five-stage run is `pipeRun` (`Spec/PipeSeq.lean`) from `PSt.init st true` (hazard detection on), fault-free
(`runOK`) and run until `is_done()` first holds, as in `C02.final_state`.
-/
import ArchSim.Lemmas.C09ProgEx
import ArchSim.Props.C11Prog

namespace ArchSim.Props.C09Prog
open ArchSim ArchSim.Cache ArchSim.Rv ArchSim.Repl ArchSim.Pipe
open ArchSim.Spec.TagCache (Accepted)
open ArchSim.Lemmas.C09Prog ArchSim.Lemmas.C11 ArchSim.Lemmas.C11Prog ArchSim.Lemmas.C02Split

/-- The invariant holds for every data cache the simulator builds: any admissible geometry
    (`GeoOK`), write-back or write-through, LRU or PLRU (`AssocOK`), any miss penalty, after any
    `.data` preload `h`. -/
theorem dok_init (l wt : Bool) (g : Geo) (penalty : Nat) (hg : Spec.CacheAbs.GeoOK g)
    (ha : Lemmas.C09.AssocOK l g.assoc) (h : List Spec.ByteStore.Op) :
    DOK l (Spec.CacheAbs.preload (DSys.init (polOps l) wt g penalty (Mem.Mem.empty Mem.riscvCfg)) h) := by
  rw [Lemmas.C03.preload_eq]
  exact (DOK.of_empty hg ha rfl (Lemmas.C03.MemOK_run h)).1

/-- The uncounted display re-read is neutral on EVERY cached memory system satisfying the invariant,
    at every address: `C02Split.LoadOK` holds (a counted read that returns a value returns a 32-bit
    value; re-reading the address uncounted returns the same value, changes nothing, adds no
    cycles), and stores alias modulo 2^32. This discharges the hypothesis `hre` of
    `C02Split.split_agrees_cached_partial`. -/
theorem memOK_cached (i : Instr) (s : St) (h : RunInv s) : MemOK i s :=
  memOK_of_runinv i s h

/-- The two implementations of every instruction agree on a cached data memory (`Props/C02Split.lean`
    has this with the neutrality of the display re-read as a hypothesis): on every state satisfying
    `StepHyp`, the five split stage functions run back to back (`splitStep`, one step of the sequential
    reference machine of the pipeline proof) and the single-cycle step raise the same fault, and
    without a fault leave EQUAL states — data-cache contents, replacement state, hit / access counters
    and cycles included. -/
theorem split_agrees_cached (s : St) (h : StepHyp s) :
    (splitStep s).fault = (singleStep s).fault ∧
    ((singleStep s).fault = none → (splitStep s).st = (singleStep s).st) :=
  step_agree s h

/-- A single-cycle step that does not fault keeps all hypotheses (in particular the data-cache
    invariant and the 32-bit register values). -/
theorem single_step_keeps_hyp (s : St) (h : StepHyp s) (hf : (singleStep s).fault = none) :
    StepHyp (singleStep s).st :=
  singleStep_hyp s h hf

/-- The data-cache counters are identical in both modes. Let the five-stage pipeline run from
    `st` without a fault until `is_done()` first holds (after `n` cycles). Then single-cycle mode,
    started from the same `st`, runs `k ≤ n` steps without a fault, is done exactly then (`k` is where
    its loop stops), and ends with the SAME data memory system — cache contents, replacement state,
    lower memory — in particular the same hit counter, access counter and last-hit flag; registers,
    output, exit code, instruction / branch / procedure counts and pc agree as well (`SimP`). -/
theorem dcache_counters_equal_modes (st : St) (h : StepHyp st) (hx : st.exitCode = none)
    (n : Nat) (hr : runOK n (PSt.init st true)) (hd : isDone (pipeRun n (PSt.init st true)) = true)
    (hprev : ∀ m, m < n → isDone (pipeRun m (PSt.init st true)) = false) :
    ∃ k, k ≤ n ∧ SingleOK k st ∧ singleDone (singleRun k st) = true ∧
      (∀ j, j < k → singleDone (singleRun j st) = false) ∧
      (pipeRun n (PSt.init st true)).st.mem = (singleRun k st).mem ∧
      dHits (pipeRun n (PSt.init st true)).st.mem = dHits (singleRun k st).mem ∧
      dAcc (pipeRun n (PSt.init st true)).st.mem = dAcc (singleRun k st).mem ∧
      dLastHit (pipeRun n (PSt.init st true)).st.mem = dLastHit (singleRun k st).mem ∧
      SimP (pipeRun n (PSt.init st true)).st (singleRun k st) := by
  have hc := h.icoh
  obtain ⟨k, hk, _, H⟩ := modes_agree h hx (EqC.rfl' st) rfl hc n hr hd hprev
  obtain ⟨hsim, hok, hdone, hnd⟩ := H st (EqC.rfl' st) rfl hc
  exact ⟨k, hk, hok, hdone, hnd, hsim.1.mem, by rw [hsim.1.mem], by rw [hsim.1.mem],
    by rw [hsim.1.mem], hsim⟩

/-- The same with an instruction cache of ANY configuration switched on in both
    modes: `t` is `st` with an instruction cache `c` satisfying C11's invariant `IInv` (for instance
    the initial cache). The five-stage run from `t` and the single-cycle run from `t` end with the
    same data memory system and data-cache counters (wrong-path instruction fetches and instruction
    cache penalties do not disturb the data cache). -/
theorem dcache_counters_equal_modes_icache (st t : St) {c : ICache} (h : StepHyp st)
    (hx : st.exitCode = none) (he : EqC st t) (hp : st.imem.prog = t.imem.prog)
    (ht : t.imem.cache = some c) (hinv : IInv t.imem c)
    (n : Nat) (hr : runOK n (PSt.init t true)) (hd : isDone (pipeRun n (PSt.init t true)) = true)
    (hprev : ∀ m, m < n → isDone (pipeRun m (PSt.init t true)) = false) :
    ∃ k, k ≤ n ∧ SingleOK k t ∧ singleDone (singleRun k t) = true ∧
      (∀ j, j < k → singleDone (singleRun j t) = false) ∧
      (pipeRun n (PSt.init t true)).st.mem = (singleRun k t).mem ∧
      dHits (pipeRun n (PSt.init t true)).st.mem = dHits (singleRun k t).mem ∧
      dAcc (pipeRun n (PSt.init t true)).st.mem = dAcc (singleRun k t).mem ∧
      dLastHit (pipeRun n (PSt.init t true)).st.mem = dLastHit (singleRun k t).mem ∧
      (pipeRun n (PSt.init t true)).st.mem = (singleRun k st).mem := by
  have hl' : t.imem.prog.length ≤ 1073741824 := by rw [← hp]; have := h.fits; omega
  have hct := icoh_icache ht hinv hl'
  have hc := h.icoh
  obtain ⟨k, hk, _, H⟩ := modes_agree h hx he hp hct n hr hd hprev
  obtain ⟨hsim, hok, hdone, hnd⟩ := H t he hp hct
  exact ⟨k, hk, hok, hdone, hnd, hsim.1.mem, by rw [hsim.1.mem], by rw [hsim.1.mem],
    by rw [hsim.1.mem], (H st (EqC.rfl' st) rfl hc).1.1.mem⟩

/-- Each executed load or store is counted exactly once (one single-cycle step; `i` is the instruction
    at the pc). (1) If `i` is a load or a store and the step does not fault, the access counter grows
    by exactly 1 — the load's second, display-only read is not counted. (2) A load / store whose
    access is accepted (offered width, inside one word of the data range) does execute without a
    fault, so (1) applies. (3) For every other instruction — ALU, branch, jump, `ecall` including the
    print-string service that reads through the cache, faulting or not — the counter is unchanged. -/
theorem each_memop_counted_once (s : St) (h : StepHyp s) (i : Instr)
    (hi : s.imem.instrAt s.pc = some i) :
    (isMemOp i = true → (singleStep s).fault = none →
      dAcc (singleStep s).st.mem = dAcc s.mem + 1) ∧
    (i.op.ty = .memI → Accepted (accessBits i.op) ((s.regs i.rs1 : Int) + i.imm) →
      (singleStep s).fault = none) ∧
    (i.op.ty = .s → Accepted (accessBits i.op) (storeAddr i s) → (singleStep s).fault = none) ∧
    (isMemOp i = false → dAcc (singleStep s).st.mem = dAcc s.mem) := by
  have hs := h.icoh.fetchSound
  have h2 : RunInv
      ({ s with cycles := s.cycles + 1 + (s.imem.fetch s.pc).extra,
                instrs := s.instrs + 1, imem := (s.imem.fetch s.pc).imem } : St) :=
    h.inv.of_eq rfl rfl
  rw [singleStep_fetched s hi (hs _ _ hi).1]
  obtain ⟨a, b⟩ := singleTail_dAcc i _ h2
  obtain ⟨c, d⟩ := singleTail_accepted i _ h2
  exact ⟨a, c, d, b⟩

/-- When there is no instruction at the pc a step changes no data-cache counter. -/
theorem no_instruction_not_counted (s : St) (hi : s.imem.instrAt s.pc = none) :
    (singleStep s).st.mem = s.mem := by
  rw [singleStep_nofetch s hi]

/-- Whole runs, single-cycle mode: after `n` fault-free steps the access counter has grown by
    exactly the number of loads and stores among the instructions executed. -/
theorem accesses_count_memops (s : St) (h : StepHyp s) (n : Nat) (hok : SingleOK n s) :
    dAcc (singleRun n s).mem = dAcc s.mem + memOps n s := by
  induction n with
  | zero => rfl
  | succ n ih =>
    have hok' : SingleOK n s := fun j hj => hok j (Nat.lt_succ_of_lt hj)
    have hh := StepHyp_run s h n hok'
    rw [singleRun_succ', singleStep_dAcc _ hh.inv hh.icoh.fetchSound
      (hok n (Nat.lt_succ_self n)), ih hok', memOps]
    omega

/-- Whole runs, five-stage mode: at the end of a fault-free run to completion the access counter
    has grown by exactly the number of loads and stores among the `k` instructions the program
    executes (squashed wrong-path instructions are not counted, stalled ones are counted once). -/
theorem five_stage_accesses_count_memops (st : St) (h : StepHyp st) (hx : st.exitCode = none)
    (n : Nat) (hr : runOK n (PSt.init st true)) (hd : isDone (pipeRun n (PSt.init st true)) = true)
    (hprev : ∀ m, m < n → isDone (pipeRun m (PSt.init st true)) = false) :
    ∃ k, k ≤ n ∧ singleDone (singleRun k st) = true ∧
      (∀ j, j < k → singleDone (singleRun j st) = false) ∧
      dAcc (pipeRun n (PSt.init st true)).st.mem = dAcc st.mem + memOps k st := by
  obtain ⟨k, hk, hok, hdone, hnd, hm, _⟩ := dcache_counters_equal_modes st h hx n hr hd hprev
  exact ⟨k, hk, hdone, hnd, by rw [hm]; exact accesses_count_memops st h k hok⟩

/-! ### Non-vacuity: the example program of `Props/C02.lean` (store/load pair, RAW interlock, taken
branch, exiting ecall) over a write-back LRU data cache -/

example : StepHyp exDSt := exDSt_hyp
example : exDSt.exitCode = none := rfl

/-- The five-stage run: 23 fault-free cycles, done exactly then; the store misses (write-allocate),
    the load hits: 2 accesses, 1 hit. -/
example : runOK 23 (PSt.init exDSt true) ∧ isDone (pipeRun 23 (PSt.init exDSt true)) = true ∧
    (∀ m, m < 23 → isDone (pipeRun m (PSt.init exDSt true)) = false) ∧
    dAcc (pipeRun 23 (PSt.init exDSt true)).st.mem = 2 ∧
    dHits (pipeRun 23 (PSt.init exDSt true)).st.mem = 1 ∧
    dLastHit (pipeRun 23 (PSt.init exDSt true)).st.mem = true := by decide +kernel

/-- Single-cycle mode: done after 8 steps, 2 loads/stores executed, the same counters. -/
example : singleDone (singleRun 8 exDSt) = true ∧ memOps 8 exDSt = 2 ∧
    dAcc (singleRun 8 exDSt).mem = 2 ∧ dHits (singleRun 8 exDSt).mem = 1 ∧
    dLastHit (singleRun 8 exDSt).mem = true := by decide +kernel

/-- `each_memop_counted_once`: the store at pc 12 of the example is accepted (address 16384). -/
example : (singleRun 3 exDSt).imem.instrAt (singleRun 3 exDSt).pc
      = some { op := .sw, rs1 := 5, rs2 := 2, imm := 0 } ∧
    Accepted 32 (storeAddr { op := .sw, rs1 := 5, rs2 := 2, imm := 0 } (singleRun 3 exDSt)) := by
  decide +kernel

/-- `dcache_counters_equal_modes_icache`: the hypotheses hold for the example with a one-set
    instruction cache switched on; the five-stage run again takes 23 cycles and ends with the same
    data-cache counters, while the cycle counter now includes instruction-cache penalties. -/
example : EqC exDSt exDStC ∧ exDSt.imem.prog = exDStC.imem.prog ∧ exDStC.imem.cache = some exCache1 :=
  ⟨⟨rfl, rfl, rfl, rfl, rfl, rfl, rfl, rfl, rfl, rfl⟩, rfl, rfl⟩
example : IInv exDStC.imem exCache1 := Props.C11.inv_init _ _ _ _ ⟨by decide, fun h => by cases h⟩
example : runOK 23 (PSt.init exDStC true) ∧ isDone (pipeRun 23 (PSt.init exDStC true)) = true ∧
    (∀ m, m < 23 → isDone (pipeRun m (PSt.init exDStC true)) = false) ∧
    dAcc (pipeRun 23 (PSt.init exDStC true)).st.mem = 2 ∧
    dHits (pipeRun 23 (PSt.init exDStC true)).st.mem = 1 ∧
    (pipeRun 23 (PSt.init exDSt true)).st.cycles < (pipeRun 23 (PSt.init exDStC true)).st.cycles := by
  decide +kernel

end ArchSim.Props.C09Prog
