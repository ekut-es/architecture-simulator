/-
C14 — "Printed instruction text re-assembles to the same instruction."

Printer: `Rv.Instr.repr`; parser: `Asm.parseLine`; back end: `Asm.instantiate` / `Asm.buildInstrs`;
whole pipeline: `Asm.load`. The hypotheses on an instruction object are collected in
`Rv.Instr.Canon addr i` (Lemmas/C14Main.lean): register numbers below 32, stored immediate in the
range of its format, unused fields zero, `jal`: `aux` the even absolute target and
`imm = sextImm 21 (aux - addr)`; CSR forms: `aux ≥ 0`. `canon_of_instantiate_numeric` shows that every object the
assembler builds from numeric operands is of this kind (the round trip below is the converse).

An odd label displacement (`beq x0, x0, l+0x1`) is rejected with `ParserOddImmediateException` by
`_convert_label_or_imm` (C04 `branch_label_odd_rejected`), so every object the assembler builds at an even
address that can be printed (`Printable`) — label operands included — is canonical (`canon_of_instantiate`), and the
listing of every built program whose instructions can be printed re-assembles to the same program. `GrammarForm`,
`NumericForm`, `Printable` (what the statements ask of syntax trees and of printed objects) are defined in
Lemmas/C14Canon.lean.
-/
import ArchSim.Lemmas.C14Listing
namespace ArchSim.Props.C14
open ArchSim ArchSim.PP ArchSim.Rv ArchSim.Asm ArchSim.Lemmas.C14

/-- Numerals: the decimal text the printer produces for an integer `v` (any `v` with at most 4300
    digits, in particular every 64-bit value) is read back by the immediate pattern as `v`, consuming
    exactly the numeral, whenever the next character is not a digit, `x` or `b` (or the text ends). -/
theorem numeral_roundtrip_dec (v : Int) (rest : List Char) (hv : v.natAbs < 10 ^ 4300)
    (hr : ∀ c ∈ rest.head?, isNum c = false ∧ c ≠ 'x' ∧ c ≠ 'b') :
    pImm ((intToDec v).toList ++ rest) = .ok v rest :=
  Lemmas.C04Spell.pImm_decTxt v rest hv hr

/-- Numerals: the lower-case hexadecimal text `0x…` printed for a csr number `n` is read back as `n`
    when the next character is not a hexadecimal digit. -/
theorem numeral_roundtrip_hex (n : Nat) (rest : List Char) (hr : ∀ c ∈ rest.head?, isHexNum c = false) :
    pImm (("0x" ++ hexLower n).toList ++ rest) = .ok (n : Int) rest := by
  have := Lemmas.C04Spell.pImm_hexTxt n rest hr
  simpa [hexTxt, hexLower_toList] using this

/-- Registers: `x<n>` is read back as register `n` for each of the 32 register numbers, when the
    next character is not a digit. -/
theorem register_roundtrip (n : Nat) (hn : n < 32) (rest : List Char) (hr : ∀ c ∈ rest.head?, isNum c = false) :
    pReg (("x" ++ toString n).toList ++ rest) = .ok n rest := by
  have := pReg_regTxt n hn rest hr
  simpa [regTxt] using this

/-- Main round trip. For every canonical instruction `i` other than `fence`, placed at any address
    `addr`: the text printed for `i` is tokenized as one label-free entry, and the assembler back end
    builds from that entry, at the same address and for any label table, exactly the instruction `i`
    (same operation, registers, immediate and auxiliary field). -/
theorem repr_roundtrip (i : Instr) (addr : Int) (hc : i.Canon addr) (hf : i.op ≠ .fence) :
    ∃ tok, parseLine i.repr.toList = some tok ∧ tok.lbl = none ∧
      ∀ (ls : Labels) (k : Nat) (line : String), buildInstrs ls [(k, line, tok.item)] addr = .ok [i] := by
  obtain ⟨it, hp, hb⟩ := roundtrip_core i addr hc hf
  exact ⟨_, hp, rfl, hb.builds⟩

/-- The same round trip with the syntax tree made explicit: `ecall`/`ebreak` come back as the bare
    words (which `buildInstrs` turns into the same objects), every other printed form comes back as
    a grouped syntax tree `pi` that `instantiate` maps to `i` at address `addr` for any label table. -/
theorem repr_roundtrip_tree (i : Instr) (addr : Int) (hc : i.Canon addr) (hf : i.op ≠ .fence) :
    ∃ tok, parseLine i.repr.toList = some tok ∧ tok.lbl = none ∧
      ((i.op = .ecall ∧ tok.item = .str "ecall" ∧ i = { op := .ecall }) ∨
       (i.op = .ebreak ∧ tok.item = .str "ebreak" ∧ i = { op := .ebreak, imm := 1 }) ∨
       (i.op ≠ .ecall ∧ i.op ≠ .ebreak ∧ ∃ pi, tok.item = .grp pi ∧
          ∀ (ls : Labels) (k : Nat) (line : String), instantiate ls addr k line pi = .ok i)) := by
  obtain ⟨it, hp, hb⟩ := roundtrip_core i addr hc hf
  exact ⟨_, hp, rfl, hb⟩

/-- The canonical instructions are what the assembler builds: every instruction object `instantiate`
    produces, at an even address and for any label table, from a syntax tree of the grammar
    (`GrammarForm`: mnemonic of the alternative, registers below 32 — numeric AND label operands) is
    canonical at its address, provided it is printable (`Printable`: not `fence`, csr number not
    negative, `jal` target of at most 4300 digits). Out-of-range immediates are wrapped by the
    constructors into the canonical range; a label displacement is even because odd ones are rejected. -/
theorem canon_of_instantiate (ls : Labels) (addr : Int) (k : Nat) (line : String) (pi : PInstr) (i : Instr)
    (hg : GrammarForm pi) (haddr : addr % 2 = 0) (h : instantiate ls addr k line pi = .ok i)
    (hp : Printable i) : i.Canon addr :=
  instantiate_canon ls addr k line pi i hg haddr h hp

/-- The numeric-operand case with the conditions stated on the tree (`NumericForm`: csr number not
    negative, absolute `jal` target of at most 4300 digits; `fence` allowed), at any address. -/
theorem canon_of_instantiate_numeric (ls : Labels) (addr : Int) (k : Nat) (line : String) (pi : PInstr)
    (i : Instr) (hg : NumericForm pi) (h : instantiate ls addr k line pi = .ok i) : i.Canon addr :=
  instantiate_canon_numeric ls addr k line pi i hg h

/-- Listing fixpoint. For a program of at most 4096 canonical non-`fence` instructions, the k-th at
    address 4k, loading the text made of their printed forms joined by newlines succeeds and stores
    exactly the same instruction list (hence prints the same listing again). -/
theorem listing_fixpoint (s : St) (prog : List Instr) (hlen : prog.length ≤ 4096)
    (hc : ∀ k (hk : k < prog.length), prog[k].Canon (4 * k) ∧ prog[k].op ≠ .fence) :
    (load s (String.intercalate "\n" (prog.map Instr.repr))).err = none ∧
    (load s (String.intercalate "\n" (prog.map Instr.repr))).st.imem.prog = prog := by
  apply listing_loads s prog hlen
  apply canonFrom_of_forall
  intro k hk
  simpa using hc k hk

/-- Listing fixpoint for built programs. Let `prog` be what the instruction pass builds from address 0,
    with any label table, from an expanded listing whose grouped entries are trees of the grammar
    (label operands included). If `prog` fits the instruction memory and its instructions are printable
    (no `fence`, no negative csr number, `jal` targets of at most 4300 digits), then loading the text made
    of the printed forms joined by newlines succeeds and stores exactly `prog` again. -/
theorem built_listing_fixpoint (s : St) (ls : Labels) (es : List TEntry) (prog : List Instr)
    (hg : ∀ e ∈ es, ∀ pi, e.2.2 = .grp pi → GrammarForm pi)
    (h : buildInstrs ls es 0 = .ok prog) (hlen : prog.length ≤ 4096) (hp : ∀ i ∈ prog, Printable i) :
    (load s (String.intercalate "\n" (prog.map Instr.repr))).err = none ∧
    (load s (String.intercalate "\n" (prog.map Instr.repr))).st.imem.prog = prog :=
  built_listing s ls es prog hg h hlen hp

/-- Soundness of the line grammar: whenever `parseLine` returns a grouped instruction, its syntax tree is
    a `GrammarForm` — the mnemonic is one of the symbols of the alternative that produced it and every
    register number is below 32 (the hypothesis of `canon_of_instantiate` / `built_listing_fixpoint`). -/
theorem grammar_sound (l : List Char) (t : Tok) (pi : PInstr) (h : parseLine l = some t)
    (hpi : t.item = .grp pi) : GrammarForm pi :=
  parseLine_form h pi hpi

/-- Every successfully loaded program is built from trees of the grammar: there are a label table and an
    expanded listing with only `GrammarForm` trees from which the instruction pass, started at address 0,
    builds exactly the stored program; and the program has at most 4096 instructions. -/
theorem loaded_program_built (s : St) (text : String) (h : (load s text).err = none) :
    ∃ ls es, (∀ e ∈ es, ∀ pi, e.2.2 = .grp pi → GrammarForm pi) ∧
      buildInstrs ls es 0 = .ok (load s text).st.imem.prog ∧ (load s text).st.imem.prog.length ≤ 4096 :=
  let ⟨ls, es, hg, hb⟩ := load_ok_built s text h
  ⟨ls, es, hg, hb, load_prog_le s text⟩

/-- Listing fixpoint for loaded programs. If `load s text` succeeds with
    program `prog` — ANY source text: labels, `label+offset` operands, pseudo-instructions, data — and
    every instruction of `prog` is printable (no `fence`, no csr instruction with a negative csr number,
    `jal` targets of at most 4300 decimal digits), then loading the listing of `prog` (the printed forms
    joined by newlines), in any simulator state `s'`, succeeds and stores exactly `prog` again. -/
theorem loaded_listing_fixpoint (s s' : St) (text : String) (prog : List Instr)
    (h : (load s text).err = none) (hprog : (load s text).st.imem.prog = prog)
    (hp : ∀ i ∈ prog, i.op ≠ .fence ∧ (i.op.ty = .csr ∨ i.op.ty = .csri → 0 ≤ i.aux) ∧
      (i.op = .jal → i.aux.natAbs < 10 ^ 4300)) :
    (load s' (String.intercalate "\n" (prog.map Instr.repr))).err = none ∧
    (load s' (String.intercalate "\n" (prog.map Instr.repr))).st.imem.prog = prog := by
  subst hprog
  exact loaded_listing s s' text h hp

/-! ### non-vacuity -/

/-- `sw x3, 8(x2)` at address 12 is canonical. -/
example : ({ op := .sw, rs1 := 2, rs2 := 3, imm := 8 } : Instr).Canon 12 := by
  simp [Instr.Canon, Op.ty]

/-- `jal x1, 24` at address 8 (displacement 16) is canonical. -/
example : ({ op := .jal, rd := 1, imm := 16, aux := 8 + 16 } : Instr).Canon 8 :=
  canon_jal_of_range 8 1 16 (by decide) (by decide) (by decide) (by decide) (by decide)
    (small_natAbs _ (by decide) (by decide))

/-- `csrrwi x1, 0x300, 5` is canonical. -/
example : ({ op := .csrrwi, rd := 1, imm := 5, aux := 768 } : Instr).Canon 0 := by
  simp [Instr.Canon, Op.ty]

/-- A three-instruction program satisfying the hypotheses of `listing_fixpoint`. -/
example :
    let prog : List Instr := [{ op := .addi, rd := 1, rs1 := 0, imm := -5 }, { op := .ecall },
      { op := .beq, rs1 := 1, rs2 := 2, imm := -8 }]
    prog.length ≤ 4096 ∧ ∀ k (hk : k < prog.length), prog[k].Canon (4 * k) ∧ prog[k].op ≠ .fence := by
  decide

/-- A numeric-operand syntax tree of the grammar (hypothesis of `canon_of_instantiate_numeric`). -/
example : NumericForm (.rri "addi" 1 2 5000) := by
  simp [NumericForm, normalIMn]

/-- Label-operand trees of the grammar (hypothesis of `canon_of_instantiate`). -/
example : GrammarForm (.btypeLabel "beq" 0 0 "l" 4) ∧ GrammarForm (.jalLabel 1 "l" 0) := by
  simp [GrammarForm, bMn]

/-- Hypotheses of `canon_of_instantiate` for `jal x1, l` at address 8 with `l` at 0: built, printable. -/
example : instantiate [("l", 0)] 8 3 "jal x1, l" (.jalLabel 1 "l" 0) = .ok { op := .jal, rd := 1, imm := -8 } ∧
    Printable { op := .jal, rd := 1, imm := -8 } :=
  ⟨by rfl, by decide, by simp [Op.ty], fun _ => small_natAbs _ (by decide) (by decide)⟩

/-- Hypotheses of `built_listing_fixpoint` for the listing `l: / beq x0, x0, l+0x4 / jal x1, l`. -/
example :
    let es : List TEntry := [(1, "l:", .str "l"), (2, "beq x0, x0, l+0x4", .grp (.btypeLabel "beq" 0 0 "l" 4)),
      (3, "jal x1, l", .grp (.jalLabel 1 "l" 0))]
    let prog : List Instr := [{ op := .beq, imm := 4 }, { op := .jal, rd := 1, imm := -4 }]
    (∀ e ∈ es, ∀ pi, e.2.2 = .grp pi → GrammarForm pi) ∧ buildInstrs [("l", 0)] es 0 = .ok prog ∧
      prog.length ≤ 4096 ∧ ∀ i ∈ prog, Printable i := by
  intro es prog
  refine ⟨?_, by rfl, by decide, ?_⟩
  · intro e he pi hpi
    simp only [es, List.mem_cons, List.not_mem_nil, or_false] at he
    rcases he with rfl | rfl | rfl
    · cases hpi
    · cases hpi; simp [GrammarForm, bMn]
    · cases hpi; simp [GrammarForm]
  · intro i hi
    simp only [prog, List.mem_cons, List.not_mem_nil, or_false] at hi
    rcases hi with rfl | rfl
    · exact ⟨by decide, by simp [Op.ty], fun h => by cases h⟩
    · exact ⟨by decide, by simp [Op.ty], fun _ => small_natAbs _ (by decide) (by decide)⟩

/-- Hypotheses of `loaded_listing_fixpoint`: the listing text of the three-instruction program above loads
    without error (by `listing_fixpoint`) and its program is printable. -/
example (s : St) :
    let prog : List Instr := [{ op := .addi, rd := 1, rs1 := 0, imm := -5 }, { op := .ecall },
      { op := .beq, rs1 := 1, rs2 := 2, imm := -8 }]
    let text := String.intercalate "\n" (prog.map Instr.repr)
    (load s text).err = none ∧ (load s text).st.imem.prog = prog ∧ ∀ i ∈ prog, Printable i := by
  intro prog
  -- the `let` is reduced away first: matching `hfix` against `load s text` would unfold the loader
  dsimp only
  have hfix := listing_fixpoint s prog (by decide) (by decide)
  refine ⟨hfix.1, hfix.2, ?_⟩
  intro i hi
  simp only [prog, List.mem_cons, List.not_mem_nil, or_false] at hi
  rcases hi with rfl | rfl | rfl <;> exact ⟨by decide, by simp [Op.ty], fun h => by cases h⟩

end ArchSim.Props.C14
