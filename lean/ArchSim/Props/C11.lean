/-
C11 — The instruction cache is transparent and its fetch accounting matches a reference.

Model: `Rv.IMem` with `cache = some c` (`Model/Rv.lean`: `ICache`, `IMem.fetch`, `IMem.instrAt`,
`iBlockFromMem`, `ICache.reset`).  Reference for the accounting: the tag-only cache of
`Spec/TagCache.lean`, fed the fetch addresses as counted reads; `eraseI` forgets the cached
instructions.

`IInv im c` (`Lemmas/C11.lean`) is the invariant of reachable instruction caches: `2^idxBits` sets of `assoc` ways,
well-formed policy states, and **every valid way holds exactly the block of the instruction memory
`im` that its tag and set index name**.  It holds for `ICache.init` / `ICache.reset` with *every*
program (`inv_init`, `reset_clears`) and after every fetch (`fetch_preserves_inv`).  The only
hypothesis on the configuration is `AssocOK isLru assoc` (`Lemmas/C09Pol.lean`: `0 < assoc`; PLRU: a power of two); the
geometry is otherwise arbitrary.  `singleRun` is `C11.singleRun` (`Lemmas/C11Step.lean`).
-/
import ArchSim.Lemmas.C11Step
import ArchSim.Lemmas.C09Distinct

namespace ArchSim.Props.C11
open ArchSim ArchSim.Cache ArchSim.Rv ArchSim.Repl ArchSim.Spec.TagCache
open ArchSim.Lemmas.C09 ArchSim.Lemmas.C11

/-! ### Transparency -/

/-- A freshly built instruction cache satisfies the invariant, whatever the program. -/
theorem inv_init (im : IMem) (isLru : Bool) (g : Geo) (penalty : Nat) (ha : AssocOK isLru g.assoc) :
    IInv im (ICache.init isLru g penalty) :=
  IInv_init im isLru g penalty ha

/-- A fetch keeps the invariant (and changes nothing of the instruction memory but the cache). -/
theorem fetch_preserves_inv {im : IMem} {c : ICache} (hc : im.cache = some c) (hinv : IInv im c)
    (pc : Int) :
    ∃ c', (im.fetch pc).imem = { im with cache := some c' } ∧ IInv (im.fetch pc).imem c' ∧
      c'.isLru = c.isLru ∧ c'.geo = c.geo ∧ c'.penalty = c.penalty := by
  obtain ⟨_, ⟨c', h1, h2, h3, h4⟩, _⟩ := fetch_spec hc hinv pc
  exact ⟨c', h1, by rw [h1]; exact h2.congr rfl, h4, congrArg (·.geo) h3, congrArg (·.penalty) h3⟩

/-- For **every** `pc` a fetch through the cache never raises (no policy error, no index error) and
    returns what the uncached instruction memory holds at the word-aligned, 32-bit-wrapped `pc`
    (an `EmptyInstruction`, i.e. `none`, where there is no instruction). -/
theorem icache_transparent_any_pc {im : IMem} {c : ICache} (hc : im.cache = some c)
    (hinv : IInv im c) (pc : Int) :
    (im.fetch pc).res = .ok (im.instrAt ((wrap32 pc - wrap32 pc % 4 : Nat) : Int)) :=
  (fetch_spec hc hinv pc).res

/-- For every word-aligned `pc` in `[0, 2^32)` — the only pcs at which the stages fetch — the
    fetch through the cache returns exactly `instrAt pc`, the content of the uncached instruction
    memory: on a hit, on a miss, for blocks that extend past the end of the program, for branches
    into the middle of a block. -/
theorem icache_transparent {im : IMem} {c : ICache} (hc : im.cache = some c) (hinv : IInv im c)
    {pc : Int} (h0 : 0 ≤ pc) (h1 : pc < 4294967296) (h4 : pc % 4 = 0) :
    (im.fetch pc).res = .ok (im.instrAt pc) := by
  rw [icache_transparent_any_pc hc hinv pc, aligned_wrap h0 h1 h4]

/-- Where an instruction exists, the cached and the uncached instruction memory system return the
    same instruction (`pc < 16384`: the uncached instruction memory answers only below `4 * 4096`). -/
theorem icache_eq_uncached {im : IMem} {c : ICache} (hc : im.cache = some c) (hinv : IInv im c)
    {pc : Int} {i : Instr} (hi : im.instrAt pc = some i) (h1 : pc < 16384) :
    (im.fetch pc).res = .ok (some i) ∧
    (im.fetch pc).res = (({ im with cache := none } : IMem).fetch pc).res := by
  have hr := fetch_instrAt hc hinv hi (by omega)
  exact ⟨hr, by rw [hr, IMem.fetch_uncached (im := { im with cache := none }) rfl hi h1]⟩

/-- Transparency along executions: after any sequence of fetches starting from an initial (or
    reset) cache, every further aligned fetch still returns `instrAt pc`. -/
theorem icache_transparent_run (prog : List Instr) (isLru : Bool) (g : Geo) (penalty : Nat)
    (ha : AssocOK isLru g.assoc) (pcs : List Int) {pc : Int} (h0 : 0 ≤ pc) (h1 : pc < 4294967296)
    (h4 : pc % 4 = 0) :
    let im : IMem := { prog := prog, cache := some (ICache.init isLru g penalty) }
    ((fetchRun im pcs).1.fetch pc).res = .ok (im.instrAt pc) := by
  intro im
  obtain ⟨c', h, hinv, _⟩ := fetchRun_init prog isLru g penalty ha pcs
  rw [h]
  exact icache_transparent (im := { im with cache := some c' }) rfl (hinv.congr rfl) h0 h1 h4

/-- After any sequence of fetches from an initial (or reset) cache, two valid ways of one set never
    carry the same tag. -/
theorem icache_tags_distinct (prog : List Instr) (isLru : Bool) (g : Geo) (penalty : Nat)
    (ha : AssocOK isLru g.assoc) (pcs : List Int) :
    let im : IMem := { prog := prog, cache := some (ICache.init isLru g penalty) }
    ∀ c', (fetchRun im pcs).1.cache = some c' →
      ∀ cs ∈ c'.sets, ∀ (i j : Nat) (wi wj : Way (Option Instr)),
        cs.ways[i]? = some wi → cs.ways[j]? = some wj →
        wi.valid = true → wj.valid = true → wi.tag = wj.tag → i = j := by
  intro im c' hc' cs hcs i j wi wj hi hj hvi hvj ht
  obtain ⟨c'', h1, _, h4, _⟩ := fetchRun_init prog isLru g penalty ha pcs
  rw [h1] at hc'
  cases hc'
  have hd := refRun_distinct (polOps isLru) _ (fetchOps pcs) (init_distinct (polOps isLru) false g penalty)
  rw [← h4] at hd
  exact distinct_ways hd hcs hi hj hvi hvj ht

/-! ### Reset -/

/-- `reset` of any instruction cache, whatever it held: no valid way remains (hence no instruction
    of the previous program can be returned), `hits = accesses = 0`, `lastHit = false`; it *is* the
    freshly built cache of the same configuration, and it satisfies the invariant for every new
    program. -/
theorem reset_clears (c : ICache) :
    (∀ cs ∈ (ICache.reset c).sets, ∀ w ∈ cs.ways, w.valid = false) ∧
    (ICache.reset c).hits = 0 ∧ (ICache.reset c).accesses = 0 ∧ (ICache.reset c).lastHit = false ∧
    ICache.reset c = ICache.init c.isLru c.geo c.penalty ∧
    (AssocOK c.isLru c.geo.assoc → ∀ im : IMem, IInv im (ICache.reset c)) := by
  refine ⟨?_, rfl, rfl, rfl, rfl, fun ha im => IInv_init im _ _ _ ha⟩
  intro cs hcs w hw
  simp only [ICache.reset, ICache.init, initSets] at hcs
  rw [List.eq_of_mem_replicate hcs] at hw
  rw [List.eq_of_mem_replicate hw]
  rfl

/-- After a reset and a reload the first fetch of every block is a miss served from the *new*
    program: a fetch right after `reset` returns the new program's instruction and is a miss. -/
theorem reset_then_fetch (c : ICache) (ha : AssocOK c.isLru c.geo.assoc) (prog' : List Instr)
    {pc : Int} (h0 : 0 ≤ pc) (h1 : pc < 4294967296) (h4 : pc % 4 = 0) :
    let im' : IMem := { prog := prog', cache := some (ICache.reset c) }
    (im'.fetch pc).res = .ok (im'.instrAt pc) ∧ (im'.fetch pc).extra = c.penalty := by
  intro im'
  have hinv : IInv im' (ICache.reset c) := IInv_init im' _ _ _ ha
  refine ⟨icache_transparent (im := im') rfl hinv h0 h1 h4, ?_⟩
  -- a reset cache has no valid way, so the lookup misses
  obtain ⟨cs, hs, hcs⟩ := hinv.getSet pc
  have hf : findWay cs.ways (decode (ICache.reset c).geo.idxBits (ICache.reset c).geo.blkBits pc).tag
      = none := by
    refine Option.eq_none_iff_forall_ne_some.mpr fun i hf => ?_
    obtain ⟨w, hw, hwv, _⟩ := findWay_some hf
    cases ((reset_clears c).1 cs (List.mem_of_getElem? hs) w (List.mem_of_getElem? hw)).symm.trans hwv
  obtain ⟨v, hv, hvlt⟩ := (polOps_ok ha).victim cs.pol hcs.pol
  obtain ⟨p, hp, _⟩ := (polOps_ok ha).access cs.pol v hcs.pol hvlt
  have hvl : v < cs.ways.length := hcs.nways ▸ hvlt
  rw [fetch_miss (im := im') rfl rfl hs hf hv (List.getElem?_eq_getElem hvl) hp]
  rfl

/-! ### Accounting -/

/-- One fetch: `accesses` grows by exactly one; the erased cache, hence `hits` and `lastHit`, and
    the added cycles are those of the reference cache performing a counted read of `pc`; a miss
    adds exactly the penalty and a hit nothing. -/
theorem fetch_accounting {im : IMem} {c : ICache} (hc : im.cache = some c) (hinv : IInv im c)
    (pc : Int) :
    ∃ c', (im.fetch pc).imem.cache = some c' ∧
      c'.accesses = c.accesses + 1 ∧
      eraseI c' = (refRead (polOps c.isLru) (eraseI c) pc true).cache ∧
      c'.hits = (refRead (polOps c.isLru) (eraseI c) pc true).cache.hits ∧
      c'.lastHit = (refRead (polOps c.isLru) (eraseI c) pc true).cache.lastHit ∧
      (im.fetch pc).extra = (refRead (polOps c.isLru) (eraseI c) pc true).extra ∧
      (im.fetch pc).extra = (if c'.lastHit then 0 else c.penalty) ∧
      c'.hits = c.hits + (if c'.lastHit then 1 else 0) := by
  obtain ⟨_, ⟨c', h1, _, h3, _⟩, hx⟩ := fetch_spec hc hinv pc
  have hh : c'.hits = (refRead (polOps c.isLru) (eraseI c) pc true).cache.hits := congrArg (·.hits) h3
  have hl : c'.lastHit = (refRead (polOps c.isLru) (eraseI c) pc true).cache.lastHit :=
    congrArg (·.lastHit) h3
  refine ⟨c', by rw [h1], congrArg (·.accesses) h3, h3, hh, hl, hx, ?_, ?_⟩
  · rw [hx, hl]
    simp only [refRead, TagCache.count, Bool.true_and, if_true]
    split <;> simp_all
    rfl
  · rw [hl, hh]
    rfl

/-- Sequences of fetches from an initial (or reset) cache: the access counter equals the number of
    fetches performed; the hit counter and the last-hit flag equal those of the reference cache fed
    the same addresses; hits + misses = fetches; the cycles added are penalty × number of misses. -/
theorem fetch_run_accounting (prog : List Instr) (isLru : Bool) (g : Geo) (penalty : Nat)
    (ha : AssocOK isLru g.assoc) (pcs : List Int) :
    let im : IMem := { prog := prog, cache := some (ICache.init isLru g penalty) }
    let ref := refRun (polOps isLru) (TagCache.init (polOps isLru) false g penalty) (fetchOps pcs)
    ∃ c', (fetchRun im pcs).1.cache = some c' ∧
      c'.accesses = pcs.length ∧
      c'.hits = ref.1.hits ∧ c'.lastHit = ref.1.lastHit ∧
      c'.hits + ref.2.2 = pcs.length ∧
      (fetchRun im pcs).2 = penalty * ref.2.2 := by
  intro im ref
  obtain ⟨c', h1, _, h4, h5⟩ := fetchRun_init prog isLru g penalty ha pcs
  have hacc := refRun_accesses (polOps isLru) (TagCache.init (polOps isLru) false g penalty) (fetchOps pcs)
  have hhm := refRun_hits_misses (polOps isLru) (TagCache.init (polOps isLru) false g penalty) (fetchOps pcs)
  rw [fetchOps_counted] at hacc hhm
  have hh : c'.hits = ref.1.hits := congrArg (·.hits) h4
  refine ⟨c', by rw [h1], (congrArg (·.accesses) h4).trans (hacc.trans (Nat.zero_add _)), hh,
    congrArg (·.lastHit) h4, ?_, ?_⟩
  · rw [hh]; exact hhm.trans (Nat.zero_add _)
  · rw [h5, refRun_extra]; rfl

/-! ### One fetch per executed instruction (single-cycle mode) -/

/-- One single-cycle step with a cached instruction memory: the instruction-cache access counter
    grows exactly as the instruction count does — by one if an instruction exists at `pc` (whatever
    it does, faulting or not), by zero otherwise — and the invariant is kept. -/
theorem single_step_one_fetch_per_instruction {s : St} {c : ICache} (hc : s.imem.cache = some c)
    (hinv : IInv s.imem c) :
    ∃ c', (singleStep s).st.imem.cache = some c' ∧ IInv (singleStep s).st.imem c' ∧
      c'.accesses + s.instrs = c.accesses + (singleStep s).st.instrs ∧
      (singleStep s).st.instrs = s.instrs + (if (s.imem.instrAt s.pc).isSome then 1 else 0) :=
  singleStep_fetch_count hc hinv

/-- After any number of single-cycle steps the access counter has grown by exactly the number of
    instructions executed. -/
theorem single_cycle_accesses_eq_instructions (n : Nat) {s : St} {c : ICache}
    (hc : s.imem.cache = some c) (hinv : IInv s.imem c) :
    ∃ c', (singleRun n s).imem.cache = some c' ∧
      c'.accesses + s.instrs = c.accesses + (singleRun n s).instrs := by
  obtain ⟨c', h1, _, h2⟩ := singleRun_fetch_count n hc hinv
  exact ⟨c', h1, h2⟩

/-! ### Non-vacuity -/

example : AssocOK true exIGeo.assoc := ⟨by decide, fun h => by cases h⟩
example : AssocOK false exIGeo.assoc := ⟨by decide, fun _ => ⟨1, rfl⟩⟩
example : IInv (exIM false) (ICache.init false exIGeo 7) :=
  inv_init _ _ _ _ ⟨by decide, fun _ => ⟨1, rfl⟩⟩
/-- pc = 8 holds an instruction; pc = 12 lies in the same block past the end of the program. -/
example : (exIM true).instrAt 8 = some { op := .beq, rs1 := 0, rs2 := 0, imm := -8 } := by decide
example : (exIM true).instrAt 12 = none := by decide
/-- The reference's verdict on a loop `0,4,8,0,4,8` with a detour is not trivial. -/
example : (let r := refRun (polOps true) (TagCache.init (polOps true) false exIGeo 7)
              (fetchOps [0, 4, 8, 0, 4, 8, 32, 64, 0])
           (r.1.accesses, r.1.hits, r.2.2, r.2.1)) = (9, 4, 5, 35) := by decide +kernel

end ArchSim.Props.C11
