/-
C04 (front end) — spelling independence: lines that name a VARIABLE (`la`, load by name, store by name),
in-line labels in front of pseudo-instruction lines, and the error case of "comments, blank lines and
indentation never change the result".

Notation (Lemmas/C04SpellTok; `LinePre`: C04SpellPseudo): `tReg w st n rest` = blanks `w`, register `n`
in spelling `st`, `rest`; `tNum w st v rest` the same for a number; `tSep w c rest` = blanks and the separator `c`;
`tLab w lab rest` a label; `tVar w name ix rest` a variable name with its optional index `ix : IdxSp` (nothing, or
`[` decimal digits `]` — no blanks, sign or radix prefix); `LinePre` = what stands in front of the mnemonic: blanks
only (`.plain`), or an in-line label declaration `lab:` with blanks around the label and the colon (`.labelled`);
`p.txt x` is the line, `p.lbl` the label of the resulting token. `SpellableF`, `operands`, `itemOf`: C04SpellRender;
`NumFits` (a number fits the style it is written in: only decimal has a size limit), `recase`: C04SpellNumSp;
`entryTexts`: C04SpellEntryText; `entryLines`: C04SpellLoadRenum; `renErr` (an error with its line number renumbered):
C05Renum.

Result on "a variable whose name starts with / is a register name" (`a0x`, `sp_buf`, `t1`, `sp`): there is NO side
condition. `l<x> rd, name`, `s<x> rs, name, rt` and `la rd, name` always mean the variable `name`; the competing
alternative `mnemonic reg, reg, imm` reads a register out of (a prefix of) the name and then always fails — no comma
follows inside the name, after `name[i]`, or at the end of the line, and in `s<x> rs, sp, rt` the third operand is a
register, not a number. So `lw x1, sp` is a load from the variable `sp` (undeclared: `ParserVariableException` later);
the real assembler agrees. An index must be `[decimal digits]`: `t1[0x1]`, `t1[ 2]`,
`t1 [2]` are rejected (the variable pattern stops in front of `[`, leaving text), by the model and by Python alike.
-/
import ArchSim.Lemmas.C04SpellVarEx
namespace ArchSim.Props.C04SpellVar
open ArchSim ArchSim.PP ArchSim.Rv ArchSim.Asm ArchSim.Lemmas.C14 ArchSim.Lemmas.C04Spell

/-! ### the variable operand -/

/-- A variable operand `name` or `name[digits]` (decimal digits, leading zeros allowed, at most 4300), after any
    blanks, is read as the name and the value of the index, when the next character is no letter, digit,
    underscore or `[`. -/
theorem variable_operand (w name : List Char) (ix : IdxSp) (rest : List Char) (hw : ∀ c ∈ w, isWs c = true)
    (hl : IsLabel name) (hi : IdxOk ix) (hr : ∀ c ∈ rest.head?, isLabelBody c = false)
    (hb : rest.head? ≠ some '[') :
    pVariable (tVar w name ix rest) = .ok (String.ofList name, idxVal ix) rest :=
  pVariable_tVar w name ix rest hw hl hi hr hb

/-- Finding: an index must be `[decimal digits]` written without blanks. If after `[` and some (maybe no) digits
    comes anything but a digit or `]` — the `x` of `0x1`, a blank, a sign — the variable pattern does not read an
    index at all and stops in front of the `[` (so the line is rejected: text is left over). -/
theorem index_must_be_decimal (w name ds : List Char) (c : Char) (r : List Char) (hw : ∀ d ∈ w, isWs d = true)
    (hl : IsLabel name) (hds : ∀ d ∈ ds, isNum d = true) (hc : isNum c = false) (hc2 : c ≠ ']') :
    pVariable (w ++ (name ++ '[' :: (ds ++ c :: r))) = .ok (String.ofList name, none) ('[' :: (ds ++ c :: r)) := by
  have h1 : pLabel (w ++ (name ++ '[' :: (ds ++ c :: r))) = .ok (String.ofList name) ('[' :: (ds ++ c :: r)) :=
    pLabel_tLab w name _ hw hl (tokEnd_cons '[' _ (by decide))
  have hend : ∀ e ∈ (c :: r).head?, isNum e = false := by
    intro e he; simp at he; subst he; exact hc
  have hclose : stripPrefix [']'] (c :: r) = none := by
    simp [stripPrefix, Ne.symm hc2]
  simp only [pVariable, h1, bind_ok, litAdj, show ("[" : String).toList = ['['] from rfl,
    show ("]" : String).toList = [']'] from rfl, stripPrefix, if_true]
  cases ds with
  | nil => simp only [List.nil_append, wordAdj, hc, Bool.false_eq_true, if_false, bind_fail]
  | cons d tl =>
    simp only [wordAdj_run isNum (d :: tl) _ (List.cons_ne_nil d tl) hds hend, bind_ok, hclose, map_fail]
    cases pyIntDec (String.ofList (d :: tl)) <;> rfl

/-- What the register pattern makes of a variable name (a label followed by something that is no label character
    and, after blanks, no digit): it fails, or it reads a register name that is a non-empty PREFIX of the name —
    an ABI name, or `x` and a register number — and leaves the rest of the name. It never reads beyond the name. -/
theorem register_inside_name (name rest0 : List Char) (hl : IsLabel name)
    (ht : ∀ c ∈ rest0.head?, isLabelBody c = false) (hd : ∀ c ∈ (skipWs rest0).head?, isNum c = false) :
    pReg (name ++ rest0) = .fail ∨
      ∃ n k, 0 < k ∧ k ≤ name.length ∧ pReg (name ++ rest0) = .ok n (name.drop k ++ rest0) :=
  pReg_label_left name rest0 hl ht hd

/-- Hence an alternative of the grammar that expects `register , …` at a variable name fails whenever its
    continuation `k` fails without a comma and fails right after the name: this is how `reg, reg, imm` loses
    against the by-name forms for EVERY name. -/
theorem register_comma_at_name_fails {α : Type} (w name rest0 : List Char) (hw : ∀ c ∈ w, isWs c = true)
    (hl : IsLabel name) (ht : ∀ c ∈ rest0.head?, isLabelBody c = false)
    (hd : ∀ c ∈ (skipWs rest0).head?, isNum c = false) (k : Nat → List Char → R α)
    (hk : ∀ n r, pComma r = .fail → k n r = .fail) (hk0 : ∀ n, k n rest0 = .fail) :
    (pReg (w ++ (name ++ rest0))).bind k = .fail :=
  reg_on_label_fail w name rest0 hw hl ht hd k hk hk0

/-! ### whole lines that name a variable (with or without an in-line label) -/

/-- Load by name. For each of the five loads, every spelling of `l<x> rd, name` / `l<x> rd, name[i]` — any line
    prefix `p` (blanks, or `lab:` with blanks), mnemonic letters in either case, at least one blank after the
    mnemonic, any blanks around the comma and at the end, `rd` in any register style, ANY label as name (also one
    that is or starts with a register name), index in decimal with any leading zeros — is tokenized as the same
    entry `.memPseudo mnemonic rd name index`. -/
theorem load_by_name_line (p : LinePre) (hp : p.Ok) (sel : Nat → Bool) (g w1 w2 tr : List Char)
    (hg : ∀ c ∈ g, isWs c = true) (hgne : g ≠ []) (h1 : ∀ c ∈ w1, isWs c = true) (h2 : ∀ c ∈ w2, isWs c = true)
    (htr : ∀ c ∈ tr, isWs c = true) (op : Op) (h : op.ty = .memI) (a : Nat) (ha : a < 32) (s1 : RegStyle)
    (name : List Char) (hl : IsLabel name) (ix : IdxSp) (hi : IdxOk ix) :
    parseLine (p.txt (recase sel op.mnemonic.toList ++ tReg g s1 a (tSep w1 ',' (tVar w2 name ix tr))))
      = some { lbl := p.lbl, item := .grp (.memPseudo op.mnemonic a (String.ofList name) (idxVal ix)) } :=
  line_loadVar p hp sel g w1 w2 tr hg hgne h1 h2 htr op (cls_load.mpr h) a ha s1 name hl ix hi

/-- Store by name. For each of the three stores, every spelling of `s<x> rs, name, rt` / `s<x> rs, name[i], rt`
    (as above; both registers in any style) is tokenized as `.sPseudo mnemonic rs name index rt`. -/
theorem store_by_name_line (p : LinePre) (hp : p.Ok) (sel : Nat → Bool) (g w1 w2 w3 w4 tr : List Char)
    (hg : ∀ c ∈ g, isWs c = true) (hgne : g ≠ []) (h1 : ∀ c ∈ w1, isWs c = true) (h2 : ∀ c ∈ w2, isWs c = true)
    (h3 : ∀ c ∈ w3, isWs c = true) (h4 : ∀ c ∈ w4, isWs c = true) (htr : ∀ c ∈ tr, isWs c = true) (op : Op)
    (h : op.ty = .s) (a b : Nat) (ha : a < 32) (hb : b < 32) (s1 s2 : RegStyle) (name : List Char)
    (hl : IsLabel name) (ix : IdxSp) (hi : IdxOk ix) :
    parseLine (p.txt (recase sel op.mnemonic.toList ++
        tReg g s1 a (tSep w1 ',' (tVar w2 name ix (tSep w3 ',' (tReg w4 s2 b tr))))))
      = some { lbl := p.lbl, item := .grp (.sPseudo op.mnemonic a (String.ofList name) (idxVal ix) b) } :=
  parseLine_pre_word p hp op.mnemonic (mnemonic_mem op) sel _ (lineSep_tReg g s1 a _ hg hgne ha) _ tr htr
    (suffix_tReg (suffix_tSep (suffix_tVar (suffix_tSep (suffix_tReg (List.suffix_refl tr))))))
    (bodyS_storeVar g w1 w2 w3 w4 tr hg hgne h1 h2 h3 h4 htr op (cls_store.mpr h) a b ha hb s1 s2 name hl
      ix hi)

/-- `la rd, name` / `la rd, name[i]` in every spelling is tokenized as `.memPseudo "la" rd name index`. -/
theorem la_line (p : LinePre) (hp : p.Ok) (sel : Nat → Bool) (g w1 w2 tr : List Char)
    (hg : ∀ c ∈ g, isWs c = true) (hgne : g ≠ []) (h1 : ∀ c ∈ w1, isWs c = true) (h2 : ∀ c ∈ w2, isWs c = true)
    (htr : ∀ c ∈ tr, isWs c = true) (a : Nat) (ha : a < 32) (s1 : RegStyle) (name : List Char) (hl : IsLabel name)
    (ix : IdxSp) (hi : IdxOk ix) :
    parseLine (p.txt (recase sel "la".toList ++ tReg g s1 a (tSep w1 ',' (tVar w2 name ix tr))))
      = some { lbl := p.lbl, item := .grp (.memPseudo "la" a (String.ofList name) (idxVal ix)) } :=
  parseLine_pre_word p hp "la" (kw_mem (by decide)) sel _
    (lineSep_tReg g s1 a _ hg hgne ha) _ tr htr
    (suffix_tReg (suffix_tSep (suffix_tVar (List.suffix_refl tr))))
    (bodyP_la g w1 w2 tr hg hgne h1 h2 htr a ha s1 name hl ix hi)

/-! ### in-line labels in front of the other pseudo-instruction and label-target lines -/

/-- `li rd, imm`, `mv rd, rs` and `nop` in every spelling, with or without an in-line label `lab:` in front, are
    tokenized as `.li rd imm`, `.mv rd rs` and the word `nop`, carrying the label. -/
theorem pseudo_line_with_label (p : LinePre) (hp : p.Ok) (sel : Nat → Bool) (g w1 w2 tr : List Char)
    (hg : ∀ c ∈ g, isWs c = true) (hgne : g ≠ []) (h1 : ∀ c ∈ w1, isWs c = true) (h2 : ∀ c ∈ w2, isWs c = true)
    (htr : ∀ c ∈ tr, isWs c = true) (a b : Nat) (v : Int) (ha : a < 32) (hb : b < 32) (hv : v.natAbs < 10 ^ 4300)
    (s1 s2 : RegStyle) (sn : NumStyle) :
    parseLine (p.txt (recase sel "li".toList ++ tReg g s1 a (tSep w1 ',' (tNum w2 sn v tr))))
      = some { lbl := p.lbl, item := .grp (.li a v) } ∧
    parseLine (p.txt (recase sel "mv".toList ++ tReg g s1 a (tSep w1 ',' (tReg w2 s2 b tr))))
      = some { lbl := p.lbl, item := .grp (.mv a b) } ∧
    parseLine (p.txt (recase sel "nop".toList ++ tr)) = some { lbl := p.lbl, item := .str "nop" } :=
  ⟨line_li g w1 w2 tr hg hgne h1 h2 htr p hp sel a v ha s1 sn (numFits_of_small sn v hv),
   parseLine_pre_word p hp "mv" (kw_mem (by decide)) sel _
     (lineSep_tReg g s1 a _ hg hgne ha) _ tr htr
     (suffix_tReg (suffix_tSep (suffix_tReg (List.suffix_refl tr))))
     (bodyP_mv g w1 w2 tr hg hgne h1 h2 htr a b ha hb s1 s2),
   parseLine_pre_word p hp "nop" (kw_mem (by decide)) sel tr (lineSep_allWs tr htr) _ tr htr
     (List.suffix_refl tr) (bodyP_nop tr htr)⟩

/-- Branch / `jal` lines with a label target (with or without `+0x` offset) in every spelling, with or without an
    in-line label in front. -/
theorem label_target_line_with_label (p : LinePre) (hp : p.Ok) (sel : Nat → Bool) (g w1 w2 w3 w4 tr : List Char)
    (hg : ∀ c ∈ g, isWs c = true) (hgne : g ≠ []) (h1 : ∀ c ∈ w1, isWs c = true) (h2 : ∀ c ∈ w2, isWs c = true)
    (h3 : ∀ c ∈ w3, isWs c = true) (h4 : ∀ c ∈ w4, isWs c = true) (htr : ∀ c ∈ tr, isWs c = true) (op : Op)
    (h : op.ty = .b) (a b : Nat) (ha : a < 32) (hb : b < 32) (s1 s2 : RegStyle) (lab : List Char) (hl : IsLabel lab)
    (o : OffSp) (ho : OffOk o) :
    parseLine (p.txt (recase sel op.mnemonic.toList ++
        tReg g s1 a (tSep w1 ',' (tReg w2 s2 b (tSep w3 ',' (tLab w4 lab (offTxt o ++ tr)))))))
      = some { lbl := p.lbl, item := .grp (.btypeLabel op.mnemonic a b (String.ofList lab) (offVal o)) } ∧
    parseLine (p.txt (recase sel "jal".toList ++ tReg g s1 a (tSep w1 ',' (tLab w2 lab (offTxt o ++ tr)))))
      = some { lbl := p.lbl, item := .grp (.jalLabel a (String.ofList lab) (offVal o)) } :=
  ⟨parseLine_pre_word p hp op.mnemonic (mnemonic_mem op) sel _ (lineSep_tReg g s1 a _ hg hgne ha) _ tr htr
     (suffix_tReg (suffix_tSep (suffix_tReg (suffix_tSep (suffix_tLab (List.suffix_append _ tr))))))
     (bodyS_BL g w1 w2 w3 w4 tr hg hgne h1 h2 h3 h4 htr op (cls_b.mpr h) a b ha hb s1 s2 lab hl o
       ho),
   parseLine_pre_word p hp "jal" (kw_mem (by decide)) sel _
     (lineSep_tReg g s1 a _ hg hgne ha) _ tr htr
     (suffix_tReg (suffix_tSep (suffix_tLab (List.suffix_append _ tr))))
     (bodyS_JL g w1 w2 tr hg hgne h1 h2 htr a ha s1 lab hl o ho)⟩

/-! ### the size limit of numbers applies to the decimal style only -/

/-- Whole-line spelling independence without the uniform 4300-digit bound: every spelling `sp` of the instruction
    `i` (all classes, as in `C04Spell.line_spelling_independent`), with or without an in-line label in front, is
    tokenized as `itemOf i`, provided each number fits the style it is written in (`SpellableF`): a number written
    in hexadecimal or binary may have ANY size, one written in decimal at most 4300 digits. -/
theorem line_spelling_independent_any_size (p : LinePre) (hp : p.Ok) (sp : Spelling) (i : Instr)
    (hs : SpellableF sp i) :
    parseLine (p.txt (recase sp.mnCase i.op.mnemonic.toList ++ operands sp i (blanks sp.trail)))
      = some { lbl := p.lbl, item := itemOf i } :=
  parseLine_pre_render p hp sp i hs.legible

/-- The same for `li rd, imm` (where large constants make sense: the expansion wraps them to 32 bits). -/
theorem li_line_any_size (p : LinePre) (hp : p.Ok) (sel : Nat → Bool) (g w1 w2 tr : List Char)
    (hg : ∀ c ∈ g, isWs c = true) (hgne : g ≠ []) (h1 : ∀ c ∈ w1, isWs c = true) (h2 : ∀ c ∈ w2, isWs c = true)
    (htr : ∀ c ∈ tr, isWs c = true) (a : Nat) (v : Int) (ha : a < 32) (s1 : RegStyle) (sn : NumStyle)
    (hv : NumFits sn v) :
    parseLine (p.txt (recase sel "li".toList ++ tReg g s1 a (tSep w1 ',' (tNum w2 sn v tr))))
      = some { lbl := p.lbl, item := .grp (.li a v) } :=
  line_li g w1 w2 tr hg hgne h1 h2 htr p hp sel a v ha s1 sn hv

/-! ### the error case: comments, blank lines and indentation change nothing but reported line numbers -/

/-- If two source texts have the same entry texts in the same order, there is an injective renumbering `g` of line
    numbers that sends the line number of the j-th entry of `t1` to that of the j-th entry of `t2` (the
    order-preserving correspondence: `entryLines` are strictly increasing), such that loading `t2` gives the SAME
    state as loading `t1` and the same error with its line number renumbered by `g` — success or failure alike. -/
theorem same_entries_same_result_up_to_line_numbers (s : St) (t1 t2 : String) (h : entryTexts t1 = entryTexts t2) :
    ∃ g : Nat → Nat, (∀ a b, g a = g b → a = b) ∧ (entryLines t1).map g = entryLines t2 ∧
      (load s t2).st = (load s t1).st ∧ (load s t2).err = (load s t1).err.map (renErr g) := by
  obtain ⟨g, hg, hmap, hl⟩ := load_same_entries_ren s t1 t2 h
  exact ⟨g, hg, hmap, by rw [hl, renOut_st], by rw [hl, renOut_err]⟩

/-- The error case spelled out. If loading `t1` fails with a parser error of kind `kind` reported for line `k`
    with line text `line`, then loading `t2` fails with the same kind and the same line TEXT, reported for the
    line `k'` that holds the corresponding entry: whenever `k` is the line of the j-th entry of `t1`, `k'` is the
    line of the j-th entry of `t2`. The states left behind are equal. -/
theorem same_entries_same_parser_error (s : St) (t1 t2 : String) (h : entryTexts t1 = entryTexts t2)
    (kind : String) (k : Nat) (line : String) (he : (load s t1).err = some (.parser kind k line)) :
    ∃ k', (load s t2).err = some (.parser kind k' line) ∧ (load s t2).st = (load s t1).st ∧
      ∀ j : Nat, (entryLines t1)[j]? = some k → (entryLines t2)[j]? = some k' := by
  obtain ⟨g, _, hmap, hst, herr⟩ := same_entries_same_result_up_to_line_numbers s t1 t2 h
  refine ⟨g k, by rw [herr, he]; rfl, hst, ?_⟩
  intro j hj
  rw [← hmap, List.getElem?_map, hj]; rfl

/-- A memory error (program or data too large) is reported identically. -/
theorem same_entries_same_memory_error (s : St) (t1 t2 : String) (h : entryTexts t1 = entryTexts t2) (a : Int)
    (he : (load s t1).err = some (.memAddr a)) :
    (load s t2).err = some (.memAddr a) ∧ (load s t2).st = (load s t1).st := by
  obtain ⟨g, _, _, hst, herr⟩ := same_entries_same_result_up_to_line_numbers s t1 t2 h
  exact ⟨by rw [herr, he]; rfl, hst⟩

/-! ### non-vacuity -/

/-- `lw x1, sp`: a variable literally named like a register. The line is the load-by-name form for the variable
    `sp` (the real assembler agrees: it loads from a variable `sp` if one is declared). -/
example : parseLine "lw x1, sp".toList = some { lbl := none, item := .grp (.memPseudo "lw" 1 "sp" none) } := by
  have hs := allWs_space
  have hn := allWs_nil
  refine Eq.trans (congrArg parseLine ?_) (load_by_name_line (.plain []) hn (fun _ => false) [' '] [] [' '] [] hs
    (by decide) hn hs hn .lw rfl 1 (by decide) .x "sp".toList ⟨'s', ['p'], rfl, by decide, by decide⟩ .none trivial)
  decide +kernel

/-- `Loop:  LW ra , t1[002]` (label, upper case, ABI register, blanks, register-like name, index with leading
    zeros) and `sw a0, a0x[1] , t0`. -/
example : parseLine "Loop:  LW ra , t1[002]".toList
      = some { lbl := some "Loop", item := .grp (.memPseudo "lw" 1 "t1" (some 2)) } ∧
    parseLine "sw a0, a0x[1] , t0".toList
      = some { lbl := none, item := .grp (.sPseudo "sw" 10 "a0x" (some 1) 5) } := by
  have hs := allWs_space
  have hn := allWs_nil
  have hss : ∀ c ∈ [' ', ' '], isWs c = true := by decide
  constructor
  · refine Eq.trans (congrArg parseLine ?_) (load_by_name_line (.labelled [] "Loop".toList [] [' ', ' '])
      ⟨hn, ⟨'L', "oop".toList, rfl, by decide, by decide⟩, hn, hss⟩ (fun _ => true) [' '] [' '] [' '] [] hs
      (by decide) hs hs hn .lw rfl 1 (by decide) .abi "t1".toList ⟨'t', ['1'], rfl, by decide, by decide⟩
      (.some "002".toList) ⟨by decide, by decide, by decide⟩)
    decide +kernel
  · refine Eq.trans (congrArg parseLine ?_) (store_by_name_line (.plain []) hn (fun _ => false) [' '] [] [' '] [' ']
      [' '] [] hs (by decide) hn hs hs hs hn .sw rfl 10 5 (by decide) (by decide) .abi .abi "a0x".toList
      ⟨'a', "0x".toList, rfl, by decide, by decide⟩ (.some ['1']) ⟨by decide, by decide, by decide⟩)
    decide +kernel

/-- `t1[0x1]`: the hexadecimal index is not read (hypotheses of `index_must_be_decimal`), the text `[0x1]` is
    left over. -/
example : pVariable " t1[0x1]".toList = .ok ("t1", none) "[0x1]".toList :=
  index_must_be_decimal [' '] "t1".toList ['0'] 'x' "1]".toList (by decide)
    ⟨'t', ['1'], rfl, by decide, by decide⟩ (by decide) (by decide) (by decide)

/-- `here : la a0, x5` and `l1: nop`. -/
example : parseLine "here : la a0, x5".toList
      = some { lbl := some "here", item := .grp (.memPseudo "la" 10 "x5" none) } ∧
    parseLine "l1: NOP ".toList = some { lbl := some "l1", item := .str "nop" } := by
  have hs := allWs_space
  have hn := allWs_nil
  constructor
  · refine Eq.trans (congrArg parseLine ?_) (la_line (.labelled [] "here".toList [' '] [' '])
      ⟨hn, ⟨'h', "ere".toList, rfl, by decide, by decide⟩, hs, hs⟩ (fun _ => false) [' '] [] [' '] [] hs (by decide) hn
      hs hn 10 (by decide) .abi "x5".toList ⟨'x', ['5'], rfl, by decide, by decide⟩ .none trivial)
    decide +kernel
  · refine Eq.trans (congrArg parseLine ?_) (pseudo_line_with_label (.labelled [] "l1".toList [] [' '])
      ⟨hn, ⟨'l', ['1'], rfl, by decide, by decide⟩, hn, hs⟩ (fun _ => true) [' '] [] [] [' '] hs (by decide) hn hn hs
      0 0 0 (by decide) (by decide) (small_natAbs _ (by decide) (by decide)) .x .x .dec).2.2
    decide +kernel

/-- Any value fits the hexadecimal and binary styles (hypothesis `NumFits` of the `…_any_size` theorems). -/
example : NumFits (.hex 3 (fun _ => true)) (10 ^ 5000) ∧ NumFits (.bin 0) (-(10 ^ 5000)) := ⟨trivial, trivial⟩

/-- The error case on concrete texts: `"lw x1, nosuch"` fails with `ParserVariableException` for line 1; the text
    `"# c\n\n  lw x1, nosuch  # x"` has the same entry texts, so it fails with the same kind and the same line
    text, reported for line 3 (the line of the corresponding entry), leaving the same state. -/
example (s : St) : (load s tErr2).err = some (.parser "ParserVariableException" 3 "lw x1, nosuch") ∧
    (load s tErr2).st = (load s tErr1).st := by
  obtain ⟨k', h1, h2, h3⟩ := same_entries_same_parser_error s tErr1 tErr2 (by decide +kernel) _ _ _ (tErr1_fails s)
  have h0 := h3 0 (by decide +kernel)
  rw [show (entryLines tErr2)[0]? = some 3 by decide +kernel] at h0
  have : k' = 3 := (Option.some.inj h0).symm
  subst this
  exact ⟨h1, h2⟩

/-- Hypothesis of `line_spelling_independent_any_size` for `addi x1, x1, 0x…` with a constant of more than 4300
    decimal digits written in hexadecimal, behind the in-line label `big:`. -/
example : SpellableF { imm := .hex 0 (fun _ => false) } { op := .addi, rd := 1, rs1 := 1, imm := 10 ^ 5000 } ∧
    (LinePre.labelled [] "big".toList [] [' ']).Ok :=
  ⟨⟨by decide, by decide, by decide, trivial, trivial, trivial, by decide⟩,
   allWs_nil, ⟨'b', "ig".toList, rfl, by decide, by decide⟩, allWs_nil, allWs_space⟩

end ArchSim.Props.C04SpellVar
