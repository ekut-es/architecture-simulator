/-
C17 — the displayed TABLES (register table, data-memory table, TOY registers, TOY memory table).

`ArchSim/Model/Views.lean` models the four inspection functions as structured values; the driver only
renders them to text.  The theorems below say what every row of these tables SHOWS, using the
independent string readers of `Spec/Digits.lean` packaged in `Spec/Shown.lean`:

  `Shows n r u`       the four strings of `r` (binary, unsigned decimal, hex, signed decimal) all denote
                      the `n`-bit pattern `u < 2^n` (signed string: `u` read in two's complement), with
                      exactly `n` binary / `⌈n/4⌉` hex digits grouped by 8 / 2 from the right;
  `ShowsAddr w s a`   `s` is `"0x"` followed by upper-case hex digits denoting `a` (exactly `w` of them
                      when `a < 16^w`).

All theorems hold for EVERY state (any register contents, any memory with any configuration, any TOY
state); the ones about well-formed memories (`WF`, the invariant of every memory reached by writes,
`C18.wf_preserved`) say so; the last section shows that these hypotheses hold in every reachable TOY state
(`toy_memory_invariant`) and, for RISC-V, in the states of single-stage runs without caches (`riscv_tables_reachable`,
under `StOK`).
-/
import ArchSim.Lemmas.C17ViewsEx
import ArchSim.Lemmas.ToyMemInv
import ArchSim.Lemmas.C01Defs

namespace ArchSim.Props.C17Views
open ArchSim ArchSim.Mem ArchSim.Views ArchSim.Fmt ArchSim.Toy
open ArchSim.Spec.Digits ArchSim.Spec.Shown ArchSim.Spec.ByteStore
open ArchSim.Lemmas.C17Views ArchSim.Lemmas.C18

/-! ## The formatter shows the value -/

/-- Every output of the formatter shows the `n`-bit two's-complement pattern of its input: all four
strings denote `number mod 2^n` (the signed one its two's-complement reading), for every width
`n ≥ 1` and every integer `number`. -/
theorem formatter_shows (n : Nat) (hn : 1 ≤ n) (number : Int) :
    Shows n (nBitRepr number n) (unsignedVal n number) :=
  nBitRepr_shows n hn number

example : Shows 12 ⟨"1111 11111111", "4095", "F FF", "-1"⟩ 4095 := by
  have h := formatter_shows 12 (by decide) (-1)
  rwa [show nBitRepr (-1) 12 = ⟨"1111 11111111", "4095", "F FF", "-1"⟩ by decide +kernel,
    show unsignedVal 12 (-1) = 4095 by decide] at h

/-! ## RISC-V register table -/

/-- The register table has exactly 32 rows, and row `r` is the 32-bit formatter output for register `r`. -/
theorem regTable_rows (regs : Nat → Nat) :
    (regTable regs).length = 32 ∧
    ∀ r, r < 32 → (regTable regs)[r]? = some (nBitRepr (regs r) 32) :=
  ⟨regTable_length regs, regTable_getElem? regs⟩

/-- What is displayed: row `r` of the register table shows the 32-bit pattern of register `r`
(`regs r mod 2^32`, which is `regs r` itself for every register value below `2^32`): 32 binary digits
in 4 groups of 8, the unsigned decimal, 8 hex digits in 4 groups of 2, and the signed decimal of the
two's-complement reading. -/
theorem regTable_shows (regs : Nat → Nat) (r : Nat) (hr : r < 32) :
    ∃ row, (regTable regs)[r]? = some row ∧ Shows 32 row (regs r % 2 ^ 32) ∧
      (regs r < 2 ^ 32 → Shows 32 row (regs r)) := by
  refine ⟨_, regTable_getElem? regs r hr, nBitRepr_shows_nat 32 (by decide) _, fun h => ?_⟩
  exact nBitRepr_shows_lt 32 (by decide) _ h

-- non-vacuity: a register file with x1 = 5, x2 = 2^32 - 1 (i.e. -1), everything else 0
example : (regTable (fun r => if r = 1 then 5 else if r = 2 then 4294967295 else 0))[2]?
    = some ⟨"11111111 11111111 11111111 11111111", "4294967295", "FF FF FF FF", "-1"⟩ := by decide +kernel
example : (regTable (fun r => if r = 1 then 5 else if r = 2 then 4294967295 else 0))[1]?
    = some ⟨"00000000 00000000 00000000 00000101", "5", "00 00 00 05", "5"⟩ := by decide +kernel

/-! ## RISC-V data-memory table -/

/-- The addresses of the data-memory table are strictly ascending (in particular no address is
listed twice), and there are exactly as many rows as the backing store has distinct aligned keys. -/
theorem dataTable_ascending (m : Mem) (rows : List DataRow) (h : dataTable m = .ok rows) :
    (rows.map (·.addr)).Pairwise (· < ·) ∧ (rows.map (·.addr)).Perm (reprKeys m 32) := by
  obtain ⟨l, hl, rfl⟩ := dataTable_ok h
  rw [map_addr_dataRow]
  exact ⟨sortedEntries_lt hl, sortedEntries_perm hl⟩

/-- Which addresses are listed: `a` occurs in the table iff `a` is a multiple of the number `k` of
cells per word (`k = 32 / cellBits`, 4 for byte cells) and one of the cells `a, …, a+k-1` is a key of
the backing store, i.e. has been written.  Any memory, any configuration with at most 32-bit cells. -/
theorem dataTable_addresses (m : Mem) (rows : List DataRow) (h : dataTable m = .ok rows)
    (hk : 0 < cellsOf m.cfg 32) (a : Int) :
    a ∈ rows.map (·.addr) ↔
      a % (cellsOf m.cfg 32 : Int) = 0 ∧ ∃ i : Nat, i < cellsOf m.cfg 32 ∧ a + (i : Int) ∈ m.keys := by
  obtain ⟨l, hl, rfl⟩ := dataTable_ok h
  rw [map_addr_dataRow, sortedEntries_mem_fst hl, reprKeys_aligned_iff m 32 hk]

/-- `dataTable_addresses` for byte cells (the RISC-V data memory): `a` is listed iff `a` is
word-aligned and at least one of the bytes `a, a+1, a+2, a+3` has been written. -/
theorem dataTable_addresses_bytes (m : Mem) (rows : List DataRow) (h : dataTable m = .ok rows)
    (hc : m.cfg.cellBits = 8) (a : Int) :
    a ∈ rows.map (·.addr) ↔ a % 4 = 0 ∧ ∃ i : Nat, i < 4 ∧ a + (i : Int) ∈ m.keys := by
  have hk : cellsOf m.cfg 32 = 4 := by simp [cellsOf, hc]
  have := dataTable_addresses m rows h (by omega) a
  rwa [hk] at this

/-- `dataTable_ascending` and `dataTable_addresses` determine the address column completely: it is
THE strictly ascending list of the word-aligned addresses whose word contains a written cell — any
strictly ascending list with exactly these members is equal to it. -/
theorem dataTable_addresses_determined (m : Mem) (rows : List DataRow) (h : dataTable m = .ok rows)
    (hk : 0 < cellsOf m.cfg 32) (L : List Int) (hL : L.Pairwise (· < ·))
    (hmem : ∀ a, a ∈ L ↔
      a % (cellsOf m.cfg 32 : Int) = 0 ∧ ∃ i : Nat, i < cellsOf m.cfg 32 ∧ a + (i : Int) ∈ m.keys) :
    rows.map (·.addr) = L :=
  eq_of_sorted_of_mem_iff _ _ (dataTable_ascending m rows h).1 hL
    (fun a => (dataTable_addresses m rows h hk a).trans (hmem a).symm)

/-- What a row shows: the word the accessor `read_word` returns at the row's address NOW
(`Mem.read m 32 addr = some (ok w)`), in all four strings at width 32; and the address text is `0x`
followed by the upper-case hex digits of the address, exactly 8 of them for addresses below `2^32`. -/
theorem dataTable_row (m : Mem) (rows : List DataRow) (h : dataTable m = .ok rows)
    (hb : m.cfg.cellBits ≤ 32) (row : DataRow) (hrow : row ∈ rows) :
    ∃ w, Mem.read m 32 row.addr = some (.ok w) ∧ Shows 32 row.reprs w ∧
      ShowsAddr 8 row.addrText row.addr.toNat := by
  obtain ⟨l, hl, rfl⟩ := dataTable_ok h
  obtain ⟨p, hp, rfl⟩ := List.mem_map.mp hrow
  obtain ⟨hr, hlt⟩ := sortedEntries_read hl hb p hp
  exact ⟨p.2, hr, nBitRepr_shows_lt 32 (by decide) p.2 hlt, addrText_shows 8 (by decide) p.1⟩

/-- When the table fails: exactly when the word read at one of its (aligned) keys fails, and then
with the address error of such a read (`C18.range_error` says which address that error carries). -/
theorem dataTable_error (m : Mem) :
    (∀ e, dataTable m = .error e →
      ∃ a, a ∈ reprKeys m 32 ∧ readN m a (cellsOf m.cfg 32) = .error e) ∧
    ((∃ e, dataTable m = .error e) ↔
      ∃ a, a ∈ reprKeys m 32 ∧ ∃ e, readN m a (cellsOf m.cfg 32) = .error e) := by
  refine ⟨fun e he => sortedEntries_error ((dataTable_error_iff m e).mp he), ?_, ?_⟩
  · rintro ⟨e, he⟩
    obtain ⟨a, ha, hr⟩ := sortedEntries_error ((dataTable_error_iff m e).mp he)
    exact ⟨a, ha, e, hr⟩
  · rintro ⟨a, ha, e, hr⟩
    cases hs : sortedEntries m 32 with
    | error e' => exact ⟨e', (dataTable_error_iff m e').mpr hs⟩
    | ok l =>
      obtain ⟨p, hp, hpa⟩ := List.mem_map.mp ((sortedEntries_mem_fst hs a).mpr ha)
      obtain ⟨v, hv, _⟩ := sortedEntries_val hs p hp
      rw [hpa, hr] at hv; cases hv

/-- The RISC-V data memory (configuration `riscvCfg`, well-formed as every memory reached by writes
is — `C18.wf_preserved`, `C01.invariant_preserved`): the table never fails; every listed address is a
word-aligned data address in `[16384, 2^32)`; the row shows, at width 32, the little-endian
composition of the four bytes stored NOW at `a, a+1, a+2, a+3` (0 for bytes never written); and the
address text is `0x` followed by exactly 8 upper-case hex digits denoting `a`. -/
theorem dataTable_riscv (m : Mem) (hc : m.cfg = riscvCfg) (hwf : WF m) :
    ∃ rows, dataTable m = .ok rows ∧ ∀ row ∈ rows,
      16384 ≤ row.addr ∧ row.addr < 4294967296 ∧ row.addr % 4 = 0 ∧
      Shows 32 row.reprs (m.cells row.addr + m.cells (row.addr + 1) * 256
        + m.cells (row.addr + 2) * 65536 + m.cells (row.addr + 3) * 16777216) ∧
      ∃ ds, row.addrText.toList = '0' :: 'x' :: ds ∧ ds.length = 8 ∧
        (∀ c ∈ ds, isUpperHexDigit c) ∧ (ofDigits 16 ds).map Int.ofNat = some row.addr := by
  obtain ⟨l, hl, hall⟩ := riscv_sortedEntries m hc hwf
  refine ⟨_, dataTable_of_ok hl, fun row hrow => ?_⟩
  obtain ⟨p, hp, rfl⟩ := List.mem_map.mp hrow
  obtain ⟨h1, h2, h3, hlt, hb⟩ := hall p hp
  refine ⟨h1, h2, h3, ?_, addrText_digits 8 (by decide) p.1 (by omega) (by omega)⟩
  show Shows 32 (dataRow p).reprs (m.cells p.1 + m.cells (p.1 + 1) * 256
    + m.cells (p.1 + 2) * 65536 + m.cells (p.1 + 3) * 16777216)
  rw [← hb]; exact nBitRepr_shows_lt 32 (by decide) p.2 hlt

-- non-vacuity: three bytes in two words, written in DESCENDING address order (16394, 16393, 16385);
-- the table comes out ascending, one row per word
example : exMem.cfg = riscvCfg ∧ WF exMem ∧ exMem.keys = [16394, 16393, 16385] :=
  ⟨rfl, exMem_wf, exMem_keys⟩
example : dataTable exMem = .ok
    [⟨16384, "0x00004000", ⟨"00000000 00000000 10000000 00000000", "32768", "00 00 80 00", "32768"⟩⟩,
     ⟨16392, "0x00004008",
       ⟨"00000000 10101011 01111111 00000000", "11239168", "00 AB 7F 00", "11239168"⟩⟩] := by
  rw [dataTable_of_ok (sortedEntries_of_ok exMem_entries), exMem_sorted]
  exact congrArg Except.ok (by decide +kernel)
-- the hypotheses of `dataTable_addresses` / `dataTable_row`
example : 0 < cellsOf exMem.cfg 32 ∧ exMem.cfg.cellBits ≤ 32 ∧ exMem.cfg.cellBits = 8 := by decide

-- the hypotheses of `dataTable_addresses_determined` with `L = [16384, 16392]`
example : ∀ a : Int, a ∈ [(16384 : Int), 16392] ↔
    a % (cellsOf exMem.cfg 32 : Int) = 0 ∧
      ∃ i : Nat, i < cellsOf exMem.cfg 32 ∧ a + (i : Int) ∈ exMem.keys := by
  intro a
  rw [exMem_keys, show cellsOf exMem.cfg 32 = 4 from rfl]
  simp only [List.mem_cons, List.not_mem_nil, or_false]
  constructor
  · rintro (rfl | rfl) <;> exact ⟨by decide, 1, by decide, by decide⟩
  · rintro ⟨h4, i, hi, hm⟩; omega

/-- LIMIT of the address text (not reachable for the two real memories, whose keys are never
negative): the model prints `addr.toNat`, so a negative address would be shown as `0x00000000`,
whereas Python's `"{:08X}".format(-4)` is `"-0000004"`.  `ShowsAddr` above is therefore stated for
`addr.toNat`, and `dataTable_riscv` / `toyMemTable_wf` prove `0 ≤ addr`. -/
theorem addrText_negative : addrText 8 (-4) = "0x00000000" := by decide +kernel

/-! ## TOY register view -/

/-- The TOY register view: accumulator (16 bit) and program counter (12 bit) are given exactly when a
program is loaded (`max_pc ≥ 0`), the instruction register (16 bit, the encoding of the loaded
instruction) exactly when an instruction is loaded; otherwise the entry is empty (`none`, Python's
tuple of four empty strings). -/
theorem toyRegs_rows (t : TSim) :
    (hasInstructions t = true ↔ ∃ mp, t.s.maxPc = some mp ∧ 0 ≤ mp) ∧
    (hasInstructions t = true → (toyRegs t).accu = some (nBitRepr t.s.accu 16) ∧
      (toyRegs t).pc = some (nBitRepr t.s.pc 12)) ∧
    (hasInstructions t = false → (toyRegs t).accu = none ∧ (toyRegs t).pc = none) ∧
    (∀ i, t.s.loaded = some i → (toyRegs t).ir = some (nBitRepr (encode i) 16)) ∧
    (t.s.loaded = none → (toyRegs t).ir = none) := by
  refine ⟨?_, fun h => ?_, fun h => ?_, fun i h => ?_, fun h => ?_⟩
  · cases hm : t.s.maxPc <;> simp [hasInstructions, hm]
  all_goals simp [toyRegs, h]

/-- What is displayed: with a program loaded the accumulator entry shows the accumulator at width 16
and the program-counter entry shows the program counter at width 12 (the values themselves, as they
are below `2^16` / `2^12` in every reachable state; in general their 16 / 12-bit patterns); the
instruction-register entry shows the 16-bit encoding `opcode * 4096 + address` of the loaded
instruction. -/
theorem toyRegs_shows (t : TSim) :
    (hasInstructions t = true →
      ∃ ra rp, (toyRegs t).accu = some ra ∧ Shows 16 ra (t.s.accu % 65536) ∧
               (toyRegs t).pc = some rp ∧ Shows 12 rp (t.s.pc % 4096)) ∧
    (∀ i, t.s.loaded = some i →
      ∃ r, (toyRegs t).ir = some r ∧ Shows 16 r ((i.opcode * 4096 + i.addr) % 65536)) := by
  obtain ⟨_, h1, _, h3, _⟩ := toyRegs_rows t
  refine ⟨fun h => ?_, fun i hi => ?_⟩
  · exact ⟨_, _, (h1 h).1, nBitRepr_shows_nat 16 (by decide) _, (h1 h).2,
      nBitRepr_shows_nat 12 (by decide) _⟩
  · exact ⟨_, h3 i hi, nBitRepr_shows_nat 16 (by decide) _⟩

-- non-vacuity: the state after loading `LDA 5; ADD 6; STO 7` and running the first cycle
example : toyRegs exToy =
    { accu := some ⟨"00000000 00000001", "1", "00 01", "1"⟩
      pc := some ⟨"0000 00000001", "1", "0 01", "1"⟩
      ir := some ⟨"00010000 00000101", "4101", "10 05", "4101"⟩ } := by decide +kernel
example : toyRegs {} = { accu := none, pc := none, ir := none } := by decide +kernel

/-! ## TOY memory table -/

/-- The addresses of the TOY memory table are strictly ascending, one row per table key. -/
theorem toyMemTable_ascending (t : TSim) (rows : List ToyRow) (h : toyMemTable t = .ok rows) :
    (rows.map (·.addr)).Pairwise (· < ·) ∧ (rows.map (·.addr)).Perm (reprKeys t.s.mem 16) := by
  obtain ⟨l, hl, rfl⟩ := toyMemTable_ok h
  rw [map_addr_toyRow]
  exact ⟨sortedEntries_lt hl, sortedEntries_perm hl⟩

/-- Which addresses are listed (TOY memory: one 16-bit cell per word): exactly the addresses that
have been written (by the loader or by `STO`). -/
theorem toyMemTable_addresses (t : TSim) (rows : List ToyRow) (h : toyMemTable t = .ok rows)
    (hc : t.s.mem.cfg = toyCfg) (a : Int) :
    a ∈ rows.map (·.addr) ↔ a ∈ t.s.mem.keys := by
  obtain ⟨l, hl, rfl⟩ := toyMemTable_ok h
  rw [map_addr_toyRow, sortedEntries_mem_fst hl, toy_reprKeys_ok _ hc]

/-- What a row shows: the word the accessor `read_halfword` returns at the row's address NOW, in all
four strings at width 16; the address text is `0x` and the hex digits of the address, exactly 3 for
addresses below `4096 = 16^3`. -/
theorem toyMemTable_row (t : TSim) (rows : List ToyRow) (h : toyMemTable t = .ok rows)
    (hb : t.s.mem.cfg.cellBits ≤ 16) (row : ToyRow) (hrow : row ∈ rows) :
    ∃ w, Mem.read t.s.mem 16 row.addr = some (.ok w) ∧ Shows 16 row.reprs w ∧
      ShowsAddr 3 row.addrText row.addr.toNat := by
  obtain ⟨l, hl, rfl⟩ := toyMemTable_ok h
  obtain ⟨p, hp, rfl⟩ := List.mem_map.mp hrow
  obtain ⟨hr, hlt⟩ := sortedEntries_read hl hb p hp
  exact ⟨p.2, hr, nBitRepr_shows_lt 16 (by decide) p.2 hlt, addrText_shows 3 (by decide) p.1⟩

/-- The instruction column: for a row at an address `≤ max_pc` it is the text of the instruction the
row's word `w` decodes to — the mnemonic, followed by `" 0x"` and exactly three upper-case hex digits
denoting the 12-bit address section for the opcodes 0–7 (`STO … XOR`), the bare mnemonic otherwise —
and this is never the placeholder; for every other row (address `> max_pc`, or no program) it is the
placeholder `"-"`. -/
theorem toyMemTable_instr (t : TSim) (rows : List ToyRow) (h : toyMemTable t = .ok rows)
    (hb : t.s.mem.cfg.cellBits ≤ 16) (row : ToyRow) (hrow : row ∈ rows) :
    ∃ w, Mem.read t.s.mem 16 row.addr = some (.ok w) ∧
      ((∃ mp, t.s.maxPc = some mp ∧ row.addr ≤ mp) →
        row.instr = (if (decode w).opcode ≤ 7
          then mnemonic (decode w).opcode ++ " 0x" ++ upHex 3 (decode w).addr
          else mnemonic (decode w).opcode) ∧
        row.instr ≠ "-" ∧
        ofDigits 16 (upHex 3 (decode w).addr).toList = some (w % 4096) ∧
        (upHex 3 (decode w).addr).toList.length = 3) ∧
      ((¬ ∃ mp, t.s.maxPc = some mp ∧ row.addr ≤ mp) → row.instr = "-") := by
  obtain ⟨l, hl, rfl⟩ := toyMemTable_ok h
  obtain ⟨p, hp, rfl⟩ := List.mem_map.mp hrow
  obtain ⟨hr, _⟩ := sortedEntries_read hl hb p hp
  refine ⟨p.2, hr, ?_⟩
  simp only [toyRow, instrText, ← isInstrAddr_iff]
  cases isInstrAddr t p.1
  · simp
  · exact ⟨fun _ => ⟨toyInstrRepr_eq p.2, toyInstrRepr_ne_dash _, (upHex_spec 3 _).1,
      (upHex_spec 3 _).2.2 (by decide) (toyDecode_bounds p.2).2⟩, fun h => absurd rfl h⟩

/-- The cycle column: a row carries a mark exactly when its address is the address of the current
instruction; the mark is `"1"` when the next cycle to run is the second one, else `"2"`; and at most
one row of the table carries a mark. -/
theorem toyMemTable_mark (t : TSim) (rows : List ToyRow) (h : toyMemTable t = .ok rows) :
    (∀ row ∈ rows,
      (row.mark ≠ "" ↔ 0 ≤ row.addr ∧ t.s.addrCur = some row.addr.toNat) ∧
      (row.mark ≠ "" → row.mark = if t.nextCycle = 2 then "1" else "2")) ∧
    (∀ r₁ ∈ rows, ∀ r₂ ∈ rows, r₁.mark ≠ "" → r₂.mark ≠ "" → r₁ = r₂) := by
  have hasc := (toyMemTable_ascending t rows h).1
  obtain ⟨l, hl, rfl⟩ := toyMemTable_ok h
  have key : ∀ row ∈ l.map (toyRow t),
      (row.mark ≠ "" ↔ 0 ≤ row.addr ∧ t.s.addrCur = some row.addr.toNat) ∧
      (row.mark ≠ "" → row.mark = if t.nextCycle = 2 then "1" else "2") := by
    intro row hrow
    obtain ⟨p, _, rfl⟩ := List.mem_map.mp hrow
    simp only [toyRow, ← isCurrent_iff]
    cases isCurrent t p.1
    · simp
    · simpa [cycleText] using cycleText_ne_empty t
  refine ⟨key, fun r₁ h₁ r₂ h₂ m₁ m₂ => ?_⟩
  obtain ⟨n₁, c₁⟩ := ((key r₁ h₁).1).mp m₁
  obtain ⟨n₂, c₂⟩ := ((key r₂ h₂).1).mp m₂
  apply eq_of_key_eq (·.addr) _ hasc r₁ r₂ h₁ h₂
  have : r₁.addr.toNat = r₂.addr.toNat := Option.some.inj (c₁.symm.trans c₂)
  show r₁.addr = r₂.addr
  omega

/-- The TOY memory of every reachable state (configuration `toyCfg`, well-formed — see
`toy_memory_invariant`): the table never fails; the listed addresses are exactly the written ones, all
in `[0, 4096)`; the row at `a` shows, at width 16, the word stored NOW in cell `a`; and the address
text is `0x` followed by exactly 3 upper-case hex digits denoting `a`. -/
theorem toyMemTable_wf (t : TSim) (hc : t.s.mem.cfg = toyCfg) (hwf : WF t.s.mem) :
    ∃ rows, toyMemTable t = .ok rows ∧ ∀ row ∈ rows,
      row.addr ∈ t.s.mem.keys ∧ 0 ≤ row.addr ∧ row.addr < 4096 ∧
      Shows 16 row.reprs (t.s.mem.cells row.addr) ∧
      ∃ ds, row.addrText.toList = '0' :: 'x' :: ds ∧ ds.length = 3 ∧
        (∀ c ∈ ds, isUpperHexDigit c) ∧ (ofDigits 16 ds).map Int.ofNat = some row.addr := by
  obtain ⟨l, hl, hall⟩ := toy_sortedEntries t.s.mem hc hwf
  refine ⟨_, toyMemTable_of_ok hl, fun row hrow => ?_⟩
  obtain ⟨p, hp, rfl⟩ := List.mem_map.mp hrow
  obtain ⟨hk, h0, h1, hlt, hv⟩ := hall p hp
  refine ⟨hk, h0, h1, ?_, addrText_digits 3 (by decide) p.1 h0 (by omega)⟩
  show Shows 16 (toyRow t p).reprs (t.s.mem.cells p.1)
  rw [← hv]; exact nBitRepr_shows_lt 16 (by decide) p.2 hlt

-- non-vacuity: data words at 6 and 5 written first (descending), then `LDA 5; ADD 6; STO 7` at 0..2,
-- first cycle of the first instruction executed: rows ascending, instruction text exactly on the rows
-- 0..2 = max_pc, the cycle mark "1" on row 0 only
example : exToy.s.mem.keys = [6, 5, 0, 1, 2] ∧ exToy.s.maxPc = some 2 ∧ exToy.s.addrCur = some 0 ∧
    exToy.nextCycle = 2 := ⟨exToy_keys, exToy_state.1, exToy_state.2.1, exToy_state.2.2.1⟩
example : toyMemTable exToy = .ok
    [⟨0, "0x000", ⟨"00010000 00000101", "4101", "10 05", "4101"⟩, "LDA 0x005", "1"⟩,
     ⟨1, "0x001", ⟨"00110000 00000110", "12294", "30 06", "12294"⟩, "ADD 0x006", ""⟩,
     ⟨2, "0x002", ⟨"00000000 00000111", "7", "00 07", "7"⟩, "STO 0x007", ""⟩,
     ⟨5, "0x005", ⟨"00000000 00000001", "1", "00 01", "1"⟩, "-", ""⟩,
     ⟨6, "0x006", ⟨"11111111 11111111", "65535", "FF FF", "-1"⟩, "-", ""⟩] := by
  rw [toyMemTable_of_ok (sortedEntries_of_ok exToy_entries), exToy_sorted]
  exact congrArg Except.ok (by decide +kernel)
example : exToy.s.mem.cfg = toyCfg ∧ WF exToy.s.mem :=
  MemWF_call _ .first (MemWF_loadImage _ _ _)

/-! ## Where the hypotheses hold: every reachable TOY state; RISC-V single-stage runs without caches -/

/-- TOY: the memory of a freshly loaded program image has the TOY configuration and is well-formed,
and every call of the stepping API (first cycle, second cycle, step, single step) and `run` keep it
so.  Hence `toyMemTable_wf` applies to every state reached by an arbitrary program. -/
theorem toy_memory_invariant :
    (∀ (t : TSim) instrs data,
      (loadImage t instrs data).s.mem.cfg = toyCfg ∧ WF (loadImage t instrs data).s.mem) ∧
    (∀ (t : TSim) c, (t.s.mem.cfg = toyCfg ∧ WF t.s.mem) →
      ((call t c).t.s.mem.cfg = toyCfg ∧ WF (call t c).t.s.mem)) ∧
    (∀ n (t : TSim), (t.s.mem.cfg = toyCfg ∧ WF t.s.mem) →
      ((Toy.run n t).s.mem.cfg = toyCfg ∧ WF (Toy.run n t).s.mem)) :=
  ⟨MemWF_loadImage, fun t c h => MemWF_call t c h, fun n t h => MemWF_run n t h⟩

/-- RISC-V: in every state satisfying the invariant `StOK` of the single-cycle simulation (flat byte
memory, i.e. no data cache, 32-bit register values; kept by a load and by every single-cycle step of a
program without CSR instructions, `fence`, `ebreak` on a simulation without instruction cache,
`C01.invariant_preserved`; no theorem keeps it along five-stage steps) the register table shows exactly the
register values and the data-memory table exists with the properties of `dataTable_riscv`. -/
theorem riscv_tables_reachable (s : Rv.St) (hs : ArchSim.Lemmas.C01.StOK s) :
    (∀ r, r < 32 → ∃ row, (regTable s.regs)[r]? = some row ∧ Shows 32 row (s.regs r)) ∧
    ∃ rows, dataTable s.mem.backing = .ok rows ∧
      (rows.map (·.addr)).Pairwise (· < ·) ∧
      (∀ a, a ∈ rows.map (·.addr) ↔ a % 4 = 0 ∧ ∃ i : Nat, i < 4 ∧ a + (i : Int) ∈ s.mem.backing.keys) ∧
      ∀ row ∈ rows, Shows 32 row.reprs (s.mem.backing.cells row.addr
        + s.mem.backing.cells (row.addr + 1) * 256 + s.mem.backing.cells (row.addr + 2) * 65536
        + s.mem.backing.cells (row.addr + 3) * 16777216) := by
  obtain ⟨m, hm, hc, hwf⟩ := hs.flat
  have hb : s.mem.backing = m := by rw [hm]; rfl
  rw [hb]
  refine ⟨fun r hr => ?_, ?_⟩
  · obtain ⟨row, h1, _, h3⟩ := regTable_shows s.regs r hr
    exact ⟨row, h1, h3 (hs.regs_lt r)⟩
  · obtain ⟨rows, hrows, hall⟩ := dataTable_riscv m hc hwf
    refine ⟨rows, hrows, (dataTable_ascending m rows hrows).1, fun a => ?_, fun row hrow => ?_⟩
    · exact dataTable_addresses_bytes m rows hrows (by rw [hc]; rfl) a
    · exact (hall row hrow).2.2.2.1

end ArchSim.Props.C17Views
