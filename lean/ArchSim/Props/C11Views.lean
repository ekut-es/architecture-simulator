/-
C11, the REPORTED statistics and the table of the instruction cache — `RiscvSimulation.get_instruction_cache_stats()` as
modelled by `SimViews.instrStats` (`Model/SimViews.lean`; the driver renders it and the check compares it with the real
getter) and `get_instruction_cache_entries()` as modelled by `CacheViews.instrCacheTable` (`Model/CacheViews.lean`).

The strings the statistics getter reports denote the counters of the instruction cache; composed with
`C11.fetch_run_accounting`: after any sequence of fetches on a freshly reset cache the reported access count reads back
as the number of fetches and the reported hit count as the hit count of the reference cache; after a reset (program
load) zero accesses and zero hits are reported; without an instruction cache nothing is reported.  The highlighted
address is the address of the instruction in the first pipeline register.  The table shows for every valid way the
instructions of the block it names, and blank cells after a reset.
`Reports` is that of `Props/C09Views.lean`; helper lemmas are in `Lemmas/SimViews.lean` and `Lemmas/CacheViews.lean`.
-/
import ArchSim.Lemmas.SimViews
import ArchSim.Lemmas.CacheViews
import ArchSim.Props.C11
import ArchSim.Props.C09Views

namespace ArchSim.Props.C11Views
open ArchSim ArchSim.Cache ArchSim.Rv ArchSim.Repl ArchSim.SimViews ArchSim.Spec.Digits ArchSim.Spec.TagCache
open ArchSim.Lemmas.SimViews ArchSim.Lemmas.C09 ArchSim.Lemmas.C11 ArchSim.Props.C09Views

/-- Without an instruction cache the getter returns `None`; with one it reports exactly its three counters. -/
theorem instrStats_reports (im : IMem) (fetched : Option Int) :
    (im.cache = none → instrStats im fetched = none) ∧
    (∀ c, im.cache = some c → ∃ st, instrStats im fetched = some st ∧ Reports st c.hits c.accesses c.lastHit) := by
  refine ⟨instrStats_none im fetched, fun c h => ?_⟩
  exact ⟨_, instrStats_some im c fetched h, dec_spec c.hits, dec_spec c.accesses, rfl⟩

/-- Reported = number of fetches / reference.  On a program loaded into a simulation with an instruction cache (the
    cache freshly reset), after any sequence of fetch addresses the reported access count denotes the number of fetches
    performed and the reported hit count and flag those of the reference cache run on the same addresses. -/
theorem reported_fetch_accounting (prog : List Instr) (isLru : Bool) (g : Geo) (penalty : Nat)
    (ha : AssocOK isLru g.assoc) (pcs : List Int) (fetched : Option Int) :
    let im : IMem := { prog := prog, cache := some (ICache.init isLru g penalty) }
    let ref := refRun (polOps isLru) (TagCache.init (polOps isLru) false g penalty) (fetchOps pcs)
    ∃ st, instrStats (fetchRun im pcs).1 fetched = some st ∧ Reports st ref.1.hits pcs.length ref.1.lastHit := by
  intro im ref
  obtain ⟨c', hc, h1, h2, h3, _⟩ := C11.fetch_run_accounting prog isLru g penalty ha pcs
  obtain ⟨st, hst, r1, r2, r3⟩ := (instrStats_reports (fetchRun im pcs).1 fetched).2 c' hc
  refine ⟨st, hst, ?_, ?_, ?_⟩
  · show ofDigits 10 st.hits.toList = some ref.1.hits
    rw [r1, h2]
  · rw [r2, h1]
  · rw [r3, h3]

/-- After a reset (every `load_program`) the getter reports zero hits, zero accesses and no hit. -/
theorem reported_after_reset (prog : List Instr) (c : ICache) (fetched : Option Int) :
    ∃ st, instrStats { prog := prog, cache := some (ICache.reset c) } fetched = some st ∧ Reports st 0 0 false :=
  ⟨_, rfl, dec_spec 0, dec_spec 0, rfl⟩

/-- The highlighted fetch address: in five-stage mode the address of the instruction in the IF/ID register (none for a
    bubble), shown as 32 binary digits that read back as the address modulo 2^32. -/
theorem five_stage_fetch_highlight (p : Pipe.PSt) (c : ICache) (hc : p.st.imem.cache = some c) :
    ∃ st, fiveInstrStats p = some st ∧
      (p.l0 = none → st.address = none) ∧
      ∀ x, p.l0 = some x → ∃ t, st.address = some t ∧
        ofDigits 2 t.toList = some (x.addr % 4294967296).toNat ∧ t.toList.length = 32 := by
  refine ⟨_, instrStats_some p.st.imem c _ hc, fun h => by simp [Stats.ofCounters, h], fun x h => ?_⟩
  exact ⟨bin32 x.addr, by simp [Stats.ofCounters, h], bin32_spec x.addr⟩

/-- The instruction-cache TABLE is current (`get_instruction_cache_entries()`, model `CacheViews.instrCacheTable`): under
    the cache invariant (which holds after any sequence of fetches, `C11.fetch_preserves_inv`), cell `j` of every valid
    way shows the address `base + 4j` and the printed form of the instruction the instruction memory holds THERE (the
    empty string behind the end of the program) — never an instruction of an earlier program.  The link from the
    table to `blockRow`: with `im.cache = some c`, `instrCacheTable im = some (cacheTable c.geo showInstr c.sets)` by
    definition, and `Props.C12Views.table_shape` (generic in the payload) gives the blocks of row `k` as
    `cs.ways.map (blockRow c.geo showInstr)`. -/
theorem icache_table_current {im : IMem} {c : ICache} (hinv : IInv im c) {k : Nat}
    {cs : CSet Pol (Option Instr)} {w : Way (Option Instr)} (hk : c.sets[k]? = some cs) (hw : w ∈ cs.ways)
    (hv : w.valid = true) (j : Nat) (hj : j < 2 ^ c.geo.blkBits) :
    (CacheViews.blockRow c.geo CacheViews.showInstr w).cells[j]? =
      some (CacheViews.toHexStr (w.base + j * 4) 32,
            CacheViews.showInstr (im.instrAt ((w.base : Int) + 4 * (j : Int)))) := by
  obtain ⟨_, hvals⟩ := (hinv.sets k cs hk).ways w hw hv
  rw [ArchSim.Lemmas.CacheViews.blockRow_valid c.geo CacheViews.showInstr w hv]
  have hget := iBlockFromMem_get im w.base c.geo.words 0 j (by simpa [Geo.words] using hj)
  simp only [List.getElem?_mapIdx, hvals, hget, Option.map_some]
  simp

/-- After a reset (every `load_program`, successful or not) every way of the table is blank. -/
theorem icache_table_blank_after_reset (c : ICache) (cs : CSet Pol (Option Instr)) (hcs : cs ∈ (ICache.reset c).sets)
    (w : Way (Option Instr)) (hw : w ∈ cs.ways) :
    (CacheViews.blockRow c.geo CacheViews.showInstr w).valid = "0" ∧
    (CacheViews.blockRow c.geo CacheViews.showInstr w).cells = List.replicate (2 ^ c.geo.blkBits) ("", "") := by
  have hv : w.valid = false := by
    have := (C11.reset_clears c).1 cs hcs w hw
    simpa using this
  rw [ArchSim.Lemmas.CacheViews.blockRow_invalid c.geo CacheViews.showInstr w hv]
  exact ⟨rfl, rfl⟩

/-! ### non-vacuity -/

example : AssocOK true 2 := ⟨by decide, fun h => by cases h⟩

end ArchSim.Props.C11Views
