/-
C09 (program-level clause), end to end: for EVERY source text the assembler accepts (without CSR instructions,
`fence`, `ebreak`) and every admissible data-cache configuration, the data-cache counters of the loaded program
are identical in single-cycle and five-stage mode and count each executed load or store exactly once.  What remains
as hypotheses: the text loads without error into a `StOK` state without instruction cache, its program is in the
supported set, the cache geometry is admissible (`GeoOK`, `AssocOK`), and the hypotheses about the RUN (first
theorem: the five-stage loop stops fault-free; second: `SingleOK`, the single-cycle steps do not fault).

`withCache` is defined in `Lemmas/E2ECacheInit.lean`.
`sc` = the state after loading `text` into `withCache s l wt g penalty` (`s` with a freshly built data cache);
`dAcc`, `dHits`, `dLastHit`, `SingleOK`, `memOps`, `singleRun` (= `Lemmas.C11.singleRun`) as in `Props/C09Prog.lean`.
-/
import ArchSim.Props.C09Prog
import ArchSim.Props.C04Asm

namespace ArchSim.Props.C09Asm
open ArchSim ArchSim.Rv ArchSim.Asm ArchSim.Cache ArchSim.Pipe ArchSim.Lemmas.E2E ArchSim.Lemmas.C09Prog
open ArchSim.Lemmas.C11Prog

/-- Load ANY source text into `s` (satisfying `StOK`, no instruction cache, not exited; e.g.
    the power-on state) equipped with a freshly built data cache of any admissible configuration. If the assembler
    accepts the text, the program has no CSR / fence / ebreak, and the five-stage loop stops after `n` cycles
    without a fault, then single-cycle mode from the same loaded state runs `k ≤ n` fault-free steps, is done
    exactly then, and ends with the SAME data memory system: same hit counter, access counter, last-hit flag. -/
theorem assembled_dcache_counters_equal_modes (s : St) (hs : ArchSim.Lemmas.C01.StOK s)
    (hic : s.imem.cache = none) (hx : s.exitCode = none) (l wt : Bool) (g : Geo)
    (hg : Spec.CacheAbs.GeoOK g) (ha : ArchSim.Lemmas.C09.AssocOK l g.assoc) (penalty : Nat) (text : String)
    (sc : St) (hsc : sc = (load (withCache s l wt g penalty) text).st)
    (h : (load s text).err = none) (hsup : AllSupported (load s text).st.imem.prog)
    (n : Nat) (hr : runOK n (PSt.init sc true)) (hd : isDone (pipeRun n (PSt.init sc true)) = true)
    (hprev : ∀ m, m < n → isDone (pipeRun m (PSt.init sc true)) = false) :
    ∃ k, k ≤ n ∧ SingleOK k sc ∧ singleDone (ArchSim.Lemmas.C11.singleRun k sc) = true ∧
      (∀ j, j < k → singleDone (ArchSim.Lemmas.C11.singleRun j sc) = false) ∧
      (pipeRun n (PSt.init sc true)).st.mem = (ArchSim.Lemmas.C11.singleRun k sc).mem ∧
      dHits (pipeRun n (PSt.init sc true)).st.mem = dHits (ArchSim.Lemmas.C11.singleRun k sc).mem ∧
      dAcc (pipeRun n (PSt.init sc true)).st.mem = dAcc (ArchSim.Lemmas.C11.singleRun k sc).mem ∧
      dLastHit (pipeRun n (PSt.init sc true)).st.mem = dLastHit (ArchSim.Lemmas.C11.singleRun k sc).mem ∧
      SimP (pipeRun n (PSt.init sc true)).st (ArchSim.Lemmas.C11.singleRun k sc) := by
  have hH : StepHyp sc := by rw [hsc]; exact load_stepHyp s hs hic l wt g hg ha penalty text hsup
  have hx' : sc.exitCode = none := by rw [hsc, load_exitCode]; exact hx
  exact ArchSim.Props.C09Prog.dcache_counters_equal_modes _ hH hx' n hr hd hprev

/-- Each load / store is counted once. Same setting. Single-cycle mode: after `n` fault-free
    steps of the loaded program the access counter has grown by exactly the number of loads and stores among the
    instructions executed — starting from 0, since a freshly built cache has no accesses and `load` does not
    count its direct `.data` writes. -/
theorem assembled_accesses_count_memops (s : St) (hs : ArchSim.Lemmas.C01.StOK s)
    (hic : s.imem.cache = none) (l wt : Bool) (g : Geo)
    (hg : Spec.CacheAbs.GeoOK g) (ha : ArchSim.Lemmas.C09.AssocOK l g.assoc) (penalty : Nat) (text : String)
    (sc : St) (hsc : sc = (load (withCache s l wt g penalty) text).st)
    (h : (load s text).err = none) (hsup : AllSupported (load s text).st.imem.prog)
    (n : Nat) (hok : SingleOK n sc) :
    dAcc sc.mem = 0 ∧ dAcc (ArchSim.Lemmas.C11.singleRun n sc).mem = memOps n sc := by
  have hH : StepHyp sc := by rw [hsc]; exact load_stepHyp s hs hic l wt g hg ha penalty text hsup
  -- the reset keeps the counters, and those of the freshly built cache are 0
  have h0 : dAcc sc.mem = 0 := by rw [hsc, (ArchSim.Lemmas.E2E2.load_counters _ text).1]; rfl
  refine ⟨h0, ?_⟩
  rw [ArchSim.Props.C09Prog.accesses_count_memops _ hH n hok, h0, Nat.zero_add]

/-! ### non-vacuity (the example text `asmText` of `Lemmas/E2EEx.lean`: a `.data` variable, the pseudo-instruction
`li`, a branch to an in-line label; cache: one set, one way, one word, write-back LRU, penalty 10) -/

section
open ArchSim.Lemmas.E2E.Ex ArchSim.Lemmas.C03Prog.Ex

/-- Hypotheses of `assembled_dcache_counters_equal_modes` for the example text loaded into the power-on state with
    the cache: admissible configuration, the text loads, supported program, and the five-stage loop runs 14
    fault-free cycles and is done exactly then. -/
example : ArchSim.Lemmas.C01.StOK freshSt ∧ freshSt.imem.cache = none ∧ freshSt.exitCode = none ∧
    Spec.CacheAbs.GeoOK geo1 ∧ ArchSim.Lemmas.C09.AssocOK true geo1.assoc ∧
    (load freshSt asmText).err = none ∧ AllSupported (load freshSt asmText).st.imem.prog ∧
    runOK 14 (PSt.init (load (withCache freshSt true false geo1 10) asmText).st true) ∧
    isDone (pipeRun 14 (PSt.init (load (withCache freshSt true false geo1 10) asmText).st true)) = true ∧
    (∀ m, m < 14 →
      isDone (pipeRun m (PSt.init (load (withCache freshSt true false geo1 10) asmText).st true)) = false) := by
  refine ⟨freshSt_ok, rfl, rfl, geo1_ok, assoc1_ok, load_asmText.1, asmText_supported, ?_⟩
  rw [load_asmText_cached]; decide

/-- What the two modes count on the assembled example: the one `lw` (a miss — the `.data` preload bypassed the
    cache) is counted once in both; exit code 7; the miss penalty shows in the cycle counter only. -/
example : dAcc (pipeRun 14 (PSt.init (load (withCache freshSt true false geo1 10) asmText).st true)).st.mem = 1 ∧
    dHits (pipeRun 14 (PSt.init (load (withCache freshSt true false geo1 10) asmText).st true)).st.mem = 0 ∧
    dAcc (ArchSim.Lemmas.C11.singleRun 5 (load (withCache freshSt true false geo1 10) asmText).st).mem = 1 ∧
    memOps 5 (load (withCache freshSt true false geo1 10) asmText).st = 1 ∧
    (pipeRun 14 (PSt.init (load (withCache freshSt true false geo1 10) asmText).st true)).st.exitCode = some 7 ∧
    (pipeRun 14 (PSt.init (load (withCache freshSt true false geo1 10) asmText).st true)).st.cycles = 24 := by
  rw [load_asmText_cached]; decide

/-- Hypothesis `SingleOK` of `assembled_accesses_count_memops` for the example (`n = 5`). -/
example : SingleOK 5 (load (withCache freshSt true false geo1 10) asmText).st := by
  rw [load_asmText_cached]; unfold SingleOK; decide

end

end ArchSim.Props.C09Asm
