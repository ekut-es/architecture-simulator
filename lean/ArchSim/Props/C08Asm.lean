/-
C08, end to end: for EVERY source text the assembler accepts (without CSR instructions, `fence`, `ebreak`) whose stored
program is hazard-free, the five-stage pipeline WITHOUT hazard detection computes what single-cycle mode computes;
and the source-level padding clause: inserting two `nop` lines behind every instruction line of a text whose lines are
all SIMPLE (`AllSimple`; label operands and numeric `jal` must be excluded, `padding_class_is_sharp`) and whose padded
program fits the instruction memory (`3 n ≤ 4096`) makes the stored program the padding `pad` of the original program,
hence hazard-free.
The hypotheses `ProgWF` / `SOK` of `Props/C08Main.lean` are discharged by the loader; what remains: the text loads
without error into a `StOK` state without instruction cache and exit code, its program is in the supported set, the
hypotheses about the RUN, and the decidable condition `HazardFree` on the stored program.

`HazardFree prog` (`Lemmas/C08Pad.lean`): no instruction reads a non-x0 register written by one of the two before it
(decidable); `pad prog` (same file): two `addi x0,x0,0` behind every instruction; `NoIdStall p`
(`Lemmas/C08Stall.lean`): no decode stall is in progress; `pipeRun`, `runOK`, `retireLog`: `Spec/PipeSeq.lean`;
`isDone`, `PSt.init`: `Model/Pipe.lean`; `singleRun`, `singleTrace`: `Lemmas/C02Compose.lean`; `AllSimple`, `padText`:
`Lemmas/E2E2Pad.lean`; `AllSupported`: `Lemmas/E2EState.lean`; `StOK`: `Lemmas/C01Defs.lean`.
-/
import ArchSim.Props.C08Main
import ArchSim.Props.C04Asm
import ArchSim.Lemmas.E2E2Ex
import ArchSim.Lemmas.E2E2PadEx

namespace ArchSim.Props.C08Asm
open ArchSim ArchSim.Rv ArchSim.Asm ArchSim.Pipe ArchSim.Lemmas.C07 ArchSim.Lemmas.C08
open ArchSim.Lemmas.E2E ArchSim.Lemmas.E2E2

/-- C08's main theorem for loaded programs. Load an accepted text without CSR / fence / ebreak into a state `s` satisfying
    `StOK`, without instruction cache, not exited (e.g. the power-on state). If the stored program is hazard-free and
    the five-stage loop with hazard detection OFF (`hzf = false`; the statement holds for either flag) stops after
    `n` cycles without a fault, then single-cycle mode from the same loaded state stops after `k ≤ n` fault-free
    steps with the same registers, data memory, output, exit code, instruction / branch / procedure counts and pc,
    and the five-stage retire order is the single-cycle execution order. -/
theorem assembled_hazard_free_equals_single_cycle (s : St) (text : String) (hs : ArchSim.Lemmas.C01.StOK s)
    (hc : s.imem.cache = none) (hx : s.exitCode = none) (h : (load s text).err = none)
    (hsup : AllSupported (load s text).st.imem.prog) (hfree : HazardFree (load s text).st.imem.prog)
    (hzf : Bool) (n : Nat) (hr : runOK n (PSt.init (load s text).st hzf))
    (hd : isDone (pipeRun n (PSt.init (load s text).st hzf)) = true)
    (hprev : ∀ m, m < n → isDone (pipeRun m (PSt.init (load s text).st hzf)) = false) :
    ∃ k, k ≤ n ∧
      (∀ j, j < k → (singleStep (singleRun j (load s text).st)).fault = none ∧
        singleDone (singleRun j (load s text).st) = false) ∧
      singleDone (singleRun k (load s text).st) = true ∧
      (pipeRun n (PSt.init (load s text).st hzf)).st.regs = (singleRun k (load s text).st).regs ∧
      (pipeRun n (PSt.init (load s text).st hzf)).st.mem = (singleRun k (load s text).st).mem ∧
      (pipeRun n (PSt.init (load s text).st hzf)).st.output = (singleRun k (load s text).st).output ∧
      (pipeRun n (PSt.init (load s text).st hzf)).st.exitCode = (singleRun k (load s text).st).exitCode ∧
      (pipeRun n (PSt.init (load s text).st hzf)).st.instrs = (singleRun k (load s text).st).instrs ∧
      (pipeRun n (PSt.init (load s text).st hzf)).st.branches = (singleRun k (load s text).st).branches ∧
      (pipeRun n (PSt.init (load s text).st hzf)).st.procs = (singleRun k (load s text).st).procs ∧
      (pipeRun n (PSt.init (load s text).st hzf)).st.pc = (singleRun k (load s text).st).pc ∧
      retireLog n (PSt.init (load s text).st hzf) = singleTrace k (load s text).st :=
  ArchSim.Props.C08Main.hazard_free_equals_single_cycle _ (load_progWF_pipe s text hsup) hfree _
    (load_sok s text hs hc) hzf (by rw [load_exitCode]; exact hx) n hr hd hprev

/-- Termination: if single-cycle mode on the loaded hazard-free program, after `kstar` fault-free steps,
    is done or faults in its next step, five-stage mode (detection off or on) has faulted or is done after at most
    `5 * (kstar + 2)` cycles. -/
theorem assembled_hazard_free_terminates (s : St) (text : String) (hs : ArchSim.Lemmas.C01.StOK s)
    (hc : s.imem.cache = none) (h : (load s text).err = none)
    (hsup : AllSupported (load s text).st.imem.prog) (hfree : HazardFree (load s text).st.imem.prog)
    (hzf : Bool) (kstar : Nat)
    (hnf : ∀ j, j < kstar → (singleStep (singleRun j (load s text).st)).fault = none)
    (hh : singleDone (singleRun kstar (load s text).st) = true ∨
      (singleStep (singleRun kstar (load s text).st)).fault.isSome = true) :
    ∃ N, N ≤ 5 * (kstar + 2) ∧
      (¬ runOK N (PSt.init (load s text).st hzf) ∨ isDone (pipeRun N (PSt.init (load s text).st hzf)) = true) :=
  ArchSim.Props.C08Main.hazard_free_terminates _ (load_progWF_pipe s text hsup) hfree _
    (load_sok s text hs hc) hzf kstar hnf hh

/-- Fault agreement: if cycle `n + 1` of the five-stage run (detection off or on) of the loaded
    hazard-free program is the first to report a fault, single-cycle mode reports the same fault for the
    instruction at the same address after `k ≤ n` fault-free steps, with the same registers and output. -/
theorem assembled_hazard_free_fault_agrees (s : St) (text : String) (hs : ArchSim.Lemmas.C01.StOK s)
    (hc : s.imem.cache = none) (h : (load s text).err = none)
    (hsup : AllSupported (load s text).st.imem.prog) (hfree : HazardFree (load s text).st.imem.prog)
    (hzf : Bool) (n : Nat) (hr : runOK n (PSt.init (load s text).st hzf)) (ft : PFault)
    (hft : (step (pipeRun n (PSt.init (load s text).st hzf))).fault = some ft) :
    ∃ k, k ≤ n ∧ (∀ j, j < k → (singleStep (singleRun j (load s text).st)).fault = none) ∧
      (singleStep (singleRun k (load s text).st)).fault = some (ft.addr, ft.fault) ∧
      (singleRun k (load s text).st).pc = ft.addr ∧
      (step (pipeRun n (PSt.init (load s text).st hzf))).p.st.regs = (singleRun k (load s text).st).regs ∧
      (step (pipeRun n (PSt.init (load s text).st hzf))).p.st.output = (singleRun k (load s text).st).output :=
  ArchSim.Props.C08Main.hazard_free_fault_agrees _ (load_progWF_pipe s text hsup) hfree _
    (load_sok s text hs hc) hzf n hr ft hft

/-- No decode stall. Load ANY text (accepted or not, any instruction) into ANY state (any caches) and
    run the five-stage pipeline with hazard detection off for ANY number `n` of cycles, faulting or not: no decode
    stall is ever in progress, the detection flag stays off, and the `stalls` counter moves only in the cycles in
    which EX raises its stall signal — an ecall drain (`C08.stalls_count_ex_only`). -/
theorem assembled_no_id_stall_run (s : St) (text : String) (n : Nat) :
    NoIdStall (pipeRun n (PSt.init (load s text).st false)) ∧
    (pipeRun n (PSt.init (load s text).st false)).hazard = false ∧
    (pipeRun (n + 1) (PSt.init (load s text).st false)).st.stalls =
      (pipeRun n (PSt.init (load s text).st false)).st.stalls +
        (if (step (pipeRun n (PSt.init (load s text).st false))).fault = none ∧
            (pipeRun n (PSt.init (load s text).st false)).stalled = none ∧
            latchStall (exO (pipeRun n (PSt.init (load s text).st false))).latch = true then 1 else 0) := by
  obtain ⟨h1, h2⟩ := ArchSim.Props.C08.no_id_stall_run (load s text).st n
  have e : iter (fun p => (step p).p) n (PSt.init (load s text).st false) =
      pipeRun n (PSt.init (load s text).st false) := (pipeRun_eq_iter n _).symm
  rw [e] at h1 h2
  exact ⟨h1, h2, ArchSim.Props.C08.stalls_count_ex_only _ h2 h1⟩

/-! ### padding at the source level

`padText t`: the text `t` with two lines `nop` inserted behind every line that is not blank and not a comment line
(comments, blank lines and indentation of the original lines are kept; `Lemmas/E2E2Pad.lean`).
`AllSimple t` (decidable): every line of `t` is SIMPLE — tokenized without label into an instruction whose object depends
neither on its address nor on the label table and that is ONE instruction: R / I / shift / U instructions, loads,
stores and branches with NUMERIC operands, CSR forms, `fence`, `ecall`, `ebreak`, `nop`, `mv`, and `li` with a 12-bit
constant. Excluded: label operands and the absolute numeric target of `jal` (address dependent; for these two the padded
text does NOT load to `pad` of the program, `padding_class_is_sharp`), `li` with a large constant and the variable
pseudo-instructions `la`, `lw rd, var`, … (several instructions: `pad` would put nops between them), declarations,
directives and label lines. -/

/-- Let every line of `t` be simple, let `t` load into `s` (any state), and let the padded
    program fit the instruction memory (`3 n ≤ 4096`). Then `padText t` loads too, and loading it gives exactly the
    state loading `t` gives with the stored program replaced by `pad` of it: two `addi x0,x0,0` behind every
    instruction. Hence the stored program of the padded text is hazard-free. -/
theorem padded_text_loads_pad (s : St) (t : String) (hsimple : AllSimple t) (h : (load s t).err = none)
    (hfit : 3 * (load s t).st.imem.prog.length ≤ 4096) :
    (load s (padText t)).err = none ∧
    (load s (padText t)).st.imem.prog = pad (load s t).st.imem.prog ∧
    (load s (padText t)).st =
      { (load s t).st with imem := { (load s t).st.imem with prog := pad (load s t).st.imem.prog } } ∧
    HazardFree (load s (padText t)).st.imem.prog := by
  obtain ⟨hp, _⟩ := load_simple_prog s t hsimple h
  obtain ⟨_, _, h3, h4⟩ := load_padText s t hsimple (by rw [← hp]; exact hfit)
  have h5 : (load s (padText t)).st.imem.prog = pad (load s t).st.imem.prog := by rw [h4]
  exact ⟨h3, h5, h4, by rw [h5]; exact ArchSim.Props.C08.pad_hazard_free _⟩

/-- Let `s` satisfy `StOK`, have no instruction cache and not have exited; let
    every line of `t` be simple, `t` load, contain no CSR instruction / `fence` / `ebreak`, and its padding fit. Then
    the five-stage pipeline WITHOUT hazard detection on the program of `padText t` — if its loop stops after `n`
    cycles without a fault — ends with the registers, data memory, output and exit code of single-cycle mode on that
    same padded program, after `k ≤ n` steps. Nothing is assumed about hazards: the padding removes them. -/
theorem padded_text_equals_single_cycle (s : St) (t : String) (hs : ArchSim.Lemmas.C01.StOK s)
    (hc : s.imem.cache = none) (hx : s.exitCode = none) (hsimple : AllSimple t) (h : (load s t).err = none)
    (hsup : AllSupported (load s t).st.imem.prog) (hfit : 3 * (load s t).st.imem.prog.length ≤ 4096)
    (n : Nat) (hr : runOK n (PSt.init (load s (padText t)).st false))
    (hd : isDone (pipeRun n (PSt.init (load s (padText t)).st false)) = true)
    (hprev : ∀ m, m < n → isDone (pipeRun m (PSt.init (load s (padText t)).st false)) = false) :
    ∃ k, k ≤ n ∧ singleDone (singleRun k (load s (padText t)).st) = true ∧
      (pipeRun n (PSt.init (load s (padText t)).st false)).st.regs = (singleRun k (load s (padText t)).st).regs ∧
      (pipeRun n (PSt.init (load s (padText t)).st false)).st.mem = (singleRun k (load s (padText t)).st).mem ∧
      (pipeRun n (PSt.init (load s (padText t)).st false)).st.output =
        (singleRun k (load s (padText t)).st).output ∧
      (pipeRun n (PSt.init (load s (padText t)).st false)).st.exitCode =
        (singleRun k (load s (padText t)).st).exitCode ∧
      retireLog n (PSt.init (load s (padText t)).st false) = singleTrace k (load s (padText t)).st := by
  obtain ⟨h1, h2, _, h4⟩ := padded_text_loads_pad s t hsimple h hfit
  have hsup' : AllSupported (load s (padText t)).st.imem.prog := by rw [h2]; exact pad_supported hsup
  obtain ⟨k, hk, _, e1, e2, e3, e4, e5, _, _, _, _, e6⟩ :=
    assembled_hazard_free_equals_single_cycle s (padText t) hs hc hx h1 hsup' h4 false n hr hd hprev
  exact ⟨k, hk, e1, e2, e3, e4, e5, e6⟩

/-- The class is sharp: branches to labels and numeric `jal` targets. For a text with a branch to a label, and for a text
    with a `jal` whose operand is a number, both the text and its padding load, but the program of the padded text is
    NOT `pad` of the program: the assembler re-resolves the label (displacement 12 instead of 4 — the padded text is
    the semantically right padding, `pad` is not), and a numeric `jal` operand is an absolute address, so its
    displacement depends on where the instruction ends up (-4 instead of 4). -/
theorem padding_class_is_sharp :
    (∃ t, (load freshSt t).err = none ∧ (load freshSt (padText t)).err = none ∧
      (load freshSt t).st.imem.prog = [{ op := .beq, imm := 4 }, { op := .ecall }] ∧
      (load freshSt (padText t)).st.imem.prog = [{ op := .beq, imm := 12 }, nop, nop, { op := .ecall }, nop, nop] ∧
      (load freshSt (padText t)).st.imem.prog ≠ pad (load freshSt t).st.imem.prog) ∧
    (∃ t, (load freshSt t).err = none ∧ (load freshSt (padText t)).err = none ∧
      (load freshSt t).st.imem.prog = [{ op := .ecall }, { op := .jal, rd := 1, imm := 4, aux := 8 }] ∧
      (load freshSt (padText t)).st.imem.prog =
        [{ op := .ecall }, nop, nop, { op := .jal, rd := 1, imm := -4, aux := 8 }, nop, nop] ∧
      (load freshSt (padText t)).st.imem.prog ≠ pad (load freshSt t).st.imem.prog) := by
  open ArchSim.Lemmas.E2E2.Ex in
  refine ⟨⟨brText, load_brText.1, load_pad_brText.1, load_brText.2, load_pad_brText.2, ?_⟩,
    ⟨jalText, load_jalText.1, load_pad_jalText.1, load_jalText.2, load_pad_jalText.2, ?_⟩⟩
  · rw [load_pad_brText.2, load_brText.2]; decide
  · rw [load_pad_jalText.2, load_jalText.2]; decide

/-- … and a multi-instruction pseudo-instruction, on one instance: `li a0, 5000` (constant outside 12 bits) expands to
    `lui` + `addi` — one source line, two entries of the expansion pass, which `pad` of the program would separate by
    nops and the padded text does not — and is not a simple item, while `li a0, 5` is. The load of such a padded text
    and the variable forms (`la`, `lw rd, var`: two or three instructions) are not part of the statement. -/
theorem padding_class_excludes_long_pseudo (vars : Vars) (k : Nat) (line : String) :
    expandOne vars (k, line, .grp (.li 10 5000)) =
      .ok [(k, line, .grp (.utype "lui" 10 1)), (k, line, .grp (.rri "addi" 10 10 904))] ∧
    itemInstr (.grp (.li 10 5000)) = none ∧ itemInstr (.grp (.li 10 5)) = some { op := .addi, rd := 10, imm := 5 } :=
  ⟨by rfl, by decide, by decide⟩

/-! ### non-vacuity (the text `hazText` of `Lemmas/E2E2PadEx.lean`: its `lw` reads the register the `lui` right before it
writes) -/

section
open ArchSim.Lemmas.E2E2.Ex

example : hazText = "lui t0, 4\nlw a0, 0(t0)\nli a7, 93" ∧
    padText hazText = "lui t0, 4\nnop\nnop\nlw a0, 0(t0)\nnop\nnop\nli a7, 93\nnop\nnop" := ⟨rfl, padText_hazText⟩

/-- Hypotheses of `padded_text_loads_pad` / `padded_text_equals_single_cycle` for `hazText` in the power-on state: simple
    lines (abi register names and the pseudo-instruction `li` included), it loads, supported, fits. -/
example : AllSimple hazText ∧ (load freshSt hazText).err = none ∧
    (load freshSt hazText).st.imem.prog = hazProg ∧ AllSupported (load freshSt hazText).st.imem.prog ∧
    3 * (load freshSt hazText).st.imem.prog.length ≤ 4096 := by
  obtain ⟨h1, h2, _⟩ := load_padText freshSt hazText hazText_simple (by rw [lineInstrs_hazText]; decide)
  rw [lineInstrs_hazText] at h2
  refine ⟨hazText_simple, h1, h2, ?_, ?_⟩ <;> rw [h2] <;> decide

/-- The original program is NOT hazard-free, and without detection its `lw` reads the stale `t0 = 0` and faults. -/
example : ¬ HazardFree (load freshSt hazText).st.imem.prog ∧
    (step (pipeRun 4 (PSt.init (load freshSt hazText).st false))).fault =
      some ⟨4, { op := .lw, rd := 10, rs1 := 5, imm := 0 }, .mem (.addr 0)⟩ := by
  rw [load_hazText_st]; decide

/-- Hypotheses of `assembled_hazard_free_equals_single_cycle` (detection off) for the PADDED text: it loads, is
    supported and hazard-free; the loop runs 13 fault-free cycles (9 instructions + 4) and is done exactly then; the
    `lw` now reads `t0 = 0x4000`. -/
example : (load freshSt (padText hazText)).err = none ∧
    AllSupported (load freshSt (padText hazText)).st.imem.prog ∧
    HazardFree (load freshSt (padText hazText)).st.imem.prog ∧
    runOK 13 (PSt.init (load freshSt (padText hazText)).st false) ∧
    isDone (pipeRun 13 (PSt.init (load freshSt (padText hazText)).st false)) = true ∧
    (∀ m, m < 13 → isDone (pipeRun m (PSt.init (load freshSt (padText hazText)).st false)) = false) ∧
    (pipeRun 13 (PSt.init (load freshSt (padText hazText)).st false)).st.regs 5 = 16384 ∧
    (pipeRun 13 (PSt.init (load freshSt (padText hazText)).st false)).st.stalls = 0 := by
  refine ⟨(load_padText freshSt hazText hazText_simple (by rw [lineInstrs_hazText]; decide)).2.2.1, ?_⟩
  rw [load_pad_hazText_st]; decide

/-- Hypotheses of `assembled_hazard_free_terminates` for the padded text (`kstar = 9`: single-cycle mode is done). -/
example : (∀ j, j < 9 → (singleStep (singleRun j (load freshSt (padText hazText)).st)).fault = none) ∧
    singleDone (singleRun 9 (load freshSt (padText hazText)).st) = true := by
  rw [load_pad_hazText_st]; decide

/-- Hypotheses of `assembled_hazard_free_fault_agrees` for `faultText` (`addi x2, x0, 1 ; lw x1, 0(x0)`, hazard-free,
    the load reads below the data range): four fault-free cycles without detection, the fifth raises for the `lw`. -/
example : (load freshSt faultText).err = none ∧ AllSupported (load freshSt faultText).st.imem.prog ∧
    HazardFree (load freshSt faultText).st.imem.prog ∧
    runOK 4 (PSt.init (load freshSt faultText).st false) ∧
    (step (pipeRun 4 (PSt.init (load freshSt faultText).st false))).fault =
      some ⟨4, { op := .lw, rd := 1, rs1 := 0, imm := 0 }, .mem (.addr 0)⟩ := by
  refine ⟨(ArchSim.Lemmas.C14.listing_loads freshSt faultProg (by decide) (by decide)).1, ?_⟩
  rw [load_faultText_st]; decide

end

end ArchSim.Props.C08Asm
