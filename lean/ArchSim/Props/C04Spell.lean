/-
C04 (front end) — spelling independence of the RISC-V assembler model:
  (a) "ABI and xN register names are interchangeable",
  (b) "mnemonics are case-insensitive",
  (c) "numbers may be decimal, hexadecimal or binary with optional sign",
  (d) "Comments, blank lines and indentation never change the result."

Scanners: `Asm.pReg`, `Asm.pImm`, `PP.oneOfCaseless`, `PP.caselessLit`; line grammar: `Asm.parseLine`; text
passes: `Asm.sanitize`, `Asm.load`. Spellings (`RegStyle`, `NumStyle`, `Spelling`, `render`) are defined in
Lemmas/C04SpellReg, C04SpellNumSp, C04SpellRender; the default `Spelling` is the printer `Instr.repr`.
`operands`, `itemOf`, `Spellable` (a condition on the instruction alone that makes every spelling readable): also
C04SpellRender; `recase`: C04SpellNumSp; `isLow`: C14Scan; `digitsVal`: PPFacts; `mnWords`: C04SpellRows;
`IsLabel`: C04SpellTok; `OffSp`: C04SpellLabelTarget; `entryOf`, `entryTexts`, `joinLines`: C04SpellEntryText.

Findings (proved below as negative statements): register names are case-SENSITIVE (`X5`, `A0` are rejected);
the radix prefix is case-sensitive (`0X10` is read as `0` followed by garbage, so the line is rejected); a `+`
sign is rejected; a decimal numeral with a leading zero and a non-zero value is rejected; a mnemonic glued to
its first operand is accepted in lower case but may be rejected in upper case (`addra` vs `ADDRA`), which is
why the line-level case theorem requires a non-letter after the mnemonic.

Coverage of the whole-line theorems here: every real instruction other than `fence` with numeric operands, in the one
operand form the printer writes for its class (loads and stores `mn r, imm(r)`, `jalr r, r, imm`; the second forms the
grammar accepts, `lw r, r, imm`, `sw r, r, imm`, `jalr r, imm(r)`, are not covered), also behind an in-line label;
`li`, `mv`, `nop`; branch / `jal` with a label target (with or without `+0x` offset).
`la`, the load/store-by-variable-name forms, and in-line labels in front of the pseudo-instruction and label-target
lines: Props/C04SpellVar.
-/
import ArchSim.Lemmas.C04SpellEx
import ArchSim.Lemmas.C04SpellLoadRenum
import ArchSim.Lemmas.C14Sound
import ArchSim.Props.C04SpellVar
namespace ArchSim.Props.C04Spell
open ArchSim ArchSim.PP ArchSim.Rv ArchSim.Asm ArchSim.Lemmas.C14 ArchSim.Lemmas.C04Spell

/-! ### registers -/

/-- Every ABI name of the table is read as its register number, whatever follows — except that `s1` must
    not be followed by `0` or `1` (then the longer names `s10`, `s11` win: longest match). -/
theorem abi_register (name : String) (n : Nat) (hmem : (name, n) ∈ abiNames) (rest : List Char)
    (hr : name = "s1" → ∀ c ∈ rest.head?, c ≠ '0' ∧ c ≠ '1') :
    pReg (name.toList ++ rest) = .ok n rest :=
  pReg_abi name n hmem rest hr

/-- The side condition of `abi_register` is needed: `s1` followed by `0` is register 26 (`s10`), not 9. -/
theorem abi_longest_match : pReg ("s1".toList ++ "0".toList) = .ok 26 [] := by
  have := pReg_abi "s10" 26 (by decide) [] (by intro h; exact absurd h (by decide))
  simpa using this

/-- Every register number below 32 has an ABI name (and `x<n>`, see `C14.register_roundtrip`). -/
theorem abi_names_total (n : Nat) (hn : n < 32) : ∃ name, (name, n) ∈ abiNames := ⟨abiOf n, abiOf_mem n hn⟩

/-- ABI and xN names are interchangeable: for every entry `(name, n)` of the ABI table — in particular both
    `s0` and `fp` for register 8 — the ABI name and `x<n>`, each after any blanks (spaces/tabs) and followed by
    anything but a digit, are read as the same register number `n`. -/
theorem register_names_interchangeable (name : String) (n : Nat) (hmem : (name, n) ∈ abiNames)
    (ws ws' rest : List Char) (hws : ∀ c ∈ ws, isWs c = true) (hws' : ∀ c ∈ ws', isWs c = true)
    (hr : ∀ c ∈ rest.head?, isNum c = false) :
    pReg (ws ++ (name.toList ++ rest)) = .ok n rest ∧
    pReg (ws' ++ (("x" ++ toString n).toList ++ rest)) = .ok n rest := by
  have hn : n < 32 := abi_lt (name, n) hmem
  refine ⟨?_, ?_⟩
  · rw [pReg_ws ws _ hws]; exact pReg_abi name n hmem rest (regEnd_of_not_digit _ _ hr)
  · rw [pReg_ws ws' _ hws']
    have := pReg_regTxt n hn rest hr
    simpa [regTxt] using this

/-- The three spellings of a register operand (`RegStyle`: `x<n>`, ABI name, ABI name with `fp` for 8), after
    any blanks, are read as the register number. -/
theorem register_spellings (st : RegStyle) (n : Nat) (hn : n < 32) (ws rest : List Char)
    (hws : ∀ c ∈ ws, isWs c = true) (hr : ∀ c ∈ rest.head?, isNum c = false) :
    pReg (ws ++ (regSp st n ++ rest)) = .ok n rest :=
  pReg_sp st n hn ws rest hws hr

/-- Finding: register names are case-sensitive. Nothing that starts with an upper-case letter is a register
    (`X5`, `A0`, `SP`, `Zero` are all rejected). -/
theorem register_names_case_sensitive (c : Char) (t : List Char) (h1 : 'A' ≤ c) (h2 : c ≤ 'Z') :
    pReg (c :: t) = .fail :=
  pReg_fail_upper c t h1 h2

/-! ### numerals -/

/-- Hexadecimal: an optional `-`, `0x` and ANY non-empty string of hexadecimal digits — upper or lower case,
    any number of leading zeros, any length — is read as its value when no hexadecimal digit follows. -/
theorem numeral_hex (neg : Bool) (ds ws rest : List Char) (hws : ∀ c ∈ ws, isWs c = true)
    (hds : ∀ c ∈ ds, isHexNum c = true) (hne : ds ≠ []) (hr : ∀ c ∈ rest.head?, isHexNum c = false) :
    pImm (ws ++ ((if neg then ['-'] else []) ++ '0' :: 'x' :: (ds ++ rest)))
      = .ok (if neg then -(digitsVal 16 ds : Int) else (digitsVal 16 ds : Int)) rest := by
  rw [pImm_ws ws _ hws]; exact pImm_hex_digits neg ds rest hds hne hr

/-- Binary: an optional `-`, `0b` and any non-empty string of `0`/`1` (any length) is read as its value when
    neither `0` nor `1` follows. -/
theorem numeral_bin (neg : Bool) (ds ws rest : List Char) (hws : ∀ c ∈ ws, isWs c = true)
    (hds : ∀ c ∈ ds, isBin c = true) (hne : ds ≠ []) (hr : ∀ c ∈ rest.head?, isBin c = false) :
    pImm (ws ++ ((if neg then ['-'] else []) ++ '0' :: 'b' :: (ds ++ rest)))
      = .ok (if neg then -(digitsVal 2 ds : Int) else (digitsVal 2 ds : Int)) rest := by
  rw [pImm_ws ws _ hws]; exact pImm_bin_digits neg ds rest hds hne hr

/-- Decimal: an optional `-` and a string of at most 4300 digits that has no leading zero unless its value is
    zero is read as its value, when the next character is not a digit, `x` or `b`. -/
theorem numeral_dec (neg : Bool) (ds ws rest : List Char) (hws : ∀ c ∈ ws, isWs c = true)
    (hds : ∀ c ∈ ds, isNum c = true) (hne : ds ≠ []) (hlen : ds.length ≤ 4300)
    (hlead : digitsVal 10 ds ≠ 0 → ds.head? ≠ some '0')
    (hr : ∀ c ∈ rest.head?, isNum c = false ∧ c ≠ 'x' ∧ c ≠ 'b') :
    pImm (ws ++ ((if neg then ['-'] else []) ++ (ds ++ rest)))
      = .ok (if neg then -(digitsVal 10 ds : Int) else (digitsVal 10 ds : Int)) rest := by
  rw [pImm_ws ws _ hws]; exact pImm_dec_digits neg ds rest hds hne hlen hlead hr

/-- Decimal with a leading zero and a non-zero value (`007`) is REJECTED, like Python's `int(text, 0)`. -/
theorem numeral_dec_leading_zero_rejected (neg : Bool) (ds rest : List Char) (hds : ∀ c ∈ ds, isNum c = true)
    (hz : ds.head? = some '0') (hnz : digitsVal 10 ds ≠ 0)
    (hr : ∀ c ∈ rest.head?, isNum c = false ∧ c ≠ 'x' ∧ c ≠ 'b') :
    pImm ((if neg then ['-'] else []) ++ (ds ++ rest)) = .fail :=
  pImm_dec_leading_zero neg ds rest hds hz hnz hr

/-- Every integer in every spelling: for every integer `v` of at most 4300 decimal digits, its decimal text,
    its `0x` text (any number of leading zeros, each digit letter in either case) and its `0b` text (any number
    of leading zeros), with `-` for a negative value and after any blanks, are all read as `v` when the next
    character is not a letter, digit or underscore. -/
theorem numeral_spellings (st : NumStyle) (v : Int) (ws rest : List Char) (hws : ∀ c ∈ ws, isWs c = true)
    (hv : v.natAbs < 10 ^ 4300) (hr : ∀ c ∈ rest.head?, isLabelBody c = false) :
    pImm (ws ++ (numSp st v ++ rest)) = .ok v rest :=
  pImm_numSp st v ws rest hws (numFits_of_small st v hv) hr

/-- The hexadecimal and binary spellings have no size limit at all. -/
theorem numeral_spellings_radix (st : NumStyle) (hst : st ≠ .dec) (v : Int) (ws rest : List Char)
    (hws : ∀ c ∈ ws, isWs c = true) (hr : ∀ c ∈ rest.head?, isLabelBody c = false) :
    pImm (ws ++ (numSp st v ++ rest)) = .ok v rest :=
  pImm_numSp_radix st hst v ws rest hws hr

/-- Finding: the radix prefix is case-sensitive. `0X10` is read as the decimal `0`, leaving `X10` unread (so
    a line such as `addi x1, x1, 0X10` cannot be tokenized). -/
theorem numeral_upper_prefix_not_hex : pImm "0X10".toList = .ok 0 "X10".toList := by
  have := pImm_dec_digits false ['0'] "X10".toList (by decide) (by decide) (by decide) (by decide)
    (by intro c hc; simp at hc; subst hc; decide)
  have hd : (digitVal '0').getD 0 = 0 := by decide
  simpa [signTxt, signed, digitsVal, hd] using this

/-- Finding: the optional sign is `-` only; a numeral with a `+` sign is rejected. -/
theorem numeral_plus_sign_rejected (t : List Char) : pImm ('+' :: t) = .fail :=
  pImm_fail_head '+' t (by decide) (by decide) (by decide)

/-! ### mnemonics -/

/-- Mnemonic tables are case-insensitive: for ANY table `syms`, any lower-case symbol `m` of it and any ASCII
    case variant `w'` of `m` (same letters up to case: `w'.map toLowerAscii = m`), followed by ANY text,
    `one_of(syms, caseless=True)` gives the same result — the same canonical (lower-case) symbol and the same
    rest — as on `m` itself. -/
theorem mnemonic_table_case_insensitive (syms : List String) (m : String) (hm : m ∈ syms)
    (hlow : ∀ c ∈ m.toList, isLow c = true) (w' rest : List Char) (hv : w'.map toLowerAscii = m.toList) :
    oneOfCaseless syms (w' ++ rest) = oneOfCaseless syms (m.toList ++ rest) :=
  oneOfCaseless_cv syms m hm w' rest ⟨hv, hlow⟩

/-- The same for keywords matched with `CaselessLiteral` (`jal`, `fence`, `li`, `ecall`, `ebreak`, `nop`): on a
    lower-case word `w` no longer than the keyword and on any case variant `w'` of it the result is the same. -/
theorem keyword_case_insensitive (kw : String) (w' w rest : List Char) (hv : w'.map toLowerAscii = w)
    (hlow : ∀ c ∈ w, isLow c = true) (hlen : w.length ≤ kw.toList.length) :
    caselessLit kw (w' ++ rest) = caselessLit kw (w ++ rest) :=
  caselessLit_cv kw w' w rest ⟨hv, hlow⟩ hlen

/-- Mnemonics are case-insensitive, for whole lines. For every mnemonic `m` of the grammar (real or pseudo:
    `mnWords`), every case variant `w'` of it at the start of a line (after any blanks), followed by `rest`
    where `rest` is empty or starts with an ASCII character that is no letter, digit or underscore, and whose
    first non-blank character is not `:` (so that the word is not a label): the line is tokenized exactly as
    with the lower-case mnemonic — same token or same failure, whatever the operands are. -/
theorem mnemonic_case_insensitive_line (m : String) (hm : m ∈ mnWords) (ws w' rest : List Char)
    (hws : ∀ c ∈ ws, isWs c = true) (hv : w'.map toLowerAscii = m.toList)
    (hsep : ∀ c ∈ rest.head?, c.toNat < 128 ∧ isLabelBody c = false)
    (hcolon : (skipWs rest).head? ≠ some ':') :
    parseLine (ws ++ (w' ++ rest)) = parseLine (m.toList ++ rest) := by
  rw [parseLine_ws ws _ hws]
  exact parseLine_cv m hm w' rest ⟨hv, (mnWords_low m hm).1⟩ ⟨hsep, hcolon⟩

/-- Indentation of a single line: blanks (spaces, tabs) in front of ANY line never change its token. -/
theorem leading_blanks_invisible (ws l : List Char) (hws : ∀ c ∈ ws, isWs c = true) :
    parseLine (ws ++ l) = parseLine l :=
  parseLine_ws ws l hws

/-- Finding: the side condition "a non-letter follows the mnemonic" of `mnemonic_case_insensitive_line` is
    needed. No blank is required after a mnemonic, so `addra, x1, x2` is read by the R-type alternative as
    `add ra, x1, x2`; with the glued word in upper case the register name `RA` is rejected (register names are
    case-sensitive). (The real assembler agrees: the first line loads, the second raises a syntax error.) -/
theorem glued_mnemonic_case_matters :
    pRType "addra, x1, x2".toList = .ok (.rtype "add" 1 1 2) [] ∧ pRType "ADDRA, x1, x2".toList = .fail :=
  ⟨pRType_addra, pRType_ADDRA⟩

/-! ### whole lines in any spelling -/

/-- Whole-line spelling independence. Let `i` be any instruction other than `fence` with register numbers
    below 32 and numbers of at most 4300 decimal digits (`Spellable`). EVERY spelling `sp` of its line — any
    blanks (spaces/tabs) at the start, at the end, after the mnemonic (at least one), around the commas and the
    parentheses; every letter of the mnemonic in either case; every register as `x<n>`, ABI name or `fp`; every
    number in decimal, `0x` hexadecimal (leading zeros, digits of either case) or `0b` binary (leading zeros)
    with `-` for negatives — is tokenized as the same label-free entry `itemOf i`. Covers all classes: R-type,
    I-type and shifts, `jalr`, loads, stores, branches, U-type, `jal`, `ecall`/`ebreak`, CSR and CSR-immediate. -/
theorem line_spelling_independent (sp : Spelling) (i : Instr) (hs : Spellable i) :
    parseLine (render sp i) = some { lbl := none, item := itemOf i } :=
  parseLine_render sp i (hs.legible sp)

/-- The default spelling is the printed form `Instr.repr` (for a CSR form the csr number must not be negative,
    as the printer writes it with `hex`). -/
theorem default_spelling_is_repr (i : Instr) (hf : i.op ≠ .fence)
    (hcsr : i.op.ty = .csr ∨ i.op.ty = .csri → 0 ≤ i.aux) : render {} i = i.repr.toList :=
  render_default i hf hcsr

/-- Every spelling of a canonical instruction (hypotheses of `C14.repr_roundtrip`, csr number of at most 4300
    digits) is tokenized exactly like its printed form, and the assembler back end builds from that token, at
    the same address and for any label table, exactly the instruction `i`. -/
theorem spelled_line_roundtrip (sp : Spelling) (i : Instr) (addr : Int) (hc : i.Canon addr) (hf : i.op ≠ .fence)
    (haux : i.aux.natAbs < 10 ^ 4300) :
    parseLine (render sp i) = parseLine i.repr.toList ∧
    ∃ tok, parseLine (render sp i) = some tok ∧ tok.lbl = none ∧
      ∀ (ls : Labels) (k : Nat) (line : String), buildInstrs ls [(k, line, tok.item)] addr = .ok [i] := by
  obtain ⟨h1, h2, hb⟩ := render_roundtrip sp i addr hc hf fun _ => numFits_of_small _ _ haux
  exact ⟨h1, _, h2, rfl, hb.builds⟩

/-- Program-level spelling independence. Let `prog` be a program of at most 4096 canonical non-`fence`
    instructions, the k-th at address 4k. If the entry texts of the source lines `ls` (what is left of each line
    after comment stripping; blank and comment-only lines have none) are the instructions of `prog`, the k-th in
    ANY spelling `sps[k]`, then loading the text succeeds and stores exactly `prog`. -/
theorem program_spelling_independent (s : St) (ls : List (List Char))
    (hnb : ∀ l ∈ ls, ∀ c ∈ l, isLineBreak c = false) (prog : List Instr) (sps : List Spelling)
    (hl : ls.filterMap entryOf = List.zipWith render sps prog) (hlen : sps.length = prog.length)
    (hc : ∀ k (hk : k < prog.length), prog[k].Canon (4 * k) ∧ prog[k].op ≠ .fence)
    (haux : ∀ i ∈ prog, i.aux.natAbs < 10 ^ 4300) (hsize : prog.length ≤ 4096) :
    (load s (joinLines ls)).err = none ∧ (load s (joinLines ls)).st.imem.prog = prog := by
  have hcf : CanonFrom 0 prog := canonFrom_of_forall _ _ fun k hk => by simpa using hc k hk
  apply load_spelled s _ prog sps ?_ hlen hcf
    (fun p hp _ => numFits_of_small _ _ (haux p.2 (List.of_mem_zip hp).2)) hsize
  rw [sanitize_of_lines (joinLines ls) ls String.toList_ofList hnb, hl]

/-- What `sanitize` makes of a spelled line, with or without a trailing comment `# …`: the same line without
    its leading and trailing blanks (so the hypothesis `hl` of `program_spelling_independent` can be checked
    line by line). -/
theorem spelled_line_entry (sp : Spelling) (i : Instr) (hs : Spellable i) (cmt : List Char)
    (hc : cmt = [] ∨ ∃ c, cmt = '#' :: c) :
    entryOf (render sp i ++ cmt) = some (render { sp with lead := [], trail := [] } i) :=
  entryOf_render sp i (hs.legible sp) cmt hc

/-! ### pseudo-instructions and label targets in any spelling -/

/-- `li rd, imm`, `mv rd, rs` and `nop` in any spelling (blanks `lead` at the start, `g` (at least one) after the
    mnemonic, `w1`/`w2` around the comma, `tr` at the end; mnemonic letters in either case; any register and
    number spelling) are tokenized as the pseudo-instruction trees `.li rd imm`, `.mv rd rs` and the word `nop`. -/
theorem pseudo_line_spelling_independent (lead g w1 w2 tr : List Char) (hl : ∀ c ∈ lead, isWs c = true)
    (hg : ∀ c ∈ g, isWs c = true) (hgne : g ≠ []) (h1 : ∀ c ∈ w1, isWs c = true) (h2 : ∀ c ∈ w2, isWs c = true)
    (htr : ∀ c ∈ tr, isWs c = true) (sel : Nat → Bool) (a b : Nat) (v : Int) (ha : a < 32) (hb : b < 32)
    (hv : v.natAbs < 10 ^ 4300) (s1 s2 : RegStyle) (sn : NumStyle) :
    parseLine (lead ++ (recase sel "li".toList ++ (g ++ (regSp s1 a ++ (w1 ++ ',' :: (w2 ++ (numSp sn v ++ tr)))))))
      = some { lbl := none, item := .grp (.li a v) } ∧
    parseLine (lead ++ (recase sel "mv".toList ++ (g ++ (regSp s1 a ++ (w1 ++ ',' :: (w2 ++ (regSp s2 b ++ tr)))))))
      = some { lbl := none, item := .grp (.mv a b) } ∧
    parseLine (lead ++ (recase sel "nop".toList ++ tr)) = some { lbl := none, item := .str "nop" } :=
  C04SpellVar.pseudo_line_with_label (.plain lead) hl sel g w1 w2 tr hg hgne h1 h2 htr a b v ha hb hv s1 s2 sn

/-- Branch and jump lines whose target is a label `lab`, alone or with an offset `+ 0x<hex digits>` (`OffSp`:
    blanks around the `+`, digits of either case, leading zeros): in any spelling of the mnemonic, the registers
    and the blanks they are tokenized as `.btypeLabel mn r1 r2 lab off` / `.jalLabel rd lab off`, where `off` is
    the value of the digits (0 without offset). -/
theorem label_target_line_spelling_independent (lead g w1 w2 w3 w4 tr : List Char)
    (hle : ∀ c ∈ lead, isWs c = true) (hg : ∀ c ∈ g, isWs c = true) (hgne : g ≠ [])
    (h1 : ∀ c ∈ w1, isWs c = true) (h2 : ∀ c ∈ w2, isWs c = true) (h3 : ∀ c ∈ w3, isWs c = true)
    (h4 : ∀ c ∈ w4, isWs c = true) (htr : ∀ c ∈ tr, isWs c = true) (sel : Nat → Bool) (op : Op)
    (h : op.ty = .b) (a b : Nat) (ha : a < 32) (hb : b < 32) (s1 s2 : RegStyle) (lab : List Char)
    (hl : IsLabel lab) (o : OffSp) (ho : OffOk o) :
    parseLine (lead ++ (recase sel op.mnemonic.toList ++ (g ++ (regSp s1 a ++ (w1 ++ ',' :: (w2 ++ (regSp s2 b ++
        (w3 ++ ',' :: (w4 ++ (lab ++ (offTxt o ++ tr)))))))))))
      = some { lbl := none, item := .grp (.btypeLabel op.mnemonic a b (String.ofList lab) (offVal o)) } ∧
    parseLine (lead ++ (recase sel "jal".toList ++ (g ++ (regSp s1 a ++ (w1 ++ ',' :: (w2 ++ (lab ++
        (offTxt o ++ tr))))))))
      = some { lbl := none, item := .grp (.jalLabel a (String.ofList lab) (offVal o)) } :=
  C04SpellVar.label_target_line_with_label (.plain lead) hle sel g w1 w2 w3 w4 tr hg hgne h1 h2 h3 h4 htr op h a b ha hb
    s1 s2 lab hl o ho

/-! ### lines with an in-line label -/

/-- Mnemonics are case-insensitive also behind an in-line label declaration: for `lab:` (a label, any blanks
    before it, before and after the colon) followed by a case variant `w'` of a mnemonic `m` and a rest that is
    empty or starts with an ASCII non-letter that is no digit or underscore, the line is tokenized exactly as
    with the lower-case mnemonic. -/
theorem mnemonic_case_insensitive_labelled_line (ws1 lab ws2 ws3 : List Char)
    (h1 : ∀ c ∈ ws1, isWs c = true) (hl : IsLabel lab) (h2 : ∀ c ∈ ws2, isWs c = true)
    (h3 : ∀ c ∈ ws3, isWs c = true) (m : String) (hm : m ∈ mnWords) (w' rest : List Char)
    (hv : w'.map toLowerAscii = m.toList) (hsep : ∀ c ∈ rest.head?, c.toNat < 128 ∧ isLabelBody c = false) :
    parseLine (ws1 ++ (lab ++ (ws2 ++ ':' :: (ws3 ++ (w' ++ rest)))))
      = parseLine (ws1 ++ (lab ++ (ws2 ++ ':' :: (ws3 ++ (m.toList ++ rest))))) := by
  exact parseLine_labelled_cv ws1 lab ws2 ws3 h1 hl h2 h3 m hm w' rest ⟨hv, (mnWords_low m hm).1⟩ hsep

/-- Whole-line spelling independence behind an in-line label: `lab:` followed by ANY spelling of the
    instruction `i` (as in `line_spelling_independent`) is tokenized as the entry `itemOf i` carrying that label. -/
theorem labelled_line_spelling_independent (ws1 lab ws2 ws3 : List Char) (h1 : ∀ c ∈ ws1, isWs c = true)
    (hl : IsLabel lab) (h2 : ∀ c ∈ ws2, isWs c = true) (h3 : ∀ c ∈ ws3, isWs c = true) (sp : Spelling)
    (i : Instr) (hs : Spellable i) :
    parseLine (ws1 ++ (lab ++ (ws2 ++ ':' :: (ws3 ++ render { sp with lead := [] } i))))
      = some { lbl := some (String.ofList lab), item := itemOf i } := by
  exact C04SpellVar.line_spelling_independent_any_size (.labelled ws1 lab ws2 ws3) ⟨h1, hl, h2, h3⟩ { sp with lead := [] } i
    (spellableF_of_spellable _ i hs)

/-! ### comments, blank lines, indentation -/

/-- `sanitize`, line by line: the entry texts of a source text are, in order, the entries `entryOf l` of those
    of its lines `l` that have one — a line is kept iff it is not blank and its first non-blank character is
    not `#`; its entry is the line up to the first `#`, stripped — and their line numbers strictly increase. -/
theorem sanitize_per_line (text : String) :
    (sanitize text).map (·.2) = (splitLines text.toList).filterMap entryOf ∧
    ((sanitize text).map (·.1)).Pairwise (· < ·) :=
  ⟨sanitize_texts text, ArchSim.Lemmas.C15.sanitize_sorted text⟩

/-- A trailing comment never changes the entry of a line: for `l` without `#`, `l ++ "#" ++ c` has the same
    entry as `l` (none, if `l` is blank). -/
theorem trailing_comment_invisible (l c : List Char) (h : '#' ∉ l) : entryOf (l ++ '#' :: c) = entryOf l :=
  entryOf_comment l c h

/-- Indentation never changes the entry of a line: blanks (any characters `str.isspace` accepts) in front of
    and behind a line do not change its entry; stripping is idempotent. -/
theorem indentation_invisible (a l b : List Char) (ha : ∀ c ∈ a, pyIsSpace c = true)
    (hb : ∀ c ∈ b, pyIsSpace c = true) :
    entryOf (a ++ l ++ b) = entryOf l ∧ pyStrip (pyStrip l) = pyStrip l :=
  ⟨entryOf_indent a l b ha hb, pyStrip_idem l⟩

/-- Blank lines and comment-only lines (indented or not) contribute no entry. -/
theorem blank_and_comment_lines_vanish (a c : List Char) (ha : ∀ d ∈ a, pyIsSpace d = true) :
    entryOf a = none ∧ entryOf (a ++ '#' :: c) = none :=
  ⟨entryOf_blank a ha, entryOf_commentLine a c ha⟩

/-- Comments, blank lines and indentation never change the result. If two source texts have the same entry
    texts in the same order (`entryTexts`: the line numbers may differ arbitrarily) and one of them loads
    without error, then loading the other one gives EXACTLY the same result: same instruction list, same data
    image, same state, no error. -/
theorem comments_blank_lines_indentation (s : St) (t1 t2 : String) (h : entryTexts t1 = entryTexts t2)
    (hok : (load s t1).err = none) : load s t2 = load s t1 :=
  load_same_entries s t1 t2 h hok

/-- Hence the two texts load successfully or fail together. -/
theorem same_entries_same_success (s : St) (t1 t2 : String) (h : entryTexts t1 = entryTexts t2) :
    (load s t1).err = none ↔ (load s t2).err = none := by
  constructor
  · intro hok; rw [load_same_entries s t1 t2 h hok]; exact hok
  · intro hok; rw [load_same_entries s t2 t1 h.symm hok]; exact hok

/-- For a text given by its lines (joined with "\n"; lines without line breaks), the entry texts are those of
    the lines that have one. Together with `trailing_comment_invisible`, `indentation_invisible`,
    `blank_and_comment_lines_vanish` (under which `ls.filterMap entryOf` stays the same) and
    `comments_blank_lines_indentation`: inserting or deleting blank lines and comment lines, adding or removing
    trailing comments, and re-indenting lines never changes the result. -/
theorem entry_texts_of_lines (ls : List (List Char)) (hnb : ∀ l ∈ ls, ∀ c ∈ l, isLineBreak c = false) :
    entryTexts (joinLines ls) = ls.filterMap entryOf :=
  entryTexts_joinLines ls hnb

/-! ### non-vacuity -/

/-- `a0` followed by a comma is register 10; `fp` and `s0` are both register 8, like `x8`. -/
example : pReg "a0, x1".toList = .ok 10 ", x1".toList ∧
    pReg "fp)".toList = .ok 8 [')'] ∧ pReg "\t s0)".toList = .ok 8 [')'] ∧ pReg " x8)".toList = .ok 8 [')'] := by
  -- the strings are split by the kernel: unifying them with `ws ++ (name ++ rest)` unfolds the string literals
  rw [show "a0, x1".toList = "a0".toList ++ ", x1".toList by decide +kernel,
    show "fp)".toList = [] ++ ("fp".toList ++ [')']) by decide +kernel,
    show "\t s0)".toList = ['\t', ' '] ++ ("s0".toList ++ [')']) by decide +kernel,
    show " x8)".toList = [' '] ++ (("x" ++ toString 8).toList ++ [')']) by decide +kernel]
  exact ⟨abi_register "a0" 10 (by decide +kernel) _ (by intro h; exact absurd h (by decide +kernel)),
    (register_names_interchangeable "fp" 8 (by decide +kernel) [] [] [')'] (by decide +kernel) (by decide +kernel) (by decide +kernel)).1,
    (register_names_interchangeable "s0" 8 (by decide +kernel) ['\t', ' '] [] [')'] (by decide +kernel) (by decide +kernel) (by decide +kernel)).1,
    (register_names_interchangeable "s0" 8 (by decide +kernel) [] [' '] [')'] (by decide +kernel) (by decide +kernel) (by decide +kernel)).2⟩

/-- `-0x00fF`, `0b100` and `-16` are read as -255, 4 and -16; `007` is rejected. -/
example : pImm " -0x00fF,".toList = .ok (-255) [','] ∧ pImm "0b100".toList = .ok 4 [] ∧
    pImm "-16)".toList = .ok (-16) [')'] ∧ pImm "007".toList = .fail := by
  rw [show " -0x00fF,".toList = [' '] ++ ((if true then ['-'] else []) ++ '0' :: 'x' :: ("00fF".toList ++ [','])) by
      decide +kernel,
    show "0b100".toList = [] ++ ((if false then ['-'] else []) ++ '0' :: 'b' :: ("100".toList ++ [])) by decide +kernel,
    show "-16)".toList = [] ++ ((if true then ['-'] else []) ++ ("16".toList ++ [')'])) by decide +kernel,
    show "007".toList = (if false then ['-'] else []) ++ ("007".toList ++ []) by decide +kernel]
  refine ⟨?_, ?_, ?_, ?_⟩
  · exact numeral_hex true "00fF".toList [' '] [','] (by decide) (by decide) (by decide) (by decide)
  · exact numeral_bin false "100".toList [] [] (by decide) (by decide) (by decide) (by decide)
  · exact numeral_dec true "16".toList [] [')'] (by decide) (by decide) (by decide) (by decide) (by decide)
      (by decide)
  · exact numeral_dec_leading_zero_rejected false "007".toList [] (by decide) (by decide) (by decide) (by decide)

/-- The spellings used below are concrete strings. -/
example : render spAddi iAddi = "  addi\tsp , sp , -0x10  ".toList ∧
    render spBeq iBeq = "bEq zero, ra, 0b100".toList ∧ render spLw iLw = "LW\ta0 , 0x1F ( fp )".toList ∧
    render {} iLw = "lw x10, 31(x8)".toList :=
  ⟨render_examples.1, render_examples.2.1, render_examples.2.2, by decide +kernel⟩

/-- The instructions of the examples satisfy the hypothesis of `line_spelling_independent`, so each of the
    three lines above is tokenized as the tree of its instruction. -/
example : parseLine "  addi\tsp , sp , -0x10  ".toList = some { lbl := none, item := .grp (.rri "addi" 2 2 (-16)) } ∧
    parseLine "bEq zero, ra, 0b100".toList = some { lbl := none, item := .grp (.rri "beq" 0 1 4) } ∧
    parseLine "LW\ta0 , 0x1F ( fp )".toList = some { lbl := none, item := .grp (.mem "lw" 10 31 8) } := by
  have h1 := line_spelling_independent spAddi iAddi
    (spellable_small _ (by decide) (by decide) (by decide) (by decide) (by decide) (by decide))
  have h2 := line_spelling_independent spBeq iBeq
    (spellable_small _ (by decide) (by decide) (by decide) (by decide) (by decide) (by decide))
  have h3 := line_spelling_independent spLw iLw
    (spellable_small _ (by decide) (by decide) (by decide) (by decide) (by decide) (by decide))
  rw [render_examples.1] at h1
  rw [render_examples.2.1] at h2
  rw [render_examples.2.2] at h3
  exact ⟨h1, h2, h3⟩

/-- `mnemonic_case_insensitive_line` applies to `  bEq zero, ra, 0b100`. -/
example : parseLine "  bEq zero, ra, 0b100".toList = parseLine "beq zero, ra, 0b100".toList := by
  -- the lines are split by the kernel: unifying them with `ws ++ (w' ++ rest)` unfolds the string literals
  rw [show "  bEq zero, ra, 0b100".toList = "  ".toList ++ ("bEq".toList ++ " zero, ra, 0b100".toList) by
      decide +kernel,
    show "beq zero, ra, 0b100".toList = "beq".toList ++ " zero, ra, 0b100".toList by decide +kernel]
  exact mnemonic_case_insensitive_line "beq" (by decide +kernel) "  ".toList "bEq".toList " zero, ra, 0b100".toList
    (by decide +kernel) (by decide +kernel) (by decide +kernel) (by decide +kernel)

/-- A text with a comment line, blank lines, indentation and a trailing comment
    (`"# demo\n\n  ADDI a0, zero, 0x10   # set\n\tsw a0, 0b100(sp)\n\n"`) loads to exactly the same result as the
    cleaned two-line text (`"ADDI a0, zero, 0x10\nsw a0, 0b100(sp)"`), which loads without error to the program
    `addi x10, x0, 16; sw x10, 4(x2)`: hypotheses of `program_spelling_independent` and of
    `comments_blank_lines_indentation`. -/
example (s : St) : (load s tClean).err = none ∧ (load s tClean).st.imem.prog = exProg ∧
    load s tMessy = load s tClean := by
  have h := program_spelling_independent s exLines (by decide +kernel) exProg [spL1, spL2]
    (by decide +kernel) rfl exProg_canon exProg_aux (by decide)
  rw [show joinLines exLines = tClean by decide +kernel] at h
  exact ⟨h.1, h.2, comments_blank_lines_indentation s tClean tMessy (by decide +kernel) h.1⟩

/-- Line-by-line reading of the messy text: the comment line and the blank lines have no entry, the two
    instruction lines have the entries of the cleaned lines. -/
example : entryOf "# demo".toList = none ∧ entryOf [] = none ∧
    entryOf "  ADDI a0, zero, 0x10   # set".toList = some "ADDI a0, zero, 0x10".toList ∧
    entryOf "\tsw a0, 0b100(sp)".toList = some "sw a0, 0b100(sp)".toList := by
  decide +kernel

/-- `spelled_line_entry` applies to the indented line with a trailing comment. -/
example : entryOf (render { spL1 with lead := [false, false], trail := [false, false, false] }
      { op := .addi, rd := 10, rs1 := 0, imm := 16 } ++ "# set".toList)
    = some (render spL1 { op := .addi, rd := 10, rs1 := 0, imm := 16 }) :=
  spelled_line_entry _ _ (spellable_small _ (by decide) (by decide) (by decide) (by decide) (by decide) (by decide))
    _ (Or.inr ⟨_, rfl⟩)

/-- A canonical instruction for `spelled_line_roundtrip`: `sw x10, 4(x2)` at address 4. -/
example : ({ op := .sw, rs1 := 2, rs2 := 10, imm := 4 } : Instr).Canon 4 := by
  simp [Instr.Canon, Op.ty]

/-- `labelled_line_spelling_independent` applies to `loop : ADDI a0, zero, 0x10`. -/
example : parseLine "loop : ADDI a0, zero, 0x10".toList
    = some { lbl := some "loop", item := .grp (.rri "addi" 10 0 16) } := by
  have h := labelled_line_spelling_independent [] "loop".toList [' '] [' '] (by decide +kernel)
    isLabel_loop (by decide +kernel) (by decide +kernel) spL1
    { op := .addi, rd := 10, rs1 := 0, imm := 16 }
    (spellable_small _ (by decide +kernel) (by decide +kernel) (by decide +kernel) (by decide +kernel) (by decide +kernel) (by decide +kernel))
  rw [show ([] : List Char) ++ ("loop".toList ++ ([' '] ++ ':' :: ([' '] ++ render { spL1 with lead := [] }
      { op := .addi, rd := 10, rs1 := 0, imm := 16 }))) = "loop : ADDI a0, zero, 0x10".toList by decide +kernel] at h
  exact h

/-- The hypotheses of `label_target_line_spelling_independent` for `BNE a0, zero, loop + 0x0C`: a label, an
    offset text with a blank on both sides of the `+`, value 12. -/
example : IsLabel "loop".toList ∧ OffOk (.some [' '] [' '] "0C".toList) ∧
    offTxt (.some [' '] [' '] "0C".toList) = " + 0x0C".toList ∧ offVal (.some [' '] [' '] "0C".toList) = 12 :=
  ⟨isLabel_loop, offOk_0C,
    by decide +kernel, by decide +kernel⟩

/-- `BNE a0, zero, loop + 0x0C` is tokenized as a branch to `loop` with offset 12; `Li t0 , -0b101` as `li`. -/
example : parseLine "BNE a0, zero, loop + 0x0C".toList
      = some { lbl := none, item := .grp (.btypeLabel "bne" 10 0 "loop" 12) } ∧
    parseLine "Li t0 , -0b101".toList = some { lbl := none, item := .grp (.li 5 (-5)) } := by
  have hs : ∀ c ∈ [' '], isWs c = true := by decide +kernel
  have hn : ∀ c ∈ ([] : List Char), isWs c = true := by decide +kernel
  have h1 := (label_target_line_spelling_independent [] [' '] [] [' '] [] [' '] [] hn hs (by decide +kernel) hn hs hn hs hn
    (fun _ => true) .bne rfl 10 0 (by decide +kernel) (by decide +kernel) .abi .abi "loop".toList
    isLabel_loop (.some [' '] [' '] "0C".toList)
    offOk_0C).1
  have h2 := (pseudo_line_spelling_independent [] [' '] [' '] [' '] [] hn hs (by decide +kernel) hs hs hn
    (fun k => k == 0) 5 0 (-5) (by decide +kernel) (by decide +kernel) (small_natAbs _ (by decide +kernel) (by decide +kernel)) .abi .x (.bin 0)).1
  refine ⟨?_, ?_⟩
  · have e : "BNE a0, zero, loop + 0x0C".toList = [] ++ (recase (fun _ => true) Op.bne.mnemonic.toList ++ ([' '] ++
        (regSp .abi 10 ++ ([] ++ ',' :: ([' '] ++ (regSp .abi 0 ++ ([] ++ ',' :: ([' '] ++ ("loop".toList ++
        (offTxt (.some [' '] [' '] "0C".toList) ++ []))))))))))  := by decide +kernel
    rw [e, h1]
    have : offVal (.some [' '] [' '] "0C".toList) = 12 := by decide +kernel
    rw [this]; rfl
  · have e : "Li t0 , -0b101".toList = [] ++ (recase (fun k => k == 0) "li".toList ++ ([' '] ++ (regSp .abi 5 ++
        ([' '] ++ ',' :: ([' '] ++ (numSp (.bin 0) (-5) ++ [])))))) := by decide +kernel
    rw [e, h2]

end ArchSim.Props.C04Spell
