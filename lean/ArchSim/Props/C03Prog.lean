/-
C03, program-level clause — "Consequently every program produces the same registers, output and exit
code with the data cache enabled as with it disabled, in both pipeline modes."

`sc`, `sf : Rv.St` are the states of the same program run with a data cache and with the flat data
memory.  Vocabulary: `CacheRel`, `StepAccepted` (`Lemmas/C03ProgInit.lean`), `RunAccepted`, `ProgWF`
(`Lemmas/C03ProgFive.lean`), `singleRun` (`Lemmas/C03ProgStep.lean`), `C01.simN n` (`n` calls of the simulation's
`step()`).  Acceptance is always asked of the FLAT run, being a property of the program's behaviour with the
cache disabled; cycles, data-cache counters, stalls and flushes are not compared.
-/
import ArchSim.Lemmas.C03ProgEx
import ArchSim.Lemmas.C03ProgFive
import ArchSim.Props.C02

namespace ArchSim.Props.C03Prog
open ArchSim ArchSim.Cache ArchSim.Mem ArchSim.Rv ArchSim.Spec.CacheAbs ArchSim.Spec.TagCache
open ArchSim.Lemmas.C03Prog

/-! ## The relation holds at power-on -/

/-- Two initial states that differ only in the data memory — a freshly constructed cache system (any
    admissible geometry `g`, LRU or PLRU with a suitable associativity, write-back or write-through,
    any miss penalty) after the parser's `.data` preloads `h` (any list of direct writes) versus the
    flat memory after the same preloads — and in the cycle / stall / flush counters are related. -/
theorem rel_init (s : St) (g : Geo) (hg : GeoOK g) (l : Bool)
    (ha : ArchSim.Lemmas.C09.AssocOK l g.assoc) (wt : Bool) (penalty : Nat)
    (h : List Spec.ByteStore.Op) (c st fl : Nat) :
    CacheRel
      { s with mem := .cached l (preload (DSys.init (polOps l) wt g penalty (Mem.empty riscvCfg)) h) }
      { s with mem := .flat (Spec.ByteStore.run riscvCfg h), cycles := c, stalls := st, flushes := fl } :=
  cacheRel_init s g hg l ha wt penalty h c st fl

/-- What `CacheRel` contains, for reference: related states have the same registers, output, exit code, pc
    and instruction count (fields of the relation) and hence the same `is_done()` verdict (derived). -/
theorem rel_observables {sc sf : St} (h : CacheRel sc sf) :
    sc.regs = sf.regs ∧ sc.output = sf.output ∧ sc.exitCode = sf.exitCode ∧ sc.pc = sf.pc ∧
      sc.instrs = sf.instrs ∧ singleDone sc = singleDone sf :=
  ⟨h.regs, h.output, h.exitCode, h.pc, h.instrs, h.singleDone⟩

/-- Without instruction cache (program of at most 4096 instructions) the instruction `StepAccepted`
    talks about is the one stored at pc. -/
theorem fetched_is_instrAt (s : St) (hc : s.imem.cache = none) (hl : s.imem.prog.length ≤ 4096) :
    fetched s = s.imem.instrAt s.pc := by
  unfold fetched
  cases hi : s.imem.instrAt s.pc with
  | none => rfl
  | some i =>
    have hlt := IMem.instrAt_lt hi
    rw [IMem.fetch_uncached hc hi (by omega)]

/-! ## One single-cycle step -/

/-- One `Pipeline.step()` in single-cycle mode on related states, when the step of the flat run
    performs accepted accesses: both sides report the same fault (none — loads, stores and print-string
    cannot raise here — or one that does not involve the data memory: invalid ecall code, `ebreak` /
    `fence` / CSR, fetch error), and the states afterwards are related again.  Covers every instruction,
    write-back and write-through, hits, misses, evictions and write-backs, and the uncounted display
    re-read after a load. -/
theorem step_preserves_rel {sc sf : St} (h : CacheRel sc sf) (hacc : StepAccepted sf) :
    (singleStep sc).fault = (singleStep sf).fault ∧ CacheRel (singleStep sc).st (singleStep sf).st :=
  (singleStep_sim MRel.memSim (h.toStRel h.mem) hacc).imp_right StRel.toCacheRel

/-! ## Runs in single-cycle mode -/

/-- Any number `n` of single-cycle steps from related states, the first `n` steps of the flat run
    performing accepted accesses: after the `n` steps the registers, output, exit code, pc, instruction
    count and the `is_done()` verdict are equal (indeed the states are related), and each of the `n`
    steps reported the same fault on both sides. -/
theorem cached_run_equals_flat_run {sc sf : St} (h : CacheRel sc sf) (n : Nat)
    (hacc : ∀ j, j < n → StepAccepted (singleRun j sf)) :
    (singleRun n sc).regs = (singleRun n sf).regs ∧
    (singleRun n sc).output = (singleRun n sf).output ∧
    (singleRun n sc).exitCode = (singleRun n sf).exitCode ∧
    (singleRun n sc).pc = (singleRun n sf).pc ∧
    (singleRun n sc).instrs = (singleRun n sf).instrs ∧
    singleDone (singleRun n sc) = singleDone (singleRun n sf) ∧
    CacheRel (singleRun n sc) (singleRun n sf) ∧
    ∀ j, j < n → (singleStep (singleRun j sc)).fault = (singleStep (singleRun j sf)).fault := by
  obtain ⟨hr, hf⟩ := singleRun_rel h n hacc
  exact ⟨hr.regs, hr.output, hr.exitCode, hr.pc, hr.instrs, hr.singleDone, hr, hf⟩

/-- The simulation loop itself (`C01.simN n` = `n` calls of `RiscvSimulation.step()`: no step once
    `is_done()`, stop at the first fault), every state in which the flat loop takes a step (not done)
    performing accepted accesses:
    for every `n` the loop with the data cache reports the same fault (or none) as the loop without,
    and ends with the same registers, output, exit code, pc and instruction count.  In particular a
    program that terminates without cache terminates with cache after the same number of steps with the
    same registers, output and exit code. -/
theorem cached_sim_equals_flat_sim {sc sf : St} (h : CacheRel sc sf)
    (hacc : ∀ j, singleDone (ArchSim.Lemmas.C01.simN j sf).st = false →
      StepAccepted (ArchSim.Lemmas.C01.simN j sf).st) (n : Nat) :
    (ArchSim.Lemmas.C01.simN n sc).fault = (ArchSim.Lemmas.C01.simN n sf).fault ∧
    (ArchSim.Lemmas.C01.simN n sc).st.regs = (ArchSim.Lemmas.C01.simN n sf).st.regs ∧
    (ArchSim.Lemmas.C01.simN n sc).st.output = (ArchSim.Lemmas.C01.simN n sf).st.output ∧
    (ArchSim.Lemmas.C01.simN n sc).st.exitCode = (ArchSim.Lemmas.C01.simN n sf).st.exitCode ∧
    (ArchSim.Lemmas.C01.simN n sc).st.pc = (ArchSim.Lemmas.C01.simN n sf).st.pc ∧
    (ArchSim.Lemmas.C01.simN n sc).st.instrs = (ArchSim.Lemmas.C01.simN n sf).st.instrs ∧
    singleDone (ArchSim.Lemmas.C01.simN n sc).st = singleDone (ArchSim.Lemmas.C01.simN n sf).st ∧
    CacheRel (ArchSim.Lemmas.C01.simN n sc).st (ArchSim.Lemmas.C01.simN n sf).st := by
  obtain ⟨hf, hr'⟩ := simN_sim MRel.memSim n (h.toStRel h.mem) hacc
  have hr := hr'.toCacheRel
  exact ⟨hf, hr.regs, hr.output, hr.exitCode, hr.pc, hr.instrs, hr.singleDone, hr⟩

/-! ## Five-stage mode -/

/-- Related initial states over a well-formed program (`ProgWF`: at most 4096
    supported, well-formed instructions) without instruction cache, the flat initial state satisfying
    C01's state invariant (`StOK`: 32-bit registers, `x0 = 0`, 32-bit pc, well-formed flat RISC-V
    memory), no exit code yet, every step the flat single-cycle run takes before it is done performing
    accepted accesses (`RunAccepted`; nothing is required of instructions behind the exit).
    If the five-stage simulation loop `while not is_done(): step()` (hazard detection on) stops without
    a fault after `nc` cycles with the data cache and after `nf` cycles without it, then the two final
    physical states have the same registers, output, exit code, pc, retired-instruction, branch and
    procedure counts, the final cache system represents the final flat memory (`MRel`), and the two
    runs retired the same sequence of instruction addresses.  Moreover these are the results of the
    single-cycle runs (with and without cache) after the same number `k` of steps, `k` being where the
    single-cycle loop stops: all four configurations agree. -/
theorem five_stage_cached_equals_flat {sc sf : St} (h : CacheRel sc sf) (prog : List Instr)
    (hp : ProgWF prog) (him : sf.imem = { prog := prog, cache := none })
    (hs : ArchSim.Lemmas.C01.StOK sf) (hx : sf.exitCode = none)
    (hacc : RunAccepted sf)
    (nc : Nat) (hrc : Pipe.runOK nc (Pipe.PSt.init sc true))
    (hdc : Pipe.isDone (Pipe.pipeRun nc (Pipe.PSt.init sc true)) = true)
    (hpc : ∀ m, m < nc → Pipe.isDone (Pipe.pipeRun m (Pipe.PSt.init sc true)) = false)
    (nf : Nat) (hrf : Pipe.runOK nf (Pipe.PSt.init sf true))
    (hdf : Pipe.isDone (Pipe.pipeRun nf (Pipe.PSt.init sf true)) = true)
    (hpf : ∀ m, m < nf → Pipe.isDone (Pipe.pipeRun m (Pipe.PSt.init sf true)) = false) :
    (Pipe.pipeRun nc (Pipe.PSt.init sc true)).st.regs = (Pipe.pipeRun nf (Pipe.PSt.init sf true)).st.regs ∧
    (Pipe.pipeRun nc (Pipe.PSt.init sc true)).st.output = (Pipe.pipeRun nf (Pipe.PSt.init sf true)).st.output ∧
    (Pipe.pipeRun nc (Pipe.PSt.init sc true)).st.exitCode = (Pipe.pipeRun nf (Pipe.PSt.init sf true)).st.exitCode ∧
    (Pipe.pipeRun nc (Pipe.PSt.init sc true)).st.pc = (Pipe.pipeRun nf (Pipe.PSt.init sf true)).st.pc ∧
    (Pipe.pipeRun nc (Pipe.PSt.init sc true)).st.instrs = (Pipe.pipeRun nf (Pipe.PSt.init sf true)).st.instrs ∧
    (Pipe.pipeRun nc (Pipe.PSt.init sc true)).st.branches = (Pipe.pipeRun nf (Pipe.PSt.init sf true)).st.branches ∧
    (Pipe.pipeRun nc (Pipe.PSt.init sc true)).st.procs = (Pipe.pipeRun nf (Pipe.PSt.init sf true)).st.procs ∧
    MRel (Pipe.pipeRun nc (Pipe.PSt.init sc true)).st.mem (Pipe.pipeRun nf (Pipe.PSt.init sf true)).st.mem ∧
    Pipe.retireLog nc (Pipe.PSt.init sc true) = Pipe.retireLog nf (Pipe.PSt.init sf true) ∧
    ∃ k, k ≤ nc ∧ k ≤ nf ∧ singleDone (singleRun k sf) = true ∧
      (∀ j, j < k → singleDone (singleRun j sf) = false) ∧
      Pipe.SimP (Pipe.pipeRun nc (Pipe.PSt.init sc true)).st (singleRun k sc) ∧
      Pipe.SimP (Pipe.pipeRun nf (Pipe.PSt.init sf true)).st (singleRun k sf) := by
  obtain ⟨pokf, cohf⟩ := progOK_icoh prog hp him
  obtain ⟨kf, hkf, b, sf2, sf3, sf4, sf5⟩ :=
    ArchSim.Props.C02.final_state sf pokf cohf hx nf hrf hdf hpf
  obtain ⟨kc, hkc, a, sc2, sc3, sc4, _⟩ :=
    ArchSim.Props.C02.final_state sc (by rw [h.imem]; exact pokf) (by rw [h.imem]; exact cohf)
      (by rw [h.exitCode]; exact hx) nc hrc hdc hpc
  -- the flat sequential machine raises nothing before `kf`, so it is the flat single-cycle machine up to
  -- there, and the flat single-cycle run is first done after `kf` steps, none of which raises
  obtain ⟨ef, ff⟩ := flat_follows prog hp sf ⟨him, hs⟩ kf (fun j hj => .inl (sf5 j hj))
  have hndf : ∀ j, j < kf → singleDone (singleRun j sf) = false :=
    fun j hj => by rw [← ef j (by omega)]; exact sf3 j hj
  obtain ⟨hrel, ec, fc⟩ := cached_follows h prog hp him hs hacc kf hndf (fun j hj => (ff j hj).1)
  -- hence the cached sequential machine is first done after `kf` steps as well
  have hk : kc = kf := Pipe.first_true_eq sc2 sf2 sc3 sf3
    (fun j hj => by rw [ec j hj, ef j hj, (hrel j hj).singleDone])
  subst hk
  rw [ec kc (Nat.le_refl _)] at a
  rw [ef kc (Nat.le_refl _)] at b sf2
  have r := hrel kc (Nat.le_refl _)
  refine ⟨?_, ?_, ?_, ?_, ?_, ?_, ?_, ?_, ?_, kc, hkc, hkf, sf2, hndf, a, b⟩
  · rw [a.1.regs, b.1.regs, r.regs]
  · rw [a.1.output, b.1.output, r.output]
  · rw [a.1.exitCode, b.1.exitCode, r.exitCode]
  · rw [a.2, b.2, r.pc]
  · rw [a.1.instrs, b.1.instrs, r.instrs]
  · rw [a.1.branches, b.1.branches, r.branches]
  · rw [a.1.procs, b.1.procs, r.procs]
  · rw [a.1.mem, b.1.mem]; exact r.mem
  · rw [sc4, sf4]
    exact seqTrace_cached_eq_flat sc sf kc ec ef hrel (fun j hj => (fc j hj).2) (fun j hj => (ff j hj).2)

/-- All four configurations, from the flat single-cycle run alone.  Same setting as above, and the
    single-cycle run WITHOUT cache is first done after `k` steps (`is_done()` for the first time), none
    of which raises.  Then both five-stage loops — with the data cache and without — stop without a
    fault after at most `5 * (k + 2)` calls of `step()`, and their final registers, output and exit code
    are those of the flat single-cycle run after its `k` steps; so are (by `cached_run_equals_flat_run`)
    those of the single-cycle run with the cache.  Hence every such program produces the same
    registers, output and exit code with the data cache enabled as with it disabled, in both pipeline
    modes.  (No assumption that the cached runs terminate or are fault-free: this is derived —
    `Pipe.loop_completes` in `Lemmas/C02Conv.lean`, the converse of C02 `final_state`.) -/
theorem program_same_result_all_modes {sc sf : St} (h : CacheRel sc sf) (prog : List Instr)
    (hp : ProgWF prog) (him : sf.imem = { prog := prog, cache := none })
    (hs : ArchSim.Lemmas.C01.StOK sf) (hx : sf.exitCode = none) (hacc : RunAccepted sf)
    (k : Nat) (hd : singleDone (singleRun k sf) = true)
    (hnd : ∀ j, j < k → singleDone (singleRun j sf) = false)
    (hnf : ∀ j, j < k → (singleStep (singleRun j sf)).fault = none) :
    ∃ nc nf, nc ≤ 5 * (k + 2) ∧ nf ≤ 5 * (k + 2) ∧
      Pipe.runOK nc (Pipe.PSt.init sc true) ∧ Pipe.isDone (Pipe.pipeRun nc (Pipe.PSt.init sc true)) = true ∧
      (∀ m, m < nc → Pipe.isDone (Pipe.pipeRun m (Pipe.PSt.init sc true)) = false) ∧
      Pipe.runOK nf (Pipe.PSt.init sf true) ∧ Pipe.isDone (Pipe.pipeRun nf (Pipe.PSt.init sf true)) = true ∧
      (∀ m, m < nf → Pipe.isDone (Pipe.pipeRun m (Pipe.PSt.init sf true)) = false) ∧
      (Pipe.pipeRun nc (Pipe.PSt.init sc true)).st.regs = (singleRun k sf).regs ∧
      (Pipe.pipeRun nc (Pipe.PSt.init sc true)).st.output = (singleRun k sf).output ∧
      (Pipe.pipeRun nc (Pipe.PSt.init sc true)).st.exitCode = (singleRun k sf).exitCode ∧
      (Pipe.pipeRun nf (Pipe.PSt.init sf true)).st.regs = (singleRun k sf).regs ∧
      (Pipe.pipeRun nf (Pipe.PSt.init sf true)).st.output = (singleRun k sf).output ∧
      (Pipe.pipeRun nf (Pipe.PSt.init sf true)).st.exitCode = (singleRun k sf).exitCode ∧
      (singleRun k sc).regs = (singleRun k sf).regs ∧
      (singleRun k sc).output = (singleRun k sf).output ∧
      (singleRun k sc).exitCode = (singleRun k sf).exitCode := by
  obtain ⟨pokf, cohf⟩ := progOK_icoh prog hp him
  obtain ⟨hrel, ec, fc⟩ := cached_follows h prog hp him hs hacc k hnd hnf
  obtain ⟨ef, ff⟩ := flat_follows prog hp sf ⟨him, hs⟩ k (fun j hj => .inr (hnf j hj))
  obtain ⟨nc, bc, c1, c2, c3⟩ := Pipe.loop_completes sc (by rw [h.imem]; exact pokf) (by rw [h.imem]; exact cohf) k
    (by rw [ec k (Nat.le_refl _), (hrel k (Nat.le_refl _)).singleDone]; exact hd) (fun j hj => (fc j hj).2)
  obtain ⟨nf, bf, f1, f2, f3⟩ := Pipe.loop_completes sf pokf cohf k (by rw [ef k (Nat.le_refl _)]; exact hd)
    (fun j hj => (ff j hj).2)
  obtain ⟨e1, e2, e3, _, _, _, _, _, _, k', _, _, d', nd', _, b⟩ :=
    five_stage_cached_equals_flat h prog hp him hs hx hacc nc c1 c2 c3 nf f1 f2 f3
  have hk : k' = k := Pipe.first_true_eq d' hd nd' hnd (fun _ _ => rfl)
  subst hk
  have hr := hrel k' (Nat.le_refl _)
  exact ⟨nc, nf, bc, bf, c1, c2, c3, f1, f2, f3, by rw [e1, b.1.regs], by rw [e2, b.1.output],
    by rw [e3, b.1.exitCode], b.1.regs, b.1.output, b.1.exitCode, hr.regs, hr.output, hr.exitCode⟩

/-! ## The restriction to accepted accesses is necessary -/

/-- Without `StepAccepted` the step theorem is FALSE: from related states, a word load that crosses a
    word boundary inside the data range (`lw x3, 1(x5)`, x5 = 0x4000) succeeds on the flat memory and
    raises `ByteOffsetError` on the cached one (`Props.C03.crossing_rejected_read`).  Hence the
    hypothesis `StepAccepted`; the quantifier text of C03 in properties.jsonl has "for all programs of C01 that
    use aligned accesses". -/
theorem unaligned_access_distinguishes :
    ∃ sc sf : St, CacheRel sc sf ∧ ¬ StepAccepted sf ∧ (singleStep sf).fault = none ∧
      (singleStep sc).fault = some (0, .mem (.byteOffset 1 0)) :=
  ⟨Ex.oddSt Ex.cache1 { op := .lw, rd := 3, rs1 := 5, imm := 1 },
   Ex.oddSt Ex.flat1 { op := .lw, rd := 3, rs1 := 5, imm := 1 }, Ex.rel_odd _,
   fun h => absurd ((h { op := .lw, rd := 3, rs1 := 5, imm := 1 } (by decide)).1 (by decide)) (by decide),
   by decide +kernel, by decide +kernel⟩

/-- A print-string that starts below the data range raises on both sides, but not with the same
    error value: the flat memory reports the byte address, the cache the address of the block it tried
    to fetch.  (Both are `MemoryAddressError`s; only the reported address differs.) -/
theorem rejected_print_string_error_differs :
    ∃ sc sf : St, CacheRel sc sf ∧ ¬ StepAccepted sf ∧
      (singleStep sf).fault = some (0, .mem (.addr 16383)) ∧
      (singleStep sc).fault = some (0, .mem (.addr 16380)) := by
  refine ⟨Ex.oddSt Ex.cache1 { op := .ecall }, Ex.oddSt Ex.flat1 { op := .ecall }, Ex.rel_odd _, ?_,
    by decide +kernel, by decide +kernel⟩
  intro h
  obtain ⟨cs, hcs⟩ := (h { op := .ecall } (by decide)).2.2 rfl (by decide)
  have e : (printStrLoop printStrFuel (Ex.oddSt Ex.flat1 { op := .ecall }).mem
      ((Ex.oddSt Ex.flat1 { op := .ecall }).regs 10) []).2 = .error (.addr 16383) := by decide +kernel
  rw [e] at hcs
  cases hcs

/-! ## Non-vacuity -/

section
open ArchSim.Lemmas.C03Prog.Ex

-- the example: `lui x5,4; addi x1,x0,5; sw x1,0(x5); lw x3,0(x5); lbu x2,1(x5); addi a7,x0,10; ecall` on
-- a one-set, one-way, one-word write-back LRU cache (penalty 10) over the empty memory, vs flat memory

-- the initial states are related (instance of `rel_init`)
example : CacheRel sc sf := rel0
example : GeoOK geo1 ∧ ArchSim.Lemmas.C09.AssocOK true geo1.assoc := ⟨geo1_ok, assoc1_ok⟩

-- every step of the flat run performs accepted accesses (hypothesis of `cached_run_equals_flat_run`)
example : ∀ j, j < 7 → StepAccepted (singleRun j sf) := acc7

-- what the two runs compute: same registers and exit code; the cached run pays one miss penalty
-- (the `sw` misses, `lw` and `lbu` hit), so the cycle counters differ — they are not compared
example : (singleRun 7 sc).regs 3 = 5 ∧ (singleRun 7 sf).regs 3 = 5 ∧
    (singleRun 7 sc).exitCode = some 0 ∧ (singleRun 7 sf).exitCode = some 0 ∧
    singleDone (singleRun 7 sc) = true ∧ singleDone (singleRun 6 sc) = false ∧
    (singleRun 7 sc).cycles = 17 ∧ (singleRun 7 sf).cycles = 7 := by decide +kernel

-- five-stage mode: the hypotheses of `five_stage_cached_equals_flat` hold for the example …
example : ProgWF prog ∧ sf.imem = { prog := prog, cache := none } ∧ ArchSim.Lemmas.C01.StOK sf ∧
    sf.exitCode = none ∧ RunAccepted sf := ⟨progWF, rfl, stOK_sf, rfl, runAccepted_sf⟩

-- … both pipelines stop after 15 calls of `step()` without a fault (the miss penalty is added to the
-- cycle counter, it does not add calls), with x3 = 5 and exit code 0; the cycle counters differ
example : Pipe.runOK 15 (Pipe.PSt.init sc true) ∧ Pipe.isDone (Pipe.pipeRun 15 (Pipe.PSt.init sc true)) = true ∧
    (∀ m, m < 15 → Pipe.isDone (Pipe.pipeRun m (Pipe.PSt.init sc true)) = false) ∧
    Pipe.runOK 15 (Pipe.PSt.init sf true) ∧ Pipe.isDone (Pipe.pipeRun 15 (Pipe.PSt.init sf true)) = true ∧
    (∀ m, m < 15 → Pipe.isDone (Pipe.pipeRun m (Pipe.PSt.init sf true)) = false) := by decide +kernel
example : (Pipe.pipeRun 15 (Pipe.PSt.init sc true)).st.regs 3 = 5 ∧
    (Pipe.pipeRun 15 (Pipe.PSt.init sc true)).st.exitCode = some 0 ∧
    (Pipe.pipeRun 15 (Pipe.PSt.init sc true)).st.cycles = 25 ∧
    (Pipe.pipeRun 15 (Pipe.PSt.init sf true)).st.cycles = 15 ∧
    Pipe.retireLog 15 (Pipe.PSt.init sc true) = [0, 4, 8, 12, 16, 20, 24] := by decide +kernel

-- the remaining hypotheses of `program_same_result_all_modes`: the flat single-cycle run is first
-- done after 7 steps, none of which raises
example : singleDone (singleRun 7 sf) = true ∧ (∀ j, j < 7 → singleDone (singleRun j sf) = false) ∧
    (∀ j, j < 7 → (singleStep (singleRun j sf)).fault = none) := by decide +kernel

-- `PrintOK` (print-string stays in the data range) is satisfiable on both kinds of memory system, and
-- fails for a string that starts below the data range
example : PrintOK (.flat (Spec.ByteStore.run riscvCfg strData)) 0x4000 := ⟨['H', 'i'], by decide +kernel⟩
example : PrintOK (.cached true (preload (DSys.init (polOps true) false geo1 10 (Mem.empty riscvCfg)) strData))
    0x4000 := ⟨['H', 'i'], by decide +kernel⟩
example : ¬ PrintOK (.flat (Spec.ByteStore.run riscvCfg strData)) 0x3FFF := by
  rintro ⟨cs, h⟩
  have e : (printStrLoop printStrFuel (.flat (Spec.ByteStore.run riscvCfg strData)) 0x3FFF []).2 =
      .error (.addr 16383) := by decide +kernel
  rw [e] at h
  cases h

end

end ArchSim.Props.C03Prog
