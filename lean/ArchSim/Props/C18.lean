/-
C18 — flat (uncached) data memory = byte-addressed little-endian store.  After any sequence of byte, half-word and word
writes at any (also unaligned) addresses every read returns the composition of the most recently written bytes, zero where
never written; addresses are taken modulo 2^32; an access touching an address below the first data address raises an
address error (a write has then stored the cells before the offending one), and one whose first cell is outside the range
changes nothing.  The TOY memory is the same store with 16-bit cells, 4096 addresses and no wrap-around.

The history-defined cell map `B` and `run` are defined in `ArchSim/Spec/ByteStore.lean`.

All theorems hold for EVERY configuration `Cfg` (any cell width, address width, range, wrap on or
off; no hypothesis `cellBits > 0` is needed), every history, every address
(negative ones included) and every value; the `riscvCfg` and `toyCfg` instances are corollaries.  The last section is about
the memory table `_memory_repr` (`reprKeys`, `reprEntries`): its keys, their order, and what each entry holds.

Vocabulary (from the spec):  `cellOk c a i` = cell `i` of an access at `a` has its wrapped address
inside `[lo, hi)`;  `firstBad c a n` = index of the first cell of an `n`-cell access that is not;
`cellVal c v i` = `i`-th little-endian digit of `v`;  `leSum c n f = Σ_{i<n} f i * 2^(i*cellBits)`.
-/
import ArchSim.Lemmas.C18Repr

namespace ArchSim.Props.C18
open ArchSim.Mem ArchSim.Spec.ByteStore ArchSim.Lemmas.C18

/-! ## The memory after any history of writes is the history-defined cell map -/

/-- A fresh memory reads zero in every in-range cell. -/
theorem empty_reads_zero (c : Cfg) (a : Int) (h : inRange c (wrapAddr c a) = true) :
    readCell (Mem.empty c) a = .ok 0 := by
  simp [readCell, h, Mem.empty]

/-- Writes never change the configuration. -/
theorem run_cfg (c : Cfg) (h : List Op) : (run c h).cfg = c :=
  ArchSim.Lemmas.C18.run_cfg c h

/-- After any history `h` of byte/half-word/word writes (at any addresses, failed and truncated ones
    included) every cell of the model memory holds `B h x`: the value stored last at `x`, 0 if none. -/
theorem run_cells (c : Cfg) (h : List Op) (x : Int) : (run c h).cells x = B c h x := by
  rw [run_eq, applyCells_cells]; rfl

/-- The key list of the memory (the Python dict's keys) is exactly the set of cells the history has
    stored to. -/
theorem run_keys (c : Cfg) (h : List Op) (x : Int) : x ∈ (run c h).keys ↔ written c h x := by
  rw [run_eq, applyCells_keys_mem]
  simp [Mem.empty, written]

/-- The key list never contains a duplicate. -/
theorem run_keys_nodup (c : Cfg) (h : List Op) : (run c h).keys.Nodup :=
  (WF_run c h).keys_nodup

/-- "The history has stored to cell `x`" spelled out: some write in the history has a cell index `i`
    before its first out-of-range cell whose wrapped address is `x`. -/
theorem written_iff (c : Cfg) (h : List Op) (x : Int) :
    written c h x ↔ ∃ bits a v, Op.write bits a v ∈ h ∧
      ∃ i : Nat, i < firstBad c a (cellsOf c bits) ∧ x = wrapAddr c (a + (i : Int)) := by
  simp only [written, List.mem_map, mem_trace]
  constructor
  · rintro ⟨_, ⟨bits, a, v, hop, i, hi, rfl⟩, rfl⟩
    exact ⟨bits, a, v, hop, i, hi, rfl⟩
  · rintro ⟨bits, a, v, hop, i, hi, rfl⟩
    exact ⟨_, ⟨bits, a, v, hop, i, hi, rfl⟩, rfl⟩

/-- The empty history: every cell is 0. -/
theorem B_nil (c : Cfg) (x : Int) : B c [] x = 0 := rfl

/-- Recursion equation of `B`: appending a write leaves a cell it does not store to unchanged. -/
theorem B_snoc_other (c : Cfg) (h : List Op) (bits : Nat) (a : Int) (v : Nat) (x : Int)
    (hx : ∀ i : Nat, i < firstBad c a (cellsOf c bits) → wrapAddr c (a + (i : Int)) ≠ x) :
    B c (h ++ [Op.write bits a v]) x = B c h x := by
  simp only [B, lastVal_eq, trace_append, List.foldl_append]
  apply foldl_pick_not_mem
  simp only [trace, List.flatMap_cons, List.flatMap_nil, List.append_nil, opCells, okIdx_eq_range,
    List.map_map, List.mem_map, List.mem_range, not_exists, not_and]
  exact hx

/-- Recursion equation of `B`: after appending a write, stored cell `i` (before the first
    out-of-range cell, and not overwritten by a later cell of the same write) holds the `i`-th
    little-endian digit of the value. -/
theorem B_snoc_written (c : Cfg) (h : List Op) (bits : Nat) (a : Int) (v : Nat) (i : Nat)
    (hi : i < firstBad c a (cellsOf c bits))
    (hd : ∀ j : Nat, i < j → j < firstBad c a (cellsOf c bits) →
      wrapAddr c (a + (j : Int)) ≠ wrapAddr c (a + (i : Int))) :
    B c (h ++ [Op.write bits a v]) (wrapAddr c (a + (i : Int))) = cellVal c v i := by
  simp only [B, lastVal_eq, trace_append, List.foldl_append]
  simp only [trace, List.flatMap_cons, List.flatMap_nil, List.append_nil, opCells, okIdx_eq_range]
  exact foldl_pick_range _ (fun j => wrapAddr c (a + (j : Int))) (cellVal c v) _ i hi hd

/-- Invariant: every stored cell fits the cell width (each store is reduced `% 2^cellBits`). -/
theorem cell_bound (c : Cfg) (h : List Op) (x : Int) : B c h x < 2 ^ c.cellBits := by
  rw [B, lastVal_eq]
  exact foldl_pick_bound x _ _ 0 (Nat.two_pow_pos _) (trace_val_lt c h)

/-- A cell never stored to reads 0. -/
theorem unwritten_zero (c : Cfg) (h : List Op) (x : Int) (hx : ¬ written c h x) : B c h x = 0 := by
  rw [← run_cells]
  exact (WF_run c h).cells_zero x (fun hk => hx ((run_keys c h x).mp hk))

/-- Only in-range cell addresses are ever stored to. -/
theorem written_inRange (c : Cfg) (h : List Op) (x : Int) (hx : written c h x) : inRange c x = true := by
  have := (WF_run c h).keys_inRange x ((run_keys c h x).mpr hx)
  rwa [run_cfg] at this

/-- The same invariants for any memory reached from any well-formed memory by one `writeN`
    (`WF m`: cells < 2^cellBits, keys duplicate-free and in range, cells outside the keys are 0). -/
theorem wf_preserved (m : Mem) (a : Int) (n v : Nat) (hm : WF m) : WF (writeN m a n v).1 :=
  WF_writeN m a n v hm

/-! ## Reads return the little-endian composition of the last-written cells -/

/-- `readN` on any memory: if all `n` wrapped cell addresses are in range the result is
    `Σ_{i<n} cells(wrap(a+i)) * 2^(i*cellBits)`. -/
theorem readN_compose (m : Mem) (a : Int) (n : Nat) (hok : ∀ i, i < n → cellOk m.cfg a i = true) :
    readN m a n = .ok (leSum m.cfg n (fun i => m.cells (wrapAddr m.cfg (a + (i : Int))))) :=
  readN_ok m a n hok

/-- On any well-formed memory (not necessarily presented as a history) the accessor of width `bits`
    returns the little-endian composition of the stored cells, untruncated: the cells fit the cell width,
    so the final truncation to `bits` bits is a no-op. -/
theorem read_wf (m : Mem) (hm : WF m) (bits : Nat) (a : Int) (hb : m.cfg.cellBits ≤ bits)
    (hok : ∀ i, i < cellsOf m.cfg bits → cellOk m.cfg a i = true) :
    read m bits a =
      some (.ok (leSum m.cfg (cellsOf m.cfg bits) (fun i => m.cells (wrapAddr m.cfg (a + (i : Int)))))) := by
  rw [read_of_le m bits a hb, readN_ok m a _ hok]
  simp only [Except.map]
  rw [leSum_mod_bits m.cfg bits _ (fun i _ => hm.cells_lt _)]

/-- After any history, a read of `bits` bits (`n = bits / cellBits` cells) at any address `a` whose `n`
    wrapped cell addresses are all in range returns `Σ_{i<n} B h (wrap(a+i)) * 2^(i*cellBits)` — the
    composition of the most recently written cells, zero where never written.  (The final truncation
    to `bits` bits is a no-op by `cell_bound`.) -/
theorem read_spec (c : Cfg) (h : List Op) (bits : Nat) (a : Int) (hb : c.cellBits ≤ bits)
    (hok : ∀ i, i < cellsOf c bits → cellOk c a i = true) :
    read (run c h) bits a =
      some (.ok (leSum c (cellsOf c bits) (fun i => B c h (wrapAddr c (a + (i : Int)))))) := by
  have hr := read_wf (run c h) (WF_run c h) bits a (by rw [run_cfg]; exact hb) (by rw [run_cfg]; exact hok)
  rw [run_cfg] at hr
  rw [hr, leSum_congr c _ _ (fun i => B c h (wrapAddr c (a + (i : Int)))) (fun i _ => run_cells c h _)]

/-- The value `read_spec` returns fits `bits` bits. -/
theorem read_spec_lt (c : Cfg) (h : List Op) (bits : Nat) (a : Int) :
    leSum c (cellsOf c bits) (fun i => B c h (wrapAddr c (a + (i : Int)))) < 2 ^ bits :=
  Nat.lt_of_lt_of_le (leSum_lt c _ _ (fun i _ => cell_bound c h _))
    (Nat.pow_le_pow_right (by omega) (cellsOf_mul_le c bits))

/-- An access narrower than a cell is unsupported (`UnsupportedFunctionError`), read and write. -/
theorem narrow_unsupported (m : Mem) (bits : Nat) (a : Int) (v : Nat) (hb : bits < m.cfg.cellBits) :
    read m bits a = none ∧ write m bits a v = none := by
  simp [Mem.read, Mem.write, hb]

/-! ## Little-endian round trip -/

/-- Compose ∘ decompose: `Σ_{i<n} ((v / 2^(i*c)) % 2^c) * 2^(i*c) = v % 2^(n*c)`, for every `n`. -/
theorem le_compose_decompose (c : Cfg) (n v : Nat) :
    leSum c n (cellVal c v) = v % 2 ^ (n * c.cellBits) :=
  leSum_cellVal c n v

/-- Write `n` cells then read them back, for EVERY `n` and every memory: if the `n` wrapped cell
    addresses are in range and pairwise distinct, the read returns `v % 2^(n*cellBits)`
    (`= v` when `v < 2^(n*cellBits)`). -/
theorem le_roundtrip (m : Mem) (a : Int) (n v : Nat)
    (hok : ∀ i, i < n → cellOk m.cfg a i = true)
    (hd : ∀ i j : Nat, i < n → j < n →
      wrapAddr m.cfg (a + (i : Int)) = wrapAddr m.cfg (a + (j : Int)) → i = j) :
    readN (writeN m a n v).1 a n = .ok (v % 2 ^ (n * m.cfg.cellBits)) ∧ (writeN m a n v).2 = none :=
  ⟨roundtrip m a n v hok hd, writeN_all_ok m a n v hok⟩

/-- The wrapped cell addresses of one access are pairwise distinct whenever the memory does not wrap,
    or the access has at most `2^addrBits` cells (always the case in practice). -/
theorem cells_distinct (c : Cfg) (a : Int) (n : Nat)
    (h : c.overflow = false ∨ (n : Int) ≤ (2 : Int) ^ c.addrBits) :
    ∀ i j : Nat, i < n → j < n → wrapAddr c (a + (i : Int)) = wrapAddr c (a + (j : Int)) → i = j := by
  have key : ∀ i j : Nat, j ≤ i → i < n →
      wrapAddr c (a + (i : Int)) = wrapAddr c (a + (j : Int)) → i = j := by
    intro i j hji hi e
    simp only [wrapAddr] at e
    cases hov : c.overflow with
    | false => simp only [hov, Bool.false_eq_true, if_false] at e; omega
    | true =>
      -- `i - j` is a multiple of `2^addrBits` in `[0, 2^addrBits)`
      simp only [hov, if_true] at e
      have hn := h.resolve_left (by simp [hov])
      have e3 := Int.emod_eq_emod_iff_emod_sub_eq_zero.mp e
      rw [show a + (i : Int) - (a + j) = i - j by omega,
        Int.emod_eq_of_lt (by omega) (by omega)] at e3
      omega
  intro i j hi hj e
  rcases Nat.le_total j i with hji | hij
  · exact key i j hji hi e
  · exact (key j i hij hj e.symm).symm

/-- The public accessors: `write_X(a, v)` then `read_X(a)` returns `v % 2^bits` when `bits` is a
    multiple of the cell width, all cells of the access are in range and distinct. -/
theorem write_read (m : Mem) (bits : Nat) (a : Int) (v : Nat)
    (hb : m.cfg.cellBits ≤ bits) (hdvd : m.cfg.cellBits ∣ bits)
    (hok : ∀ i, i < cellsOf m.cfg bits → cellOk m.cfg a i = true)
    (hd : m.cfg.overflow = false ∨ (cellsOf m.cfg bits : Int) ≤ (2 : Int) ^ m.cfg.addrBits) :
    ∃ m', write m bits a v = some (m', none) ∧ read m' bits a = some (.ok (v % 2 ^ bits)) := by
  refine ⟨(writeN m a (cellsOf m.cfg bits) v).1, ?_, ?_⟩
  · rw [write_of_le m bits a v hb, ← writeN_all_ok m a _ v hok]
  · rw [read_of_le _ bits a (by rw [writeN_cfg]; exact hb), writeN_cfg,
      roundtrip m a _ v hok (cells_distinct _ a _ hd)]
    have : cellsOf m.cfg bits * m.cfg.cellBits = bits := Nat.div_mul_cancel hdvd
    simp [Except.map, this]

/-- History form: after any history, a write followed by a read of the same width at the same address
    returns the written value (reduced to the width). -/
theorem read_after_write (c : Cfg) (h : List Op) (bits : Nat) (a : Int) (v : Nat)
    (hb : c.cellBits ≤ bits) (hdvd : c.cellBits ∣ bits)
    (hok : ∀ i, i < cellsOf c bits → cellOk c a i = true)
    (hd : c.overflow = false ∨ (cellsOf c bits : Int) ≤ (2 : Int) ^ c.addrBits) :
    read (run c (h ++ [Op.write bits a v])) bits a = some (.ok (v % 2 ^ bits)) := by
  have hc := run_cfg c h
  obtain ⟨m', hw, hr⟩ := write_read (run c h) bits a v (by rw [hc]; exact hb) (by rw [hc]; exact hdvd)
    (by rw [hc]; exact hok) (by rw [hc]; exact hd)
  rw [run_append]
  simp only [applyOp, hw]
  exact hr

/-- A write (complete or truncated) changes no cell other than the ones it addresses. -/
theorem write_frame (m : Mem) (a : Int) (n v : Nat) (x : Int)
    (hx : ∀ i : Nat, i < n → wrapAddr m.cfg (a + (i : Int)) ≠ x) :
    (writeN m a n v).1.cells x = m.cells x :=
  writeN_cells_other m a n v x hx

/-! ## Addresses are taken modulo 2^addrBits -/

/-- With address overflow enabled, a read at `a + k * 2^addrBits` (any `k : Int`, any `a`, negative
    included) is the read at `a`: same value or same error. -/
theorem wrap_alias_read (m : Mem) (hov : m.cfg.overflow = true) (a k : Int) (n : Nat) :
    readN m (a + k * (2 : Int) ^ m.cfg.addrBits) n = readN m a n :=
  readNFrom_alias m hov a k n 0

/-- With address overflow enabled, a write at `a + k * 2^addrBits` is the write at `a`: same resulting
    memory (cells and key list) and same error. -/
theorem wrap_alias_write (m : Mem) (hov : m.cfg.overflow = true) (a k : Int) (n v : Nat) :
    writeN m (a + k * (2 : Int) ^ m.cfg.addrBits) n v = writeN m a n v :=
  writeNFrom_alias m hov a k n 0 v

/-- The same for the public accessors of every width. -/
theorem wrap_alias (m : Mem) (hov : m.cfg.overflow = true) (a k : Int) (bits v : Nat) :
    read m bits (a + k * (2 : Int) ^ m.cfg.addrBits) = read m bits a ∧
    write m bits (a + k * (2 : Int) ^ m.cfg.addrBits) v = write m bits a v := by
  simp only [Mem.read, Mem.write, wrap_alias_read m hov, wrap_alias_write m hov, and_self]

/-! ## Range errors, truncated writes, no-op outside the range -/

/-- A read one of whose wrapped cell addresses is outside `[lo, hi)` returns the address error
    carrying the FIRST such wrapped address (`j` = index of the first out-of-range cell). -/
theorem range_error_read (m : Mem) (a : Int) (n j : Nat) (hj : j < n)
    (hok : ∀ i, i < j → cellOk m.cfg a i = true) (hbad : cellOk m.cfg a j = false) :
    readN m a n = .error ⟨wrapAddr m.cfg (a + (j : Int))⟩ :=
  readN_err m a n j hj hok hbad

/-- A write whose first out-of-range cell is cell `j` returns the address error carrying that wrapped
    address, and the memory it leaves is exactly the memory after writing the first `j` cells
    (truncated write, as the Python loop does). -/
theorem range_error_write (m : Mem) (a : Int) (n j v : Nat) (hj : j < n)
    (hok : ∀ i, i < j → cellOk m.cfg a i = true) (hbad : cellOk m.cfg a j = false) :
    writeN m a n v = ((writeN m a j v).1, some ⟨wrapAddr m.cfg (a + (j : Int))⟩) :=
  writeN_err m a n j v hj hok hbad

/-- Total form: ANY access touching an out-of-range cell fails, read and write, with the error
    carrying the wrapped address of cell `firstBad`; `firstBad` is the least out-of-range index. -/
theorem range_error (m : Mem) (a : Int) (n v : Nat) (i : Nat) (hi : i < n)
    (hbad : cellOk m.cfg a i = false) :
    firstBad m.cfg a n ≤ i ∧ cellOk m.cfg a (firstBad m.cfg a n) = false ∧
    readN m a n = .error ⟨wrapAddr m.cfg (a + (firstBad m.cfg a n : Nat))⟩ ∧
    (writeN m a n v).2 = some ⟨wrapAddr m.cfg (a + (firstBad m.cfg a n : Nat))⟩ := by
  have hle := firstBad_le_of_bad m.cfg a n i hbad
  have hlt : firstBad m.cfg a n < n := by omega
  exact ⟨hle, (firstBad_spec m.cfg a n).2.2 hlt, by rw [readN_eq, if_pos hlt], by rw [writeN_eq, if_pos hlt]⟩

/-- The public accessors: same statement for `read`/`write` of any supported width. -/
theorem range_error_access (m : Mem) (bits : Nat) (a : Int) (v : Nat) (hb : m.cfg.cellBits ≤ bits)
    (i : Nat) (hi : i < cellsOf m.cfg bits) (hbad : cellOk m.cfg a i = false) :
    read m bits a = some (.error ⟨wrapAddr m.cfg (a + (firstBad m.cfg a (cellsOf m.cfg bits) : Nat))⟩) ∧
    ∃ m', write m bits a v =
      some (m', some ⟨wrapAddr m.cfg (a + (firstBad m.cfg a (cellsOf m.cfg bits) : Nat))⟩) := by
  obtain ⟨_, _, hr, hw⟩ := range_error m a (cellsOf m.cfg bits) v i hi hbad
  rw [read_of_le m bits a hb, write_of_le m bits a v hb, hr]
  exact ⟨rfl, (writeN m a (cellsOf m.cfg bits) v).1, by rw [← hw]⟩

/-- If the FIRST touched cell is out of range (in particular when the access lies entirely outside
    the valid range) the write returns the memory unchanged — cells and key list — and the error. -/
theorem outside_noop (m : Mem) (a : Int) (n v : Nat) (hn : 0 < n) (hbad : cellOk m.cfg a 0 = false) :
    writeN m a n v = (m, some ⟨wrapAddr m.cfg a⟩) :=
  writeN_first_bad m a n v hn hbad

/-- Witness that the restriction to "first cell out of range" is necessary: a word write straddling
    the top of the RISC-V memory raises the address error (for wrapped address 0) AND has already
    stored its first two bytes. -/
theorem straddling_write_stores_prefix :
    (writeN (Mem.empty riscvCfg) 4294967294 4 0xCAFEF00D).2 = some ⟨0⟩ ∧
    (writeN (Mem.empty riscvCfg) 4294967294 4 0xCAFEF00D).1.cells 4294967295 = 0xF0 ∧
    (writeN (Mem.empty riscvCfg) 4294967294 4 0xCAFEF00D).1.keys = [4294967294, 4294967295] := by
  decide +kernel

/-- History form of `outside_noop`: such a write does not change the history-defined map. -/
theorem outside_noop_history (c : Cfg) (h : List Op) (bits : Nat) (a : Int) (v : Nat)
    (hbad : cellOk c a 0 = false) :
    run c (h ++ [Op.write bits a v]) = run c h := by
  -- the operation stores no cell: its first bad cell is cell 0
  rw [run_append, applyOp_eq, run_cfg, opCells, okIdx_eq_range,
    Nat.le_zero.mp (firstBad_le_of_bad c a _ 0 hbad)]
  rfl

/-! ## The two concrete memories -/

/-- RISC-V: addresses are taken modulo 2^32 (reads and writes of every width, any `k`, negative `a`). -/
theorem riscv_wrap_alias (m : Mem) (hc : m.cfg = riscvCfg) (a k : Int) (bits v : Nat) :
    read m bits (a + k * 4294967296) = read m bits a ∧
    write m bits (a + k * 4294967296) v = write m bits a v := by
  have := wrap_alias m (by rw [hc]; rfl) a k bits v
  rw [hc] at this
  simpa [riscvCfg] using this

/-- RISC-V: an access (byte, half-word, word; read or write) touching an address whose wrapped value
    is below the first data address 16384 raises an address error. -/
theorem riscv_below_data_error (m : Mem) (hc : m.cfg = riscvCfg) (bits : Nat) (hb : 8 ≤ bits)
    (a : Int) (v : Nat) (i : Nat) (hi : i < bits / 8) (hlow : (a + (i : Int)) % 4294967296 < 16384) :
    (∃ e, read m bits a = some (.error e) ∧ e.address < 16384) ∧
    (∃ m' e, write m bits a v = some (m', some e) ∧ e.address < 16384) := by
  have hbad : cellOk m.cfg a i = false := by
    rw [hc, Bool.eq_false_iff, ne_eq, riscv_cellOk_iff]; omega
  have hi' : i < cellsOf m.cfg bits := by rw [hc]; exact hi
  obtain ⟨hr, m', hw⟩ := range_error_access m bits a v (by rw [hc]; exact hb) i hi' hbad
  obtain ⟨_, hfb, _, _⟩ := range_error m a (cellsOf m.cfg bits) v i hi' hbad
  have hlt : (wrapAddr m.cfg (a + (firstBad m.cfg a (cellsOf m.cfg bits) : Nat))) < 16384 := by
    rw [hc] at hfb ⊢
    rw [Bool.eq_false_iff, ne_eq, riscv_cellOk_iff] at hfb
    rw [riscv_wrap]; omega
  exact ⟨⟨_, hr, hlt⟩, ⟨m', _, hw, hlt⟩⟩

/-- RISC-V: byte / half-word / word write then read at any address whose bytes all lie in the data
    range returns the value (mod 2^bits); unaligned addresses included. -/
theorem riscv_roundtrip (m : Mem) (hc : m.cfg = riscvCfg) (bits : Nat)
    (hbits : bits = 8 ∨ bits = 16 ∨ bits = 32) (a : Int) (v : Nat)
    (hok : ∀ i : Nat, i < bits / 8 → 16384 ≤ (a + (i : Int)) % 4294967296) :
    ∃ m', write m bits a v = some (m', none) ∧ read m' bits a = some (.ok (v % 2 ^ bits)) := by
  apply write_read m bits a v
  · rw [hc]; show 8 ≤ bits; omega
  · rw [hc]; show 8 ∣ bits; rcases hbits with rfl | rfl | rfl <;> decide
  · rw [hc]; intro i hi; rw [riscv_cellOk_iff]; exact hok i hi
  · right; rw [hc]; show ((bits / 8 : Nat) : Int) ≤ 4294967296
    rcases hbits with rfl | rfl | rfl <;> decide

/-- TOY: every address from 4096 up and every negative address give the address error (16-bit access), and the
    write leaves the memory unchanged. -/
theorem toy_outside_error (m : Mem) (hc : m.cfg = toyCfg) (a : Int) (v : Nat)
    (ha : a < 0 ∨ 4096 ≤ a) :
    read m 16 a = some (.error ⟨a⟩) ∧ write m 16 a v = some (m, some ⟨a⟩) := by
  have hbad : cellOk m.cfg a 0 = false := by
    rw [hc, Bool.eq_false_iff, ne_eq, toy_cellOk_iff]; omega
  have hn : cellsOf m.cfg 16 = 1 := by rw [hc]; rfl
  have hw : wrapAddr m.cfg a = a := by rw [hc, toy_wrap]
  constructor
  · simp only [Mem.read, hn]
    rw [range_error_read m a 1 0 (by omega) (fun i hi => absurd hi (Nat.not_lt_zero _)) hbad]
    simp [hc, toyCfg, Except.map, wrapAddr]
  · simp only [Mem.write, hn]
    rw [outside_noop m a 1 v (by omega) hbad, hw]
    simp [hc, toyCfg]

/-- TOY: there is no wrap-around: address `a + 4096` is not an alias of `a`. -/
theorem toy_no_wrap (m : Mem) (hc : m.cfg = toyCfg) (a : Int) (ha : 0 ≤ a ∧ a < 4096) :
    read m 16 (a + 4096) = some (.error ⟨a + 4096⟩) ∧ read m 16 a = some (.ok (m.cells a % 65536)) := by
  refine ⟨(toy_outside_error m hc (a + 4096) 0 (by omega)).1, ?_⟩
  have hn : cellsOf m.cfg 16 = 1 := by rw [hc]; rfl
  simp only [Mem.read, hn, toy_readN_one m hc a ha.1 ha.2]
  simp [hc, toyCfg, Except.map]

/-- TOY: a 16-bit write then read at `0 ≤ a < 4096` returns `v % 65536`; 8-bit accesses are
    unsupported. -/
theorem toy_roundtrip (m : Mem) (hc : m.cfg = toyCfg) (a : Int) (v : Nat) (ha : 0 ≤ a ∧ a < 4096) :
    (∃ m', write m 16 a v = some (m', none) ∧ read m' 16 a = some (.ok (v % 65536))) ∧
    read m 8 a = none ∧ write m 8 a v = none := by
  refine ⟨?_, narrow_unsupported m 8 a v (by rw [hc]; decide)⟩
  apply write_read m 16 a v
  · rw [hc]; decide
  · rw [hc]; exact Nat.dvd_refl _
  · rw [hc]; intro i hi
    have : i = 0 := by simp only [cellsOf, toyCfg] at hi; omega
    subst this; rw [toy_cellOk_iff]; omega
  · left; rw [hc]; rfl

/-! ## The memory table -/

/-- The table's keys are exactly the aligned addresses `a - a % k` of the stored keys
    (`k = bits / cellBits`). -/
theorem reprKeys_mem (m : Mem) (bits : Nat) (x : Int) :
    x ∈ reprKeys m bits ↔ ∃ a, a ∈ m.keys ∧ x = a - a % (cellsOf m.cfg bits : Int) :=
  Lemmas.C18.reprKeys_mem m bits x

/-- Each table key appears once. -/
theorem reprKeys_nodup (m : Mem) (bits : Nat) : (reprKeys m bits).Nodup :=
  reprKeysAux_nodup _ _ _ List.nodup_nil

/-- The table's keys come in first-seen order: they are the aligned stored keys with later duplicates
    erased. -/
theorem reprKeys_first_seen (m : Mem) (bits : Nat) :
    reprKeys m bits = (m.keys.map (fun a => a - a % (cellsOf m.cfg bits : Int))).eraseDups := by
  rw [reprKeys, reprKeysAux_eq_loop]
  rfl

/-- If every table key can be read, the table lists, for each key in order, the value `readN`
    returns there (truncated to `bits` bits). -/
theorem reprEntries_ok (m : Mem) (bits : Nat) (f : Int → Nat)
    (h : ∀ a, a ∈ reprKeys m bits → readN m a (cellsOf m.cfg bits) = .ok (f a)) :
    reprEntries m bits = .ok ((reprKeys m bits).map (fun a => (a, f a % 2 ^ bits))) := by
  rw [reprEntries_eq]
  exact foldr_entryStep_ok m bits f _ h

/-- Conversely, a table that is returned has exactly the table keys in order, each paired with the
    value `readN` returns at that key. -/
theorem reprEntries_sound (m : Mem) (bits : Nat) (r : List (Int × Nat))
    (h : reprEntries m bits = .ok r) :
    r.map Prod.fst = reprKeys m bits ∧
      ∀ p, p ∈ r → ∃ v, readN m p.1 (cellsOf m.cfg bits) = .ok v ∧ p.2 = v % 2 ^ bits :=
  Lemmas.C18.reprEntries_sound h

/-- The table fails only with the address error of the read of one of its keys. -/
theorem reprEntries_error (m : Mem) (bits : Nat) (e : AddrErr) (h : reprEntries m bits = .error e) :
    ∃ a, a ∈ reprKeys m bits ∧ readN m a (cellsOf m.cfg bits) = .error e :=
  Lemmas.C18.reprEntries_error h

/-- RISC-V after any history: the byte / half-word / word / double-word table never fails, and each
    entry is the little-endian composition of the history-defined bytes of its aligned block. -/
theorem riscv_reprEntries (h : List Op) (bits : Nat)
    (hbits : bits = 8 ∨ bits = 16 ∨ bits = 32 ∨ bits = 64) :
    reprEntries (run riscvCfg h) bits =
      .ok ((reprKeys (run riscvCfg h) bits).map (fun a =>
        (a, leSum riscvCfg (bits / 8) (fun i => B riscvCfg h (wrapAddr riscvCfg (a + (i : Int))))))) := by
  rw [riscv_reprEntries_wf _ (run_cfg riscvCfg h) (WF_run riscvCfg h) bits hbits]
  refine congrArg Except.ok (List.map_congr_left fun a _ => ?_)
  congr 1
  exact leSum_congr _ _ _ _ (fun i _ => run_cells riscvCfg h _)

/-- TOY after any history: the 16-bit table never fails; its keys are the stored addresses in
    insertion order and each entry is the last value written there. -/
theorem toy_reprEntries (h : List Op) :
    reprKeys (run toyCfg h) 16 = (run toyCfg h).keys ∧
    reprEntries (run toyCfg h) 16 = .ok ((run toyCfg h).keys.map (fun a => (a, B toyCfg h a))) := by
  obtain ⟨hkeys, he⟩ := toy_reprEntries_wf (run toyCfg h) (run_cfg toyCfg h) (WF_run toyCfg h)
  refine ⟨hkeys, ?_⟩
  rw [he]
  exact congrArg Except.ok (List.map_congr_left fun a _ => by rw [run_cells])

/-! ## Non-vacuity: concrete instances of the hypotheses and of the statements -/

-- hypotheses of `read_spec`, `le_roundtrip`, `riscv_roundtrip`: all four bytes of an unaligned word in range
example : ∀ i, i < cellsOf riscvCfg 32 → cellOk riscvCfg 16386 i = true := by
  intro i hi; rw [riscv_cellOk_iff]; simp only [cellsOf, riscvCfg] at hi; omega
-- … and distinct
example : riscvCfg.overflow = false ∨ ((cellsOf riscvCfg 32 : Nat) : Int) ≤ (2 : Int) ^ riscvCfg.addrBits := by
  right; decide
-- hypotheses of `range_error_read/write` with j = 2: a word at 2^32-2 has two good bytes, then wraps to 0
example : (∀ i, i < 2 → cellOk riscvCfg 4294967294 i = true) ∧ cellOk riscvCfg 4294967294 2 = false := by
  constructor
  · intro i hi; rw [riscv_cellOk_iff]; omega
  · decide
-- hypothesis of `outside_noop`
example : cellOk riscvCfg 100 0 = false ∧ cellOk toyCfg 4096 0 = false ∧ cellOk toyCfg (-1) 0 = false := by
  decide +kernel
-- the history-defined map and the model agree on concrete cells (instances of `run_cells`), the
-- truncated write stored exactly two bytes, the failing write nothing
example : B riscvCfg exHist 16387 = 0xAA ∧ B riscvCfg exHist 16384 = 0xEF ∧ B riscvCfg exHist 16385 = 0x02
    ∧ B riscvCfg exHist 16386 = 0x01 ∧ B riscvCfg exHist 4294967295 = 0xF0 ∧ B riscvCfg exHist 100 = 0 := by
  decide +kernel
example : (run riscvCfg exHist).keys = [16386, 16387, 16388, 16389, 16384, 16385, 4294967294, 4294967295] := by
  decide +kernel
-- an instance of `read_spec`: an aligned word read composes bytes written by three different writes
example : ArchSim.Mem.read (run riscvCfg exHist) 32 16384 = some (.ok 0xAA0102EF) := rfl
-- hypothesis of `wrap_alias*`
example : riscvCfg.overflow = true := rfl
-- the memory table of that history (instances of `reprKeys_*`, `riscv_reprEntries`)
example : reprKeys (run riscvCfg exHist) 32 = [16384, 16388, 4294967292] := by decide +kernel
example : reprEntries (run riscvCfg exHist) 32 =
    .ok [(16384, 0xAA0102EF), (16388, 0x1122), (4294967292, 0xF00D0000)] := rfl
-- a TOY history
example : B toyCfg [.write 16 4095 0x1FFFF, .write 16 4096 5, .write 8 0 1] 4095 = 0xFFFF
    ∧ (run toyCfg [.write 16 4095 0x1FFFF, .write 16 4096 5, .write 8 0 1]).keys = [4095] := by
  decide +kernel
-- `WF` is satisfiable by a non-empty memory
example : WF (run riscvCfg exHist) := WF_run _ _

end ArchSim.Props.C18
