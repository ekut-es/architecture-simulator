/-
C13, the displayed views of a finished simulation.  `C13.lean` proves that `step()` / `run()` on a simulation that reports
done change nothing of the STATE.  A user sees the state through the getters; with the display layer in the model
(`Model/SimViews.lean`, `Model/CacheViews.lean`) the same can be said of everything that is shown: the instruction listing
with its stage column, the statistics of both caches and both cache tables are unchanged by any number of further
`step()` calls — including the single-stage display register, which is only replaced by a step that executes.
`Shown` / `shown` collect these views in one record; `stepsV` iterates `step()` together with the display register.
-/
import ArchSim.Model.CacheViews
import ArchSim.Lemmas.SimViews
import ArchSim.Lemmas.SimStep

namespace ArchSim.Props.C13Views
open ArchSim ArchSim.SimViews ArchSim.CacheViews

/-- Everything the RISC-V simulation displays about program and caches. -/
structure Shown where
  listing : List ListRow
  dstats  : Option Stats
  istats  : Option Stats
  dtable  : Option (List SetRow)
  itable  : Option (List SetRow)
deriving DecidableEq

def shown (s : Sim.RSim) (before : Option Rv.St) : Shown :=
  { listing := listingOf s before
    dstats := if s.five then fiveDataStats s.p else dataStats s.p.st.mem none
    istats := if s.five then fiveInstrStats s.p else singleInstrStats s.p.st before
    dtable := dataCacheTable s.p.st.mem
    itable := instrCacheTable s.p.st.imem }

/-- `step()` on a finished simulation returns false, leaves the simulation as it is, does not touch the display register,
    and therefore every displayed view is what it was. -/
theorem done_step_shows_the_same (s : Sim.RSim) (before : Option Rv.St) (hd : Sim.isDone s = true) :
    (Sim.step s).ret = false ∧ (Sim.step s).fault = none ∧
    shown (Sim.step s).sim (beforeAfter s before) = shown s before := by
  have h1 := Sim.step_done hd
  have h2 : beforeAfter s before = before := by simp [beforeAfter, hd]
  rw [h1, h2]
  exact ⟨rfl, rfl, rfl⟩

/-- `n` calls of `step()`, the single-stage display register carried along (`beforeAfter`). -/
def stepsV : Nat → Sim.RSim × Option Rv.St → Sim.RSim × Option Rv.St
  | 0, x => x
  | n + 1, (s, b) => stepsV n ((Sim.step s).sim, beforeAfter s b)

/-- Any number of further `step()` calls: the views never change again. -/
theorem done_steps_show_the_same (n : Nat) (s : Sim.RSim) (before : Option Rv.St) (hd : Sim.isDone s = true) :
    stepsV n (s, before) = (s, before) ∧ shown (stepsV n (s, before)).1 (stepsV n (s, before)).2 = shown s before := by
  have h : stepsV n (s, before) = (s, before) := by
    induction n with
    | zero => rfl
    | succ n ih =>
      have h1 : (Sim.step s).sim = s := by rw [Sim.step_done hd]
      have h2 : beforeAfter s before = before := by simp [beforeAfter, hd]
      simp only [stepsV, h1, h2, ih]
  rw [h]
  exact ⟨rfl, rfl⟩

/-- A step that executes in five-stage mode never touches the single-stage display register; a single-stage step that
    executes (not done, no fault) makes it describe the state before the step; a single-stage step that raises leaves
    it unchanged. -/
theorem display_register_rule (s : Sim.RSim) (before : Option Rv.St) :
    (s.five = true → beforeAfter s before = before) ∧
    (s.five = false → Sim.isDone s = false → (Sim.step s).fault = none → beforeAfter s before = some s.p.st) ∧
    (s.five = false → (Sim.step s).fault ≠ none → beforeAfter s before = before) := by
  refine ⟨fun h => by simp [beforeAfter, h], fun h1 h2 h3 => by simp [beforeAfter, h1, h2, h3], fun h1 h3 => ?_⟩
  have : (Sim.step s).fault.isSome = true := by
    cases hf : (Sim.step s).fault with
    | none => exact absurd hf h3
    | some _ => rfl
  simp [beforeAfter, this]

/-! ### non-vacuity: the power-on simulation without program is done -/
example : Sim.isDone { five := true, p := Pipe.PSt.init Asm.freshSt true } = true := by decide +kernel
example : Sim.isDone { five := false, p := Pipe.PSt.init Asm.freshSt true } = true := by decide +kernel

end ArchSim.Props.C13Views
