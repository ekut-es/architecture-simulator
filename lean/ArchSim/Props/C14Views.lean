/-
C14, the DISPLAYED listing — `RiscvSimulation.get_instruction_memory_entries()` as modelled by
`SimViews.listing` (`Model/SimViews.lean`; the driver renders it and the check compares it with the real getter).

The table has one row per stored instruction, row `k`
carries address `4k` (as a number and as `0x` + 8 upper-case hex digits that read back as `4k`) and the printed form of
instruction `k`; these three columns do not depend on the pipeline registers (which only decide the stage column, see
`C17Listing.lean`); each displayed text assembles at the address displayed next to it to the very instruction of the
row; re-assembling the instruction column of the listing of any loaded program whose instructions are printable (no
`fence`, no negative csr number, `jal` targets of at most 4300 digits) reproduces the program, hence the same listing;
and after `write_instruction(4k, i)` row `k` shows `i` and every other row is as before.
-/
import ArchSim.Lemmas.SimViews
import ArchSim.Lemmas.C17ViewsRows
import ArchSim.Props.C14
import ArchSim.Lemmas.E2EEx

namespace ArchSim.Props.C14Views
open ArchSim ArchSim.Rv ArchSim.Asm ArchSim.SimViews ArchSim.Spec.Digits
open ArchSim.Lemmas.SimViews ArchSim.Lemmas.C17Views

/-- The listing has exactly one row per stored instruction, and row `k` shows address `4k`, the address text
    `0x` + hex digits that read back as `4k` (exactly 8 of them while `4k < 2^32`, i.e. for every program that fits the
    instruction memory), and the printed form of instruction `k`. -/
theorem listing_rows (prog : List Instr) (marks : Marks) :
    (listing prog marks).length = prog.length ∧
    ∀ (k : Nat) (i : Instr), prog[k]? = some i → ∃ (row : ListRow) (ds : List Char), (listing prog marks)[k]? = some row ∧
      row.addr = 4 * (k : Int) ∧ row.instr = i.repr ∧
      row.addrText.toList = '0' :: 'x' :: ds ∧ ofDigits 16 ds = some (4 * k) ∧
      (∀ c ∈ ds, isUpperHexDigit c) ∧ (4 * k < 2 ^ 32 → ds.length = 8) := by
  refine ⟨listing_length prog marks, fun k i hk => ?_⟩
  have hs := upHex_spec 8 (4 * k)
  refine ⟨listRow marks k i, (Views.upHex 8 (4 * k)).toList, ?_, rfl, rfl, ?_, hs.1, hs.2.1, fun h => ?_⟩
  · rw [listing_getElem?, hk]; rfl
  · have : (4 * (k : Int)).toNat = 4 * k := by omega
    simp [listRow, Views.addrText, this]
  · exact hs.2.2 (by decide) (by
      have : (16 : Nat) ^ 8 = 2 ^ 32 := by decide
      omega)

/-- Address, address text and instruction text of every row are the same whatever the pipeline registers hold (they
    only decide the stage column). The stored program, the other thing the listing reads, is left alone by a step:
    `Lemmas.C07.step_prog`, `Lemmas.C02Split.singleStep_prog`. -/
theorem listing_text_independent (prog : List Instr) (marks marks' : Marks) :
    (listing prog marks).map (fun r => (r.addr, r.addrText, r.instr)) =
    (listing prog marks').map (fun r => (r.addr, r.addrText, r.instr)) := by
  apply List.ext_getElem?
  intro k
  simp only [List.getElem?_map, listing_getElem?]
  cases prog[k]? <;> simp [listRow]

/-- Each displayed text, assembled at the address displayed in the same row, is the instruction of that row:
    for a canonical instruction other than `fence` at position `k`, the instruction text of row `k` tokenizes as one
    label-free entry from which the back end builds, at address `row.addr` and for any label table, exactly that
    instruction. -/
theorem displayed_row_reassembles (prog : List Instr) (marks : Marks) (k : Nat) (i : Instr)
    (hk : prog[k]? = some i) (hc : i.Canon (4 * (k : Int))) (hf : i.op ≠ .fence) :
    ∃ row tok, (listing prog marks)[k]? = some row ∧
      parseLine row.instr.toList = some tok ∧ tok.lbl = none ∧
      ∀ (ls : Labels) (n : Nat) (line : String), buildInstrs ls [(n, line, tok.item)] row.addr = .ok [i] := by
  obtain ⟨tok, h1, h2, h3⟩ := C14.repr_roundtrip i (4 * (k : Int)) hc hf
  refine ⟨listRow marks k i, tok, ?_, h1, h2, h3⟩
  rw [listing_getElem?, hk]; rfl

/-- Re-assembling the displayed listing of any loaded program reproduces the same program and therefore the same
    listing (`C14.loaded_listing_fixpoint`, stated on the table the simulator shows): if `load s text` succeeds and every
    stored instruction is printable, then the instruction column of the listing, joined by newlines and loaded into
    any simulator state `s'`, is accepted, stores exactly the same program, and the listing displayed then has the same
    addresses, address texts and instruction texts as before. -/
theorem displayed_listing_reassembles (s s' : St) (text : String) (marks marks' : Marks)
    (h : (load s text).err = none)
    (hp : ∀ i ∈ (load s text).st.imem.prog, i.op ≠ .fence ∧ (i.op.ty = .csr ∨ i.op.ty = .csri → 0 ≤ i.aux) ∧
      (i.op = .jal → i.aux.natAbs < 10 ^ 4300)) :
    let shown := String.intercalate "\n" ((listing (load s text).st.imem.prog marks).map (·.instr))
    (load s' shown).err = none ∧
    (load s' shown).st.imem.prog = (load s text).st.imem.prog ∧
    (listing (load s' shown).st.imem.prog marks').map (fun r => (r.addr, r.addrText, r.instr)) =
      (listing (load s text).st.imem.prog marks).map (fun r => (r.addr, r.addrText, r.instr)) := by
  intro shown
  have hshown : shown = String.intercalate "\n" ((load s text).st.imem.prog.map Instr.repr) := by
    show String.intercalate "\n" _ = _
    rw [listing_instrs]
  obtain ⟨h1, h2⟩ := C14.loaded_listing_fixpoint s s' text _ h rfl hp
  rw [hshown]
  refine ⟨h1, h2, ?_⟩
  rw [h2]
  exact listing_text_independent _ _ _

/-- The listing follows the instruction memory: after `write_instruction(4k, i)` (k at most the program length) the
    listing has a row `k` that shows the printed form of `i` at address `4k`, every other row that existed before is
    unchanged, and the table has grown by one row exactly when the instruction was appended. -/
theorem listing_after_write_instruction (im im' : IMem) (k : Nat) (i : Instr) (marks : Marks)
    (h : writeInstr im k i = some im') :
    (listing im'.prog marks)[k]? = some (listRow marks k i) ∧
    (∀ j, j ≠ k → j < im.prog.length → (listing im'.prog marks)[j]? = (listing im.prog marks)[j]?) ∧
    (listing im'.prog marks).length = (if k < im.prog.length then im.prog.length else im.prog.length + 1) := by
  revert h
  fun_cases writeInstr im k i <;> intro h <;> cases h
  case case1 hk =>
    refine ⟨?_, fun j hj hjl => ?_, ?_⟩
    · simp [listing_getElem?, hk]
    · simp [listing_getElem?, Ne.symm hj]
    · simp [listing_length, hk]
  case case2 hk hk2 =>
    refine ⟨?_, fun j hj hjl => ?_, ?_⟩
    · simp [listing_getElem?, hk2]
    · simp [listing_getElem?, List.getElem?_append_left hjl]
    · simp [listing_length, hk]

-- the listing of `addi x1, x0, 5 ; sw x3, 8(x2)` while the first instruction is in ID (addresses and stage column)
example : (listing [{ op := .addi, rd := 1, imm := 5 }, { op := .sw, rs1 := 2, rs2 := 3, imm := 8 }]
      [(some 4, "IF"), (some 0, "ID"), (none, "EX"), (none, "MEM"), (none, "WB")]).map (fun r => (r.addr, r.stage)) =
    [(0, "ID"), (4, "IF")] := by decide +kernel

-- a hypothesis of `displayed_listing_reassembles`: the documented example program loads
example : (load freshSt ArchSim.Lemmas.E2E.Ex.asmText).err = none := ArchSim.Lemmas.E2E.Ex.load_asmText.1

end ArchSim.Props.C14Views
