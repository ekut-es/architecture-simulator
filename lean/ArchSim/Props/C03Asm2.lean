/-
C03 (program-level clause), end to end: reload with a used data cache. `C03Prog.rel_init` (and C12Prog's
`table_rel_init`) are stated for a freshly built cache system. `load_program` applies `DSys.reset` to the data cache it
finds, which keeps the hit / access counters; the relation `CacheRel` (and `MRelT`) never mentions them. This file
states both for `preload (ds.reset …) h` for ANY cache system `ds` of an admissible geometry (any contents, any
counters) and concludes: loading a second program into a simulation whose data cache was used by a first one gives a
state related by `CacheRel` to the flat load of the same text, hence the same registers, output and exit code with and
without the (used) data cache, in both pipeline modes.

`Reloadable l ds` (admissible geometry, associativity suiting the policy `l`, RISC-V lower memory; nothing about
contents or counters) and `flatOf s1` (`s1` with the flat empty RISC-V data memory): `Lemmas/E2ECacheInit.lean`.
-/
import ArchSim.Props.C03Asm
import ArchSim.Props.C12Prog
import ArchSim.Lemmas.E2ECacheInit
import ArchSim.Lemmas.E2E2ReloadEx

namespace ArchSim.Props.C03Asm2
open ArchSim ArchSim.Rv ArchSim.Asm ArchSim.Cache ArchSim.Lemmas.E2E ArchSim.Lemmas.E2E2 ArchSim.Lemmas.C03Prog

/-- `rel_init` (and `table_rel_init`) for a used cache. For ANY reloadable cache system `ds` — any sets, lower-memory
    contents, counters — and any `.data` preload `h`: a state whose data memory is `preload (ds.reset …) h` and the
    same state with the flat memory `run riscvCfg h` (and any cycle / stall / flush counters) are related by
    `CacheRel`, and their data memories by `MRelT ds.wt`. -/
theorem rel_reset_preload (s : St) (l : Bool) (ds : DSys Repl.Pol) (hr : Reloadable l ds)
    (h : List Spec.ByteStore.Op) (c st fl : Nat) :
    CacheRel
      { s with mem := .cached l (Spec.CacheAbs.preload (ds.reset (polOps l)) h) }
      { s with mem := .flat (Spec.ByteStore.run Mem.riscvCfg h), cycles := c, stalls := st, flushes := fl } ∧
    ArchSim.Lemmas.C12Prog.MRelT ds.wt (.cached l (Spec.CacheAbs.preload (ds.reset (polOps l)) h))
      (.flat (Spec.ByteStore.run Mem.riscvCfg h)) :=
  ⟨⟨⟨l, _, _, rfl, rfl, crep_reload l ds hr h⟩, rfl, rfl, rfl, rfl, rfl, rfl, rfl, rfl⟩, mrelT_reload l ds hr h⟩

/-- Let the data memory of `s1` be ANY reloadable cache system `ds` (e.g. the state a first
    program left). Loading ANY text into `s1` and into `flatOf s1` reports the same error and stores the same
    program; the two loaded states are related by `CacheRel`, their data memories by `MRelT ds.wt` (C12Prog: the
    memory table the user sees). -/
theorem reloaded_state_cache_rel (s1 : St) (l : Bool) (ds : DSys Repl.Pol) (hm : s1.mem = .cached l ds)
    (hr : Reloadable l ds) (text : String) :
    (load s1 text).err = (load (flatOf s1) text).err ∧
    (load s1 text).st.imem = (load (flatOf s1) text).st.imem ∧
    CacheRel (load s1 text).st (load (flatOf s1) text).st ∧
    ArchSim.Lemmas.C12Prog.MRelT ds.wt (load s1 text).st.mem (load (flatOf s1) text).st.mem := by
  obtain ⟨h1, h2, h3, h4, _⟩ := load_reload s1 l ds hm hr text
  exact ⟨h1, h2, h3, h4⟩

/-- All four configurations after a reload. Let `s1` have a reloadable (used) data cache, no instruction
    cache, 32-bit registers with `x0 = 0` and a 32-bit pc (`StOK (flatOf s1)`), and not have exited. Load an accepted
    text without CSR / fence / ebreak into `s1` (state `sc`) and into `flatOf s1` (state `sf`). If every step of the
    flat single-cycle run before it is first done performs accepted accesses and that run is first done after `k`
    fault-free steps, then both five-stage loops stop without a fault within `5 * (k + 2)` cycles and all four
    configurations end with the same registers, output and exit code — the old counters and the old contents of the
    cache make no difference. -/
theorem reloaded_same_result_all_modes (s1 : St) (l : Bool) (ds : DSys Repl.Pol) (hm : s1.mem = .cached l ds)
    (hr : Reloadable l ds) (hic : s1.imem.cache = none) (hs : ArchSim.Lemmas.C01.StOK (flatOf s1))
    (hx : s1.exitCode = none) (text : String)
    (sc sf : St) (hsc : sc = (load s1 text).st) (hsf : sf = (load (flatOf s1) text).st)
    (h : (load (flatOf s1) text).err = none) (hsup : AllSupported sf.imem.prog) (hacc : RunAccepted sf)
    (k : Nat) (hd : singleDone (singleRun k sf) = true)
    (hnd : ∀ j, j < k → singleDone (singleRun j sf) = false)
    (hnf : ∀ j, j < k → (singleStep (singleRun j sf)).fault = none) :
    ∃ nc nf, nc ≤ 5 * (k + 2) ∧ nf ≤ 5 * (k + 2) ∧
      Pipe.runOK nc (Pipe.PSt.init sc true) ∧ Pipe.isDone (Pipe.pipeRun nc (Pipe.PSt.init sc true)) = true ∧
      Pipe.runOK nf (Pipe.PSt.init sf true) ∧ Pipe.isDone (Pipe.pipeRun nf (Pipe.PSt.init sf true)) = true ∧
      (Pipe.pipeRun nc (Pipe.PSt.init sc true)).st.regs = (singleRun k sf).regs ∧
      (Pipe.pipeRun nc (Pipe.PSt.init sc true)).st.output = (singleRun k sf).output ∧
      (Pipe.pipeRun nc (Pipe.PSt.init sc true)).st.exitCode = (singleRun k sf).exitCode ∧
      (Pipe.pipeRun nf (Pipe.PSt.init sf true)).st.regs = (singleRun k sf).regs ∧
      (Pipe.pipeRun nf (Pipe.PSt.init sf true)).st.output = (singleRun k sf).output ∧
      (Pipe.pipeRun nf (Pipe.PSt.init sf true)).st.exitCode = (singleRun k sf).exitCode ∧
      (singleRun k sc).regs = (singleRun k sf).regs ∧
      (singleRun k sc).output = (singleRun k sf).output ∧
      (singleRun k sc).exitCode = (singleRun k sf).exitCode := by
  have hrel : CacheRel sc sf := by rw [hsc, hsf]; exact (load_reload s1 l ds hm hr text).2.2.1
  obtain ⟨him, hok, hxe, hwf⟩ := load_named hsf hs (show (flatOf s1).imem.cache = none from hic)
  obtain ⟨nc, nf, b1, b2, c1, c2, _, f1, f2, _, r⟩ := ArchSim.Props.C03Prog.program_same_result_all_modes
    hrel _ ⟨(hwf hsup).1, (hwf hsup).2⟩ him hok (hxe.trans hx) hacc k hd hnd hnf
  exact ⟨nc, nf, b1, b2, c1, c2, f1, f2, r⟩

/-- The simulation loop after a reload (single-cycle mode, no condition on the program). For ANY text loaded into a state
    with a reloadable used data cache and into the same state with the flat empty memory: if every state in which the
    flat loop takes a step performs accepted accesses, then for every `n` the loop with the cache reports the same
    fault (or none) as the loop without, with the same registers, output, exit code, pc and instruction count. -/
theorem reloaded_cached_sim_equals_flat_sim (s1 : St) (l : Bool) (ds : DSys Repl.Pol)
    (hm : s1.mem = .cached l ds) (hr : Reloadable l ds) (text : String)
    (sc sf : St) (hsc : sc = (load s1 text).st) (hsf : sf = (load (flatOf s1) text).st)
    (hacc : ∀ j, singleDone (ArchSim.Lemmas.C01.simN j sf).st = false →
      StepAccepted (ArchSim.Lemmas.C01.simN j sf).st) (n : Nat) :
    (ArchSim.Lemmas.C01.simN n sc).fault = (ArchSim.Lemmas.C01.simN n sf).fault ∧
    (ArchSim.Lemmas.C01.simN n sc).st.regs = (ArchSim.Lemmas.C01.simN n sf).st.regs ∧
    (ArchSim.Lemmas.C01.simN n sc).st.output = (ArchSim.Lemmas.C01.simN n sf).st.output ∧
    (ArchSim.Lemmas.C01.simN n sc).st.exitCode = (ArchSim.Lemmas.C01.simN n sf).st.exitCode ∧
    (ArchSim.Lemmas.C01.simN n sc).st.pc = (ArchSim.Lemmas.C01.simN n sf).st.pc ∧
    (ArchSim.Lemmas.C01.simN n sc).st.instrs = (ArchSim.Lemmas.C01.simN n sf).st.instrs := by
  have hrel : CacheRel sc sf := by rw [hsc, hsf]; exact (load_reload s1 l ds hm hr text).2.2.1
  obtain ⟨h1, h2, h3, h4, h5, h6, _⟩ := ArchSim.Props.C03Prog.cached_sim_equals_flat_sim hrel hacc n
  exact ⟨h1, h2, h3, h4, h5, h6⟩

/-! ### non-vacuity (the used state `usedSt` and the second text `reText` of `Lemmas/E2E2ReloadEx.lean`: the first
program's `lw` has missed in the one-word write-back cache, one access is counted, the block of 0x4000 is resident) -/

section
open ArchSim.Lemmas.E2E2.Ex

/-- Hypotheses of `reloaded_same_result_all_modes` for the example: the used cache is reloadable, no instruction
    cache, `StOK` for the flat counterpart, not exited; the second text loads and is supported; accepted accesses
    along its flat run, which is first done after 1 fault-free step. -/
example : (∃ l ds, usedSt.mem = .cached l ds ∧ Reloadable l ds) ∧ usedSt.imem.cache = none ∧
    ArchSim.Lemmas.C01.StOK (flatOf usedSt) ∧ usedSt.exitCode = none ∧
    (load (flatOf usedSt) reText).err = none ∧ AllSupported (load (flatOf usedSt) reText).st.imem.prog ∧
    RunAccepted (load (flatOf usedSt) reText).st ∧
    singleDone (singleRun 1 (load (flatOf usedSt) reText).st) = true ∧
    (∀ j, j < 1 → singleDone (singleRun j (load (flatOf usedSt) reText).st) = false) ∧
    (∀ j, j < 1 → (singleStep (singleRun j (load (flatOf usedSt) reText).st)).fault = none) := by
  refine ⟨stepHyp_reloadable usedSt_stepHyp, by decide, usedSt_flat_ok, by decide, (load_reText _).1, ?_, ?_, ?_⟩
  · rw [(load_reText _).2]; decide
  · rw [load_reText_flat]; exact runAccepted_reStF
  · rw [load_reText_flat]; decide

/-- The used cache is really used (a resident block, a non-zero counter), and the two runs of the second program
    agree: x1 = 0 in both (the cleared memory, not the stale 7), while the cached run pays the miss penalty. -/
example : ArchSim.Lemmas.C09Prog.dAcc usedSt.mem = 1 ∧
    (singleRun 1 (load usedSt reText).st).regs 1 = 0 ∧
    (singleRun 1 (load (flatOf usedSt) reText).st).regs 1 = 0 ∧
    (singleRun 1 (load usedSt reText).st).cycles = (singleRun 1 (load (flatOf usedSt) reText).st).cycles + 10 := by
  rw [load_reText_used, load_reText_flat]; decide

end

end ArchSim.Props.C03Asm2
