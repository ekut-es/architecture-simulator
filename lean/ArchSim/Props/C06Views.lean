/-
C06, the REPORTED counters of the TOY machine — the counter lines of `ToySimulation.get_performance_metrics_str()` as modelled
by `SimViews.toyMetricsLines` (`Model/SimViews.lean`; compared with the real text at the end of every C06 case).

"Every executed instruction costs two cycles and counts once" (`C06.cycles_two_per_instruction`) is a statement about
counters; a user reads them in the metrics text.  Here: the three lines are label + decimal digits that read back as the
counters, and after `n` whole steps of a running program started with both counters at zero the text shows `n`
instructions and `2n` cycles.  `LineShows` (below) is the predicate of the statements; the digits are read back with
`Lemmas.C17.ofDigits_natStr` (`Lemmas/C17Digits.lean`).
-/
import ArchSim.Lemmas.SimViews
import ArchSim.Props.C06

namespace ArchSim.Props.C06Views
open ArchSim ArchSim.Toy ArchSim.SimViews ArchSim.Spec.Digits ArchSim.Lemmas.SimViews

/-- A metrics line: the label, decimal digits that denote `v`, and the given trailer. -/
def LineShows (line label : String) (v : Nat) (trailer : String) : Prop :=
  ∃ ds : List Char, line = label ++ String.ofList ds ++ trailer ∧ ofDigits 10 ds = some v

/-- The three counter lines of the TOY metrics text, each denoting its counter. -/
theorem toy_metrics_report (t : TSim) :
    ∃ l1 l2 l3, toyMetricsLines t = [l1, l2, l3] ∧
      LineShows l1 "instructions: " t.s.instrs " " ∧ LineShows l2 "cycles: " t.s.cycles "" ∧
      LineShows l3 "branches: " t.s.branches "" := by
  have d := fun n => ArchSim.Lemmas.C17.ofDigits_natStr 10 (by decide) (by decide) n
  exact ⟨_, _, _, rfl, ⟨_, rfl, d _⟩, ⟨_, by simp, d _⟩, ⟨_, by simp, d _⟩⟩

/-- Displayed: a machine at an instruction boundary whose counters are zero, stepped `n` times while it is still
    running, shows `instructions: n` and `cycles: 2n`. -/
theorem toy_metrics_after_steps (t : TSim) (h1 : t.nextCycle = 1) (hi : t.s.instrs = 0) (hc : t.s.cycles = 0) (n : Nat)
    (hrun : isDone (iter stepT n t) = false) :
    ∃ l1 l2 l3, toyMetricsLines (iter stepT n t) = [l1, l2, l3] ∧
      LineShows l1 "instructions: " n " " ∧ LineShows l2 "cycles: " (2 * n) "" := by
  obtain ⟨_, _, h3, _, _, h6⟩ := ArchSim.Props.C06.cycles_two_per_instruction t h1 n
  have hn : (iter stepT n t).s.instrs = n := by rw [h6 hrun, hi]; omega
  have hcy : (iter stepT n t).s.cycles = 2 * n := by rw [hn, hi, hc] at h3; omega
  obtain ⟨l1, l2, l3, he, s1, s2, _⟩ := toy_metrics_report (iter stepT n t)
  exact ⟨l1, l2, l3, he, by rw [← hn]; exact s1, by rw [← hcy]; exact s2⟩

end ArchSim.Props.C06Views
